import Qhttp.Lemmas.ProxyNoLen
import Qhttp.Lemmas.ProxyBad
/-
  C12 — the upstream server answers while the client is still sending: what relaying an answer
  does to the client's socket.

  * A relayed response (`setStatusCode`, `setHeaders`, `writeHeaders`, `write`) touches the
    response side only (`WSame`): nothing the request side reads or decides on changes, the
    history gains `w` observations only.  Every socket invariant of the relay argument is
    insensitive to that (`Mid.wsame`, `RInv.wsame`, `NInv.wsame`).
  * `writeError` (502 for an answer whose head `Parser::parseResponseHeaders` refuses) closes the
    socket (`ClosedS`): from then on nothing is read from the client any more, the history gains
    neither `rd` nor upstream observations (`DRel`).
-/
namespace Qhttp.ProxyL
open Qhttp Proxy Qhttp.C02

theorem isW_eq {o : Obs} (h : Obs.isW o = true) : ∃ b, o = Obs.w b := by
  cases o with
  | w b => exact ⟨b, rfl⟩
  | _ => cases h

theorem isW_facts (l : List Obs) (h : l.all Obs.isW = true) :
    rdsOf l = [] ∧ upBytes l = [] ∧ countEv l = 0 ∧ Obs.reads l = [] ∧ Obs.countP Obs.isHp l = 0 ∧
    Obs.countP Obs.isRcf l = 0 ∧ l.any Obs.isTc = false := by
  have hw : ∀ o ∈ l, ∃ b, o = Obs.w b := fun o ho => isW_eq (List.all_eq_true.mp h o ho)
  have htc : l.any Obs.isTc = false := List.any_eq_false.mpr fun o ho => by
    obtain ⟨b, rfl⟩ := hw o ho
    exact Bool.false_ne_true
  refine ⟨List.filterMap_eq_nil_iff.mpr ?_, List.flatMap_eq_nil_iff.mpr ?_, Obs.countP_eq_zero.mpr ?_,
    List.flatMap_eq_nil_iff.mpr ?_, Obs.countP_eq_zero.mpr ?_, Obs.countP_eq_zero.mpr ?_, htc⟩
  all_goals
    intro o ho
    obtain ⟨b, rfl⟩ := hw o ho
    rfl

theorem isW_walk (evs : List Event) (hl N : Nat) : ∀ (l : List Obs), l.all Obs.isW = true →
    ∀ f hp a, walkL evs hl N l f hp a = true ∧ ∃ a', C02.wst evs l f hp a = (f, hp, a') := by
  intro l
  induction l with
  | nil => intro _ f hp a; exact ⟨rfl, a, rfl⟩
  | cons o l ih =>
    intro h f hp a
    simp only [List.all_cons, Bool.and_eq_true] at h
    obtain ⟨h1, h2⟩ := h
    cases o <;> simp [Obs.isW] at h1
    obtain ⟨w1, a', w2⟩ := ih h2 f hp none
    exact ⟨by simp [walkL, w1], a', by simp [C02.wst, w2]⟩

structure WSame (s s' : Sock) : Prop where
  alive : s'.alive = s.alive
  ioOpen : s'.ioOpen = s.ioOpen
  inbox : s'.tcp.inbox = s.tcp.inbox
  devOpen : s'.tcp.devOpen = s.tcp.devOpen
  dcFlag : s'.dcFlag = s.dcFlag
  delPending : s'.delPending = s.delPending
  rs : s'.rs = s.rs
  readBuffer : s'.readBuffer = s.readBuffer
  reqHeaders : s'.reqHeaders = s.reqHeaders
  query : s'.query = s.query
  qio : s'.qio = s.qio
  dataRead : s'.dataRead = s.dataRead
  total : s'.total = s.total
  method : s'.method = s.method
  rawPath : s'.rawPath = s.rawPath
  initPending : s'.initPending = s.initPending
  log : ∃ l, s'.log = s.log ++ l ∧ l.all Obs.isW = true

theorem WSame.refl (s : Sock) : WSame s s :=
  ⟨rfl, rfl, rfl, rfl, rfl, rfl, rfl, rfl, rfl, rfl, rfl, rfl, rfl, rfl, rfl, rfl, [], by simp, rfl⟩

theorem WSame.trans {a b c : Sock} (h1 : WSame a b) (h2 : WSame b c) : WSame a c := by
  obtain ⟨l1, e1, q1⟩ := h1.log
  obtain ⟨l2, e2, q2⟩ := h2.log
  exact ⟨h2.alive.trans h1.alive, h2.ioOpen.trans h1.ioOpen, h2.inbox.trans h1.inbox,
    h2.devOpen.trans h1.devOpen, h2.dcFlag.trans h1.dcFlag, h2.delPending.trans h1.delPending,
    h2.rs.trans h1.rs, h2.readBuffer.trans h1.readBuffer, h2.reqHeaders.trans h1.reqHeaders,
    h2.query.trans h1.query, h2.qio.trans h1.qio, h2.dataRead.trans h1.dataRead, h2.total.trans h1.total,
    h2.method.trans h1.method, h2.rawPath.trans h1.rawPath, h2.initPending.trans h1.initPending,
    l1 ++ l2, by rw [e2, e1, List.append_assoc], by rw [List.all_append, q1, q2]; rfl⟩

theorem WSame.logs {s s' : Sock} (h : WSame s s') :
    rdsOf s'.log = rdsOf s.log ∧ upBytes s'.log = upBytes s.log ∧ countEv s'.log = countEv s.log ∧
    Obs.reads s'.log = Obs.reads s.log ∧ Obs.countP Obs.isHp s'.log = Obs.countP Obs.isHp s.log := by
  obtain ⟨l, e, q⟩ := h.log
  obtain ⟨a, b, c, d, f, _, _⟩ := isW_facts l q
  rw [e, rdsOf_append, upBytes_append, countEv_append, Obs.reads_append, Obs.countP_append, a, b, c, d, f]
  simp

theorem tcpWrite_wsame (s : Sock) (b : Bytes) : WSame s (Sock.tcpWrite s b) := by
  unfold Sock.tcpWrite
  split
  · exact ⟨rfl, rfl, rfl, rfl, rfl, rfl, rfl, rfl, rfl, rfl, rfl, rfl, rfl, rfl, rfl, rfl, [Obs.w b], rfl, rfl⟩
  · exact WSame.refl s

theorem writeHeaders_wsame (s : Sock) : WSame s (Sock.writeHeaders s) := by
  have h1 : WSame s { s with ws := .headers, hdrRemaining := (Sock.headBytes s).length } :=
    ⟨rfl, rfl, rfl, rfl, rfl, rfl, rfl, rfl, rfl, rfl, rfl, rfl, rfl, rfl, rfl, rfl, [], by simp, rfl⟩
  exact h1.trans (tcpWrite_wsame _ _)

theorem write_wsame (s : Sock) (b : Bytes) : WSame s (Sock.write s b) := by
  unfold Sock.write
  split
  · exact WSame.refl s
  · simp only []
    split
    · exact (writeHeaders_wsame s).trans (tcpWrite_wsame _ _)
    · exact tcpWrite_wsame _ _

theorem setStatusCode_wsame (s : Sock) (c : Int) (r : Option Bytes) : WSame s (Sock.setStatusCode s c r) :=
  ⟨rfl, rfl, rfl, rfl, rfl, rfl, rfl, rfl, rfl, rfl, rfl, rfl, rfl, rfl, rfl, rfl, [], by simp [Sock.setStatusCode], rfl⟩

theorem respHeaders_wsame (s : Sock) (hs : HeaderMap) : WSame s { s with respHeaders := hs } :=
  ⟨rfl, rfl, rfl, rfl, rfl, rfl, rfl, rfl, rfl, rfl, rfl, rfl, rfl, rfl, rfl, rfl, [], by simp, rfl⟩

/-- on a live socket outside a reaction -/
theorem api_status_wsame (env : Env) (s : Sock) (c : Int) (r : Option Bytes) (hdc : s.dcFlag = false) :
    WSame s (Sock.api env Proxy.app s (.status c r)) := by
  have h : WSame s (Sock.apiPrim env s (.status c r)) := by
    unfold Sock.apiPrim; split
    · exact WSame.refl s
    · exact setStatusCode_wsame s c r
  rw [Sock.api_of_dcFlag env Proxy.app s _ (h.dcFlag.trans hdc)]; exact h

theorem api_wh_wsame (env : Env) (s : Sock) (hdc : s.dcFlag = false) :
    WSame s (Sock.api env Proxy.app s .wh) := by
  have h : WSame s (Sock.apiPrim env s .wh) := by
    unfold Sock.apiPrim; split
    · exact WSame.refl s
    · exact writeHeaders_wsame s
  rw [Sock.api_of_dcFlag env Proxy.app s _ (h.dcFlag.trans hdc)]; exact h

theorem api_write_wsame (env : Env) (s : Sock) (b : Bytes) (hdc : s.dcFlag = false) :
    WSame s (Sock.api env Proxy.app s (.write b)) := by
  have h : WSame s (Sock.apiPrim env s (.write b)) := by
    unfold Sock.apiPrim; split
    · exact WSame.refl s
    · exact write_wsame s b
  rw [Sock.api_of_dcFlag env Proxy.app s _ (h.dcFlag.trans hdc)]; exact h

theorem Mid.wsame {evs : List Event} {hl N fedLen : Nat} {hb B : Bytes} {a : Option Nat} {s s' : Sock}
    (h : Mid evs hl N fedLen hb B a s) (w : WSame s s') : ∃ a', Mid evs hl N fedLen hb B a' s' := by
  obtain ⟨l, e, q⟩ := w.log
  obtain ⟨_, _, _, f4, f5, f6, f7⟩ := isW_facts l q
  obtain ⟨w1, a', w2⟩ := isW_walk evs hl N l q fedLen (s.rs != .headers) a
  refine ⟨a', { alive := w.alive.trans h.alive, ioOpen := w.ioOpen.trans h.ioOpen,
                devOpen := w.devOpen.trans h.devOpen, dcFlag := w.dcFlag.trans h.dcFlag,
                delPending := w.delPending.trans h.delPending,
                walk := ?_, wst := ?_, hp := ?_, rcf := ?_, tc := ?_, hdr := ?_, dat := ?_ }⟩
  · rw [e, walkL_append, h.walk, h.wst]; simpa using w1
  · rw [e, wst_append, h.wst, w.rs]; simpa using w2
  · rw [e, Obs.countP_append, h.hp, f5, w.rs]; rfl
  · rw [e, Obs.countP_append, h.rcf, f6, w.rs]; rfl
  · rw [e, List.any_append, h.tc, f7]; rfl
  · intro hh
    obtain ⟨e1, e2, e3, e4, e5, e6⟩ := h.hdr (w.rs.symm.trans hh)
    refine ⟨w.readBuffer.trans e1, w.reqHeaders.trans e2, w.query.trans e3, w.qio.trans e4, ?_, w.dataRead.trans e6⟩
    rw [e, Obs.reads_append, e5, f4]; rfl
  · intro hh
    obtain ⟨e1, e2, e3, e4⟩ := h.dat (by rw [← w.rs]; exact hh)
    rw [e, Obs.reads_append, f4, List.append_nil, w.qio, w.readBuffer, w.dataRead, w.total]
    exact ⟨e1, e2, e3, e4⟩

theorem RInv.wsame {evs : List Event} {head : Bytes} {N : Nat} {fed : Bytes} {s s' : Sock}
    (h : RInv evs head N fed s) (w : WSame s s') : RInv evs head N fed s' := by
  obtain ⟨a, hb, B, hm, hin, hrel⟩ := h
  obtain ⟨a', hm'⟩ := Mid.wsame hm w
  exact ⟨a', hb, B, hm', w.inbox.trans hin, hrel.of_rs w.rs⟩

theorem Extra.wsame {rh : Parser.ReqHead} {s s' : Sock} (h : Extra rh s) (w : WSame s s') : Extra rh s' :=
  h.of_eq w.rs ⟨w.method, w.rawPath, w.reqHeaders⟩ w.qio w.readBuffer

theorem NInv.wsame {head : Bytes} {rh : Parser.ReqHead} {fed : Bytes} {s s' : Sock}
    (h : NInv head rh fed s) (w : WSame s s') : NInv head rh fed s' :=
  h.transfer w.alive w.ioOpen w.devOpen w.dcFlag w.delPending (w.inbox.trans h.inbox) w.total w.qio w.rs
    w.readBuffer w.reqHeaders w.method w.rawPath w.logs.2.2.2.1 w.logs.2.2.2.2

theorem RInv.mark {evs : List Event} {head : Bytes} {N : Nat} {fed : Bytes} {s : Sock}
    (h : RInv evs head N fed s) (k : Nat) (hk : evs[k]? = some .turn) :
    RInv evs head N fed { s with log := s.log ++ [Obs.ev k] } := by
  obtain ⟨a, hb, B, hm, hin, hrel⟩ := h
  have hm1 := hm.ev k
  rw [evLen_of k .turn hk] at hm1
  exact ⟨none, hb, B, hm1, hin, hrel.of_rs rfl⟩

theorem Extra.mark {rh : Parser.ReqHead} {s : Sock} (h : Extra rh s) (k : Nat) :
    Extra rh { s with log := s.log ++ [Obs.ev k] } := h.of_eq rfl ⟨rfl, rfl, rfl⟩ rfl rfl

theorem crlf2_infix (a b : Bytes) : breakOn CRLF2 (a ++ CRLF2 ++ b) ≠ none := by
  intro h
  exact (breakOn_eq_none_iff.mp h) ⟨a, b, rfl⟩

theorem RInv.hdrIff {evs : List Event} {head : Bytes} {N : Nat} {fed : Bytes} {s : Sock}
    (h : RInv evs head N fed s) : s.rs = .headers ↔ breakOn CRLF2 fed = none := by
  obtain ⟨a, hb, B, hm, hin, hrel⟩ := h
  constructor
  · intro hrs; exact (hrel.1 hrs).2
  · intro hb'
    cases hrs : s.rs with
    | headers => rfl
    | data =>
      obtain ⟨rest, e1, _⟩ := hrel.2 (by rw [hrs]; simp)
      rw [e1] at hb'; exact absurd hb' (crlf2_infix _ _)
    | finished =>
      obtain ⟨rest, e1, _⟩ := hrel.2 (by rw [hrs]; simp)
      rw [e1] at hb'; exact absurd hb' (crlf2_infix _ _)

theorem NInv.hdrIff {head : Bytes} {rh : Parser.ReqHead} {fed : Bytes} {s : Sock}
    (h : NInv head rh fed s) : s.rs = .headers ↔ breakOn CRLF2 fed = none := by
  constructor
  · intro hrs; exact (h.hdr hrs).2.1
  · intro hb'
    cases hrs : s.rs with
    | headers => rfl
    | data =>
      obtain ⟨rest, e1, _⟩ := (h.dat hrs).2.1
      rw [e1] at hb'; exact absurd hb' (crlf2_infix _ _)
    | finished => exact absurd hrs h.notFin

/-- neither a read result nor an upstream observation -/
def quietD : Obs → Bool | .rd _ => false | .misc _ _ => false | _ => true

/-- `Socket::close` was called: the request side is over -/
def ClosedS (s : Sock) : Prop := s.rs = .finished ∧ s.ioOpen = false

structure DRel (s s' : Sock) : Prop where
  grow : ∃ l, s'.log = s.log ++ l ∧ l.all quietD = true
  closed : ClosedS s → ClosedS s'

theorem DRel.refl (s : Sock) : DRel s s := ⟨⟨[], by simp, rfl⟩, id⟩

theorem DRel.trans {a b c : Sock} (h1 : DRel a b) (h2 : DRel b c) : DRel a c := by
  obtain ⟨l1, e1, q1⟩ := h1.grow
  obtain ⟨l2, e2, q2⟩ := h2.grow
  exact ⟨⟨l1 ++ l2, by rw [e2, e1, List.append_assoc], by rw [List.all_append, q1, q2]; rfl⟩,
    fun h => h2.closed (h1.closed h)⟩

theorem DRel.of_eq {s s' : Sock} (h1 : s'.log = s.log) (h2 : s'.rs = s.rs) (h3 : s'.ioOpen = s.ioOpen) :
    DRel s s' := ⟨⟨[], by simp [h1], rfl⟩, fun h => ⟨h2.trans h.1, h3.trans h.2⟩⟩

theorem DRel.one (s : Sock) (o : Obs) (h : quietD o = true) : DRel s { s with log := s.log ++ [o] } :=
  ⟨⟨[o], rfl, by simp [h]⟩, id⟩

theorem quietD_facts (l : List Obs) (h : l.all quietD = true) :
    rdsOf l = [] ∧ upBytes l = [] ∧ Obs.reads l = [] := by
  have hq := List.all_eq_true.mp h
  refine ⟨List.filterMap_eq_nil_iff.mpr ?_, List.flatMap_eq_nil_iff.mpr ?_, List.flatMap_eq_nil_iff.mpr ?_⟩
  all_goals
    intro o ho
    have := hq o ho
    cases o with
    | rd b => cases this
    | misc t b => cases this
    | _ => rfl

theorem DRel.logs {s s' : Sock} (h : DRel s s') :
    rdsOf s'.log = rdsOf s.log ∧ upBytes s'.log = upBytes s.log ∧ Obs.reads s'.log = Obs.reads s.log := by
  obtain ⟨l, e, q⟩ := h.grow
  obtain ⟨a, b, c⟩ := quietD_facts l q
  rw [e, rdsOf_append, upBytes_append, Obs.reads_append, a, b, c]
  simp

theorem WSame.drel {s s' : Sock} (h : WSame s s') : DRel s s' := by
  obtain ⟨l, e, q⟩ := h.log
  refine ⟨⟨l, e, ?_⟩, fun c => ⟨h.rs.trans c.1, h.ioOpen.trans c.2⟩⟩
  rw [List.all_eq_true] at q ⊢
  intro o ho
  have := q o ho
  cases o <;> simp [Obs.isW] at this <;> rfl

theorem tcpClose_drel (s : Sock) : DRel s (Sock.tcpClose s) := by
  unfold Sock.tcpClose
  split
  · exact DRel.refl s
  · simp only []
    split
    · split
      · exact ⟨⟨[Obs.tc], rfl, rfl⟩, id⟩
      · exact ⟨⟨[Obs.tc], rfl, rfl⟩, id⟩
    · exact ⟨⟨[Obs.tc], rfl, rfl⟩, id⟩

theorem close_drel (s : Sock) : DRel s (Sock.close s) ∧ ClosedS (Sock.close s) := by
  unfold Sock.close
  have h0 : DRel s { s with ioOpen := false, qio := [], rs := .finished, ws := .finished, closeCalled := true } :=
    ⟨⟨[], by simp, rfl⟩, fun _ => ⟨rfl, rfl⟩⟩
  have h1 := tcpClose_drel { s with ioOpen := false, qio := [], rs := .finished, ws := .finished, closeCalled := true }
  exact ⟨h0.trans h1, h1.closed ⟨rfl, rfl⟩⟩

theorem writeError_drel (env : Env) (s : Sock) (c : Int) (r : Option Bytes) :
    DRel s (Sock.writeError env s c r) ∧ ClosedS (Sock.writeError env s c r) := by
  unfold Sock.writeError
  simp only []
  have h1 : DRel s (Sock.setHeader (Sock.setHeader (Sock.setStatusCode s c r) Sock.CONTENT_LENGTH
      (natDigits (env.errPage (Sock.setStatusCode s c r).code (Sock.setStatusCode s c r).reason).length) true)
      Sock.CONTENT_TYPE Sock.TEXT_HTML true) := by
    unfold Sock.setHeader Sock.setStatusCode
    simp only [Bool.true_or, if_true]
    exact DRel.of_eq rfl rfl rfl
  have h2 := h1.trans (writeHeaders_wsame _).drel
  have h3 := h2.trans (write_wsame _ (env.errPage (Sock.setStatusCode s c r).code (Sock.setStatusCode s c r).reason)).drel
  obtain ⟨c1, c2⟩ := close_drel (Sock.write (Sock.writeHeaders (Sock.setHeader (Sock.setHeader (Sock.setStatusCode s c r) Sock.CONTENT_LENGTH
      (natDigits (env.errPage (Sock.setStatusCode s c r).code (Sock.setStatusCode s c r).reason).length) true)
      Sock.CONTENT_TYPE Sock.TEXT_HTML true)) (env.errPage (Sock.setStatusCode s c r).code (Sock.setStatusCode s c r).reason))
  exact ⟨h3.trans c1, c2⟩

theorem emitDc_drel (env : Env) (s : Sock) : DRel s (Sock.emitDc env Proxy.app s) := by
  unfold Sock.emitDc
  exact ⟨⟨[Obs.dc], rfl, rfl⟩, id⟩

/-- after any call: `disconnected` may be due -/
theorem api_of_prim (env : Env) (s : Sock) (op : ApiOp) (h : DRel s (Sock.apiPrim env s op)) :
    DRel s (Sock.api env Proxy.app s op) := by
  unfold Sock.api
  simp only []
  split
  · exact h.trans (emitDc_drel env _)
  · exact h

theorem api_status_drel (env : Env) (s : Sock) (c : Int) (r : Option Bytes) :
    DRel s (Sock.api env Proxy.app s (.status c r)) := by
  apply api_of_prim
  unfold Sock.apiPrim; split
  · exact DRel.refl s
  · exact (setStatusCode_wsame s c r).drel

theorem api_wh_drel (env : Env) (s : Sock) : DRel s (Sock.api env Proxy.app s .wh) := by
  apply api_of_prim
  unfold Sock.apiPrim; split
  · exact DRel.refl s
  · exact (writeHeaders_wsame s).drel

theorem api_write_drel (env : Env) (s : Sock) (b : Bytes) : DRel s (Sock.api env Proxy.app s (.write b)) := by
  apply api_of_prim
  unfold Sock.apiPrim; split
  · exact DRel.refl s
  · exact (write_wsame s b).drel

theorem api_err_drel (env : Env) (s : Sock) (c : Int) (r : Option Bytes) :
    DRel s (Sock.api env Proxy.app s (.err c r)) := by
  apply api_of_prim
  unfold Sock.apiPrim; split
  · exact DRel.refl s
  · exact (writeError_drel env s c r).1

theorem api_err_closed (env : Env) (s : Sock) (c : Int) (r : Option Bytes) (ha : s.alive = true) :
    ClosedS (Sock.api env Proxy.app s (.err c r)) := by
  have h : ClosedS (Sock.apiPrim env s (.err c r)) := by
    unfold Sock.apiPrim
    rw [if_neg (by simp [ha])]
    exact (writeError_drel env s c r).2
  unfold Sock.api
  simp only []
  split
  · exact (emitDc_drel env _).closed h
  · exact h

theorem del_drel (r : Sock) : DRel r (reap r) := by
  unfold reap
  split
  · exact ⟨⟨[Obs.del], rfl, rfl⟩, fun h => ⟨h.1, h.2⟩⟩
  · exact DRel.refl _

theorem orr_closed (env : Env) {s0 s : Sock} (h : DRel s0 s) (hc : s.rs = .finished) :
    DRel s0 (Sock.onReadyRead env Proxy.app s) := by
  rw [onReadyRead_eq, if_pos hc]
  split
  · exact h.trans (DRel.of_eq rfl rfl rfl)
  · exact h.trans (DRel.of_eq rfl rfl rfl)

theorem turnSock_closed (env : Env) (s : Sock) (k : Nat) (hc : ClosedS s) : DRel s (turnSock env s k) := by
  have h0 := DRel.one s (Obs.ev k) rfl
  by_cases hip : s.initPending = true
  · rw [turnSock_pos env k hip]
    exact orr_closed env (h0.trans (DRel.of_eq rfl rfl rfl)) (by exact hc.1)
  · rw [turnSock_neg env k hip]
    exact h0

theorem stepK_closed (env : Env) (s : Sock) (k : Nat) (e : Event) (he : relaySockEvent e = true)
    (hc : ClosedS s) : DRel s (Sock.stepK env Proxy.app (s, k) e).1 ∧ ClosedS (Sock.stepK env Proxy.app (s, k) e).1 := by
  have key : DRel s (Sock.stepK env Proxy.app (s, k) e).1 := by
    cases ha : s.alive with
    | false => rw [Sock.stepK_dead env Proxy.app k e ha]; exact DRel.refl s
    | true =>
      have h0 := DRel.one s (Obs.ev k) rfl
      obtain rfl | ⟨seg, rfl⟩ | rfl := relaySock_cases he
      · rw [stepK_new env k ha]
        exact h0.trans (DRel.of_eq rfl rfl rfl)
      · rw [stepK_feed env k seg ha]
        exact orr_closed env (h0.trans (DRel.of_eq rfl rfl rfl)) (by exact hc.1)
      · rw [stepK_turn env k ha]
        exact (turnSock_closed env s k hc).trans (del_drel _)
  exact ⟨key, key.closed hc⟩

end Qhttp.ProxyL
