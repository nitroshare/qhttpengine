import Qhttp.Lemmas.C10Life
/-
  C10: the file copy in progress is stopped when the transport reports `disconnected`
  (`processFile`: `disconnected -> copier.stop`, `finished -> socket.close`), and a stopped copier
  stays stopped and silent.
-/
namespace Qhttp.C10L
open Qhttp Qhttp.Sock

theorem copier_stopped_turn (cfg : Copier.Cfg) (cs : Copier.St) (h : cs.stopped = true) :
    (Copier.step cfg cs .turn).log = cs.log ∧ (Copier.step cfg cs .turn).stopped = true := by
  have e : Copier.step cfg cs .turn = match cs.pending with
      | .none => cs
      | .nextBlock => Copier.nextBlock cfg { cs with pending := .none }
      | .readyRead => Copier.onReadyRead cfg { cs with pending := .none } := rfl
  rw [e]
  split
  · exact ⟨rfl, h⟩
  · unfold Copier.nextBlock
    rw [if_pos h]
    exact ⟨rfl, h⟩
  · unfold Copier.onReadyRead
    rw [if_pos h]
    exact ⟨rfl, h⟩

theorem copier_stop_stopped (cs : Copier.St) : (Copier.stop cs).stopped = true := rfl

theorem copier_stop_finished (cs : Copier.St) : copFinished (Copier.stop cs) = true := by
  simp [copFinished, Copier.stop, Copier.fin]

theorem api_close_cc (env : Env) (app : App) (s : Sock) (ha : s.alive = true) :
    (api env app s .close).closeCalled = true := by
  unfold api
  have h1 : (apiPrim env s .close).closeCalled = true := by
    unfold apiPrim
    rw [if_neg (by simp [ha])]
    exact close_cc s
  dsimp only
  split
  · exact (emitDc_ext env app _).1.cc h1
  · exact h1

/-- `rt`: a copier exists only once the request was routed; `sp`: a stopped copier is still there
    after the event, with the same configuration, and still stopped -/
structure CopRel (st st' : FsHandler.St) : Prop where
  rt : st'.cop.isSome = true → st'.routed = true
  sp : ∀ cfg cs, st.cop = some (cfg, cs) → cs.stopped = true →
        ∃ cs', st'.cop = some (cfg, cs') ∧ cs'.stopped = true

theorem afterRoute_rel (fe : FsHandler.FsEnv) (n : Nat) (st : FsHandler.St)
    (hinv : st.cop.isSome = true → st.routed = true) :
    CopRel st (FsHandler.afterRoute fe n st) := by
  unfold FsHandler.afterRoute
  split
  · rename_i hc
    have hr : st.routed = false := by
      cases hx : st.routed
      · rfl
      · simp [hx] at hc
    have hn : st.cop = none := by
      cases hx : st.cop
      · rfl
      · have := hinv (by simp [hx]); rw [hr] at this; exact absurd this (by simp)
    split
    · exact ⟨fun _ => rfl, fun cfg cs h => by rw [hn] at h; exact absurd h (by simp)⟩
    · exact ⟨fun _ => rfl, fun cfg cs h => by rw [hn] at h; exact absurd h (by simp)⟩
  · exact ⟨hinv, fun cfg cs h hs => ⟨cs, h, hs⟩⟩

theorem turnCop_rel (env : Env) (a : App) (st : FsHandler.St)
    (hinv : st.cop.isSome = true → st.routed = true) : CopRel st (turnCop env a st) := by
  unfold turnCop
  split
  · rename_i cfg cs hc
    refine ⟨fun _ => hinv (by simp [hc]), fun cfg' cs' h hs => ?_⟩
    rw [hc] at h
    simp only [Option.some.injEq, Prod.mk.injEq] at h
    obtain ⟨rfl, rfl⟩ := h
    exact ⟨_, rfl, (copier_stopped_turn cfg cs hs).2⟩
  · exact ⟨hinv, fun cfg cs h hs => ⟨cs, h, hs⟩⟩

theorem CopRel.trans {a b c : FsHandler.St} (h1 : CopRel a b) (h2 : CopRel b c) : CopRel a c :=
  ⟨h2.rt, fun cfg cs h hs => by
    obtain ⟨cs', e1, s1⟩ := h1.sp cfg cs h hs
    exact h2.sp cfg cs' e1 s1⟩

theorem fsStep_rel (env : Env) (fe : FsHandler.FsEnv) (st : FsHandler.St) (e : Event)
    (hinv : st.cop.isSome = true → st.routed = true) :
    CopRel st (FsHandler.step env fe st e) := by
  by_cases he : e = .turn
  · subst he
    cases ha : st.sock.alive
    · rw [fsStep_dead env fe st _ ha]
      exact ⟨hinv, fun cfg cs h hs => ⟨cs, h, hs⟩⟩
    · show CopRel st (FsHandler.turn env fe st)
      rw [fsTurn_eq env fe st ha]
      have h1 := afterRoute_rel fe (Obs.countP Obs.isHp st.sock.log)
        { st with sock := initRead env (FsHandler.app fe)
                            { st.sock with log := st.sock.log ++ [Obs.ev (evCount st.sock)] } } hinv
      have h3 := h1.trans (turnCop_rel env (FsHandler.app fe) _ h1.rt)
      exact ⟨h3.rt, h3.sp⟩
  · rw [fsStep_eq env fe st e he]
    have h1 := afterRoute_rel fe (Obs.countP Obs.isHp st.sock.log)
      { st with sock := (Sock.stepK env (FsHandler.app fe) (st.sock, evCount st.sock) e).1 } hinv
    exact ⟨h1.rt, h1.sp⟩

/-- the copier's `finished` is connected to `Socket::close` -/
theorem afterEvent_stops (env : Env) (fe : FsHandler.FsEnv) (n : Nat) (st : Life.St)
    (cfg : Copier.Cfg) (cs : Copier.St)
    (ha : st.fs.sock.alive = true) (hn : Life.dcCount st.fs.sock ≠ n)
    (hc : st.fs.cop = some (cfg, cs)) (hf : copFinished cs = false) (hs : st.stopped = false) :
    Life.afterEvent env fe n st =
      { st with fs := { st.fs with sock := api env (FsHandler.app fe) (setDel st.fs.sock) .close,
                                   cop := some (cfg, Copier.stop cs) },
                stopped := true } := by
  rw [afterEvent_fire env fe n st ha hn]
  split
  · rename_i cfg' cs' hc'
    rw [hc] at hc'
    simp only [Option.some.injEq, Prod.mk.injEq] at hc'
    obtain ⟨rfl, rfl⟩ := hc'
    rw [if_neg (by simp [hf, hs])]
  · rename_i hc'
    rw [hc] at hc'
    exact absurd hc' (by simp)

/-- `rt`: as in `CopRel`; `sp`: `stopped` means a stopped copier and `Socket::close` called -/
structure SInv (st : Life.St) : Prop where
  rt : st.fs.cop.isSome = true → st.fs.routed = true
  sp : st.stopped = true →
        ∃ cfg cs, st.fs.cop = some (cfg, cs) ∧ cs.stopped = true ∧ st.fs.sock.closeCalled = true

theorem SInv.init : SInv ({} : Life.St) := ⟨fun h => by simp at h, fun h => by simp at h⟩

theorem afterEvent_sinv (env : Env) (fe : FsHandler.FsEnv) (n : Nat) (st : Life.St) (h : SInv st) :
    SInv (Life.afterEvent env fe n st) :=
  afterEvent_cases env fe n st (fun _ => h) (fun _ _ => ⟨h.rt, h.sp⟩)
    (fun cfg cs ha _ hc _ _ => ⟨fun _ => h.rt (by rw [hc]; rfl),
      fun _ => ⟨cfg, Copier.stop cs, rfl, rfl, api_close_cc env _ _ ha⟩⟩)

theorem lifeStep_sinv (env : Env) (fe : FsHandler.FsEnv) (st : Life.St) (ev : Life.LEv)
    (h : SInv st) : SInv (Life.step env fe st ev) := by
  cases hd : st.deadSrv
  · cases ev with
    | ev e =>
      rw [lifeStep_ev env fe st e hd]
      apply afterEvent_sinv
      have hr := fsStep_rel env fe st.fs e h.rt
      refine ⟨hr.rt, fun hs => ?_⟩
      obtain ⟨cfg, cs, h1, h2, h3⟩ := h.sp hs
      obtain ⟨cs', h4, h5⟩ := hr.sp cfg cs h1 h2
      exact ⟨cfg, cs', h4, h5, (fsStep_evo env fe st.fs e).cc h3⟩
    | killServer =>
      simp only [Life.step, hd, Bool.false_eq_true, if_false]
      exact ⟨h.rt, h.sp⟩
  · rw [lifeStep_deadSrv env fe st ev hd]; exact h

theorem run_sinv (env : Env) (fe : FsHandler.FsEnv) (evs : List Life.LEv) :
    SInv (Life.run env fe evs) := by
  refine List.foldlRecOn evs _ SInv.init fun st h ev _ => ?_
  exact lifeStep_sinv env fe st ev h

theorem turnCop_stopped (env : Env) (a : App) (st : FsHandler.St) (cfg : Copier.Cfg)
    (cs : Copier.St) (hc : st.cop = some (cfg, cs)) (hs : cs.stopped = true) :
    (turnCop env a st).sock = st.sock := by
  unfold turnCop
  split
  · rename_i cfg' cs' hc'
    rw [hc] at hc'
    simp only [Option.some.injEq, Prod.mk.injEq] at hc'
    obtain ⟨rfl, rfl⟩ := hc'
    show FsHandler.relay env a st.sock _ = st.sock
    rw [(copier_stopped_turn cfg cs hs).1, List.drop_length]
    rfl
  · rfl

end Qhttp.C10L
