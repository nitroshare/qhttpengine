import Qhttp.Lemmas.C19Log
import Qhttp.Lemmas.SockEqns
/-
  The frame library of the socket model (named after C19, the first family to need it; the C04
  and C10 families and the proxy use it too).  An invariant of `Sock.run` that reads only a few
  fields of the socket is carried through the model in the same way whatever it says, so the way
  is walked once for an arbitrary `P`: API calls (`Frame`: `apiPrim` is made of `tcpWrite`,
  `tcpClose` — reached only through `Sock.close`, which leaves `.headers` first —, appending an
  observation, and updates of fields the invariants do not read, `Same`), private slots
  (`SlotClosed`), external events other than API calls (`StepClosed`).  The induction along a run
  is `Sock.run_induct(_alive)` in SockEqns.
-/
namespace Qhttp.C19L
open Qhttp Qhttp.Obs Qhttp.Sock

/-- `s'` differs from `s` only in fields that neither C19 nor C10 reads; `rs` may leave `.headers`
    and `Socket::close` may have been called -/
structure Same (s s' : Sock) : Prop where
  u : s'.tcp.unacked = s.tcp.unacked
  o : s'.tcp.devOpen = s.tcp.devOpen
  c : s'.tcp.conn = s.tcp.conn
  f : s'.dcFlag = s.dcFlag
  l : s'.log = s.log
  a : s'.alive = s.alive
  d : s'.delPending = s.delPending
  r : s'.rs = .headers → s.rs = .headers
  k : s.closeCalled = true → s'.closeCalled = true
  fin : s.rs = .finished → s'.rs = .finished

/-- one equation for the fields kept equal: `rfl` closes it for a record update of other fields -/
theorem Same.of_core' {s s' : Sock}
    (h : (s'.tcp.unacked, s'.tcp.devOpen, s'.tcp.conn, s'.dcFlag, s'.log, s'.alive, s'.delPending)
       = (s.tcp.unacked, s.tcp.devOpen, s.tcp.conn, s.dcFlag, s.log, s.alive, s.delPending))
    (hr : s'.rs = .headers → s.rs = .headers) (hk : s.closeCalled = true → s'.closeCalled = true)
    (hfin : s.rs = .finished → s'.rs = .finished) : Same s s' := by
  simp only [Prod.mk.injEq] at h
  exact ⟨h.1, h.2.1, h.2.2.1, h.2.2.2.1, h.2.2.2.2.1, h.2.2.2.2.2.1, h.2.2.2.2.2.2, hr, hk, hfin⟩

theorem Same.of_core {s s' : Sock}
    (h : (s'.tcp.unacked, s'.tcp.devOpen, s'.tcp.conn, s'.dcFlag, s'.log, s'.alive, s'.delPending)
       = (s.tcp.unacked, s.tcp.devOpen, s.tcp.conn, s.dcFlag, s.log, s.alive, s.delPending))
    (hr : s'.rs = s.rs)
    (hk : s'.closeCalled = s.closeCalled) : Same s s' :=
  .of_core' h (fun x => hr ▸ x) (fun x => hk ▸ x) (fun x => hr ▸ x)

theorem tcpClose_facts (s : Sock) :
    (tcpClose s).alive = s.alive ∧ (tcpClose s).rs = s.rs ∧ (tcpClose s).tcp.devOpen = false ∧
    ((tcpClose s).log = s.log ∨ (tcpClose s).log = s.log ++ [.tc]) :=
  tcpClose_cases s
    (P := fun t => t.alive = s.alive ∧ t.rs = s.rs ∧ t.tcp.devOpen = false ∧
      (t.log = s.log ∨ t.log = s.log ++ [.tc]))
    (fun h => ⟨rfl, rfl, h, Or.inl rfl⟩) (fun _ _ _ => ⟨rfl, rfl, rfl, Or.inr rfl⟩)
    (fun _ _ _ => ⟨rfl, rfl, rfl, Or.inr rfl⟩) (fun _ _ => ⟨rfl, rfl, rfl, Or.inr rfl⟩)

/-- what `read`, `readAll`, `bytesAvailable` and the accessors record -/
def isRes : Obs → Bool
  | .rd _ => true | .av _ => true | .snap _ => true
  | _ => false

/-- `N`: the observations a `note` may record -/
structure Frame (N : Obs → Bool) (P : Sock → Prop) : Prop where
  res : ∀ o, isRes o = true → N o = true
  same : ∀ s s', Same s s' → P s → P s'
  tw : ∀ s b, P s → P (tcpWrite s b)
  tcl : ∀ s, s.rs = .finished → P s → P (tcpClose s)
  note : ∀ s o, N o = true → P s → P { s with log := s.log ++ [o] }

section
variable {N : Obs → Bool} {P : Sock → Prop} (hP : Frame N P)
include hP

theorem setStatusCode_frame {s : Sock} (c : Int) (r : Option Bytes) (h : P s) :
    P (setStatusCode s c r) :=
  hP.same s _ (.of_core rfl rfl rfl) h

theorem setHeader_frame {s : Sock} (n v : Bytes) (r : Bool) (h : P s) :
    P (setHeader s n v r) := by
  unfold setHeader
  split <;> exact hP.same s _ (.of_core rfl rfl rfl) h

theorem writeHeaders_frame {s : Sock} (h : P s) : P (writeHeaders s) := by
  unfold writeHeaders
  exact hP.tw _ _ (hP.same s _ (.of_core rfl rfl rfl) h)

theorem write_frame {s : Sock} (b : Bytes) (h : P s) : P (write s b) := by
  unfold write
  split
  · exact h
  · apply hP.tw
    split
    · exact writeHeaders_frame hP h
    · exact h

theorem close_frame {s : Sock} (h : P s) : P (close s) := by
  unfold close
  exact hP.tcl _ rfl (hP.same s _ (.of_core' rfl (fun h => by cases h) (fun _ => rfl) fun _ => rfl) h)

theorem writeRedirect_frame {s : Sock} (p : Bytes) (pm : Bool) (h : P s) :
    P (writeRedirect s p pm) := by
  unfold writeRedirect
  exact close_frame hP (writeHeaders_frame hP (setHeader_frame hP _ _ _
    (setStatusCode_frame hP _ _ h)))

theorem writeError_frame (env : Env) {s : Sock} (c : Int) (r : Option Bytes) (h : P s) :
    P (writeError env s c r) := by
  unfold writeError
  exact close_frame hP (write_frame hP _ (writeHeaders_frame hP (setHeader_frame hP _ _ _
    (setHeader_frame hP _ _ _ (setStatusCode_frame hP _ _ h)))))

theorem writeJson_frame {s : Sock} (b : Bytes) (c : Int) (h : P s) :
    P (writeJson s b c) := by
  unfold writeJson
  exact close_frame hP (write_frame hP _ (setHeader_frame hP _ _ _
    (setHeader_frame hP _ _ _ (setStatusCode_frame hP _ _ h))))

end

theorem read_same (s : Sock) (n : Nat) : Same s (read s n).1 := by
  obtain ⟨q, k, d, h⟩ := read_eq s n
  rw [h]; exact .of_core rfl rfl rfl

theorem readAll_same (s : Sock) : Same s (readAll s).1 := by
  obtain ⟨q, k, d, h⟩ := readAll_eq s
  rw [h]; exact .of_core rfl rfl rfl

theorem apiPrim_frame {N : Obs → Bool} {P : Sock → Prop} (hP : Frame N P) (env : Env) {s : Sock}
    {op : ApiOp} (hn : ∀ o, op = .note o → N o = true) (h : P s) : P (apiPrim env s op) := by
  unfold apiPrim
  split
  · exact h
  · cases op with
    | read n => exact hP.note _ _ (hP.res _ rfl) (hP.same _ _ (read_same s n) h)
    | readAll => exact hP.note _ _ (hP.res _ rfl) (hP.same _ _ (readAll_same s) h)
    | avail => exact hP.note _ _ (hP.res _ rfl) h
    | snap => exact hP.note _ _ (hP.res _ rfl) h
    | status c r => exact setStatusCode_frame hP _ _ h
    | hdr n v r => exact setHeader_frame hP _ _ _ h
    | hdrs m => exact hP.same s _ (.of_core rfl rfl rfl) h
    | wh => exact writeHeaders_frame hP h
    | write bs => exact write_frame hP _ h
    | err c r => exact writeError_frame hP env _ _ h
    | redir p pm => exact writeRedirect_frame hP _ _ h
    | json bd c => exact writeJson_frame hP _ _ h
    | close => exact close_frame hP h
    | note o => exact hP.note _ _ (hn o rfl) h

/-- the call records nothing C19 counts -/
def qOp : ApiOp → Bool
  | .note o => quiet o
  | _ => true

theorem qOp_note {op : ApiOp} (h : qOp op = true) (o : Obs) (e : op = .note o) : quiet o = true := by
  subst e; exact h

theorem foldl_apiPrim_frame {P : Sock → Prop} (hP : Frame quiet P) (env : Env) (ops : List ApiOp)
    (hq : ops.all qOp = true) {s : Sock} (h : P s) : P (ops.foldl (apiPrim env) s) :=
  foldl_closed (f := apiPrim env) (fun hq h => apiPrim_frame hP env (qOp_note hq) h) ops hq h

theorem quiet_res (o : Obs) (h : isRes o = true) : quiet o = true := by
  cases o <;> first | rfl | cases h

theorem Frame.and {N : Obs → Bool} {P Q : Sock → Prop} (h1 : Frame N P) (h2 : Frame N Q) :
    Frame N (fun s => P s ∧ Q s) where
  res := h1.res
  same := fun s s' hs h => ⟨h1.same s s' hs h.1, h2.same s s' hs h.2⟩
  tw := fun s b h => ⟨h1.tw s b h.1, h2.tw s b h.2⟩
  tcl := fun s hr h => ⟨h1.tcl s hr h.1, h2.tcl s hr h.2⟩
  note := fun s o ho h => ⟨h1.note s o ho h.1, h2.note s o ho h.2⟩

structure SlotClosed (env : Env) (app : App) (P : Sock → Prop) : Prop where
  same : ∀ s s', Same s s' → P s → P s'
  /-- the answer to a request head that does not parse -/
  bad : ∀ s, P s → P (if (writeError env s 400 none).dcFlag = true
      then emitDc env app (writeError env s 400 none) else writeError env s 400 none)
  /-- `headersParsed`, emitted once the state has left `.headers` -/
  hp : ∀ s s', Same s s' → s.rs = .headers → s'.rs ≠ .headers → P s →
      P (emit env app s' .hp (app.onHp s'))
  rr : ∀ s, P s → P (emit env app s .rr (app.onRr s))
  rcf : ∀ s, P s → P (emit env app s .rcf (app.onRcf s))
  bw : ∀ s b, P s → P (emit env app s (.bw b) (app.onBw s))

section
variable {env : Env} {app : App} {P : Sock → Prop} (hP : SlotClosed env app P) {s : Sock}
include hP

theorem SlotClosed.readHeaders (h : P s) (hr : s.rs = .headers) : P (readHeaders env app s).1 := by
  unfold Sock.readHeaders
  split
  · exact h
  · dsimp only
    split
    · exact hP.bad s h
    · split
      · exact hP.bad s h
      · apply hP.hp s _ _ hr _ h
        · split <;> exact .of_core' rfl (fun _ => hr) id fun x => by rw [hr] at x; cases x
        · split <;> exact RState.noConfusion

theorem SlotClosed.readDataSlot (h : P s) : P (readDataSlot env app s) := by
  unfold Sock.readDataSlot
  extract_lets s1 s2
  have h1 : P s1 := by
    simp only [s1]; split
    · exact hP.same s _ (.of_core rfl rfl rfl) h
    · exact h
  have h2 : P s2 := by
    simp only [s2]; split
    · exact hP.rr _ h1
    · exact h1
  split
  · exact hP.rcf _ (hP.same s2 _ (.of_core' rfl (fun x => by cases x) id fun _ => rfl) h2)
  · exact h2

theorem SlotClosed.onReadyRead (h : P s) : P (onReadyRead env app s) := by
  unfold Sock.onReadyRead
  split
  · split
    · exact hP.same s _ (.of_core rfl rfl rfl) h
    · exact h
  · extract_lets src s1
    have h1 : P s1 := by
      simp only [s1, src]; split
      · exact hP.same s _ (.of_core rfl rfl rfl) h
      · exact h
    have h2 : P (if s1.rs = .headers then Sock.readHeaders env app s1 else (s1, true)).1 := by
      split
      · rename_i hr; exact hP.readHeaders h1 hr
      · exact h1
    generalize (if s1.rs = .headers then Sock.readHeaders env app s1 else (s1, true)) = p at h2 ⊢
    obtain ⟨s3, go⟩ := p
    dsimp only at h2 ⊢
    split
    · exact h2
    · split
      · exact hP.readDataSlot h2
      · exact hP.same s3 _ (.of_core rfl rfl rfl) h2
      · exact h2

theorem SlotClosed.onBytesWritten (n : Int) (h : P s) : P (onBytesWritten env app s n) := by
  unfold Sock.onBytesWritten
  have h2 : P (if s.ws = .headers then
      if s.hdrRemaining - n > 0 then ({ s with hdrRemaining := s.hdrRemaining - n }, n)
      else ({ s with ws := .data }, n - s.hdrRemaining)
    else (s, n)).1 := by
    split
    · split <;> exact hP.same s _ (.of_core rfl rfl rfl) h
    · exact h
  generalize (if s.ws = .headers then
      if s.hdrRemaining - n > 0 then ({ s with hdrRemaining := s.hdrRemaining - n }, n)
      else ({ s with ws := .data }, n - s.hdrRemaining)
    else (s, n)) = p at h2 ⊢
  obtain ⟨s3, b⟩ := p
  dsimp only at h2 ⊢
  split
  · exact hP.bw _ _ h2
  · exact h2

theorem SlotClosed.onReadChannelFinished (h : P s) : P (onReadChannelFinished env app s) := by
  unfold Sock.onReadChannelFinished
  split
  · exact hP.rcf _ h
  · exact h

end

structure StepClosed (env : Env) (app : App) (P : Sock → Prop) : Prop
    extends SlotClosed env app P where
  /-- arriving bytes, acknowledgements, the peer's close: the device flag stays -/
  tcp : ∀ s t, t.devOpen = s.tcp.devOpen → P s → P { s with tcp := t }
  dc : ∀ s, P s → P (emitDc env app s)
  del : ∀ s, P s → P { s with alive := false, delPending := false, log := s.log ++ [.del] }

section
variable {env : Env} {app : App} {P : Sock → Prop} (hP : StepClosed env app P) {s : Sock}
include hP

theorem StepClosed.ackN (n : Nat) (h : P s) : P (ackN env app s n) := by
  unfold Sock.ackN
  extract_lets n' src s2 s3
  split
  · exact h
  · have h3 : P s3 := hP.onBytesWritten _ (hP.tcp s _ rfl h)
    split
    · exact hP.dc _ (hP.tcp s3 _ rfl h3)
    · exact h3

theorem StepClosed.step {e : Event} (hne : ∀ op, e ≠ .api op) (h : P s) :
    P (step env app s e) := by
  unfold Sock.step
  split
  · exact h
  · cases e with
    | prebuf bs => exact hP.tcp s _ rfl h
    | new => exact hP.same s _ (.of_core rfl rfl rfl) h
    | feed seg => exact hP.onReadyRead (hP.tcp s _ rfl h)
    | ack n => exact hP.ackN n h
    | ackAll => exact hP.ackN _ h
    | peerClose =>
      dsimp only
      split
      · exact h
      · exact hP.dc _ (hP.onReadChannelFinished (hP.tcp s _ rfl h))
    | turn =>
      dsimp -zeta only
      extract_lets s2
      have h2 : P s2 := by
        simp only [s2]; split
        · exact hP.onReadyRead (hP.same s _ (.of_core rfl rfl rfl) h)
        · exact h
      split
      · exact hP.del _ h2
      · exact h2
    | api op => exact absurd rfl (hne op)

end

end Qhttp.C19L
