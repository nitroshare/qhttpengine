import Qhttp.Lemmas.C14Block
/-
  Whole runs.  `runFrom_induct` is the induction over a run that every invariant below (and in
  C14Seq, C14Restart, C14Open) goes through; `run_append` splits a run at an event.  Event
  markers (`MInv`), the post-stop invariant (`StInv`, every configuration), and the block loop of
  a random-access copy before any `stop` (`Loop`, with `NInv` as its weaker form).
-/
namespace Qhttp.C14L
open Qhttp Copier

/-- the state with the marker of event `k` appended (what `stepK` hands to `step`) -/
def mk (s : St) (k : Nat) : St := { s with log := s.log ++ [Obs.ev k] }

def runFrom (c : Cfg) (sk : St × Nat) (evs : List Ev) : St × Nat := evs.foldl (stepK c) sk

theorem runFrom_nil (c : Cfg) (sk : St × Nat) : runFrom c sk [] = sk := rfl
theorem runFrom_cons (c : Cfg) (s : St) (k : Nat) (e : Ev) (l : List Ev) :
    runFrom c (s, k) (e :: l) = runFrom c (step c (mk s k) e, k + 1) l := rfl
theorem runFrom_append (c : Cfg) (sk : St × Nat) (l1 l2 : List Ev) :
    runFrom c sk (l1 ++ l2) = runFrom c (runFrom c sk l1) l2 := by
  simp [runFrom, List.foldl_append]
theorem run_eq (c : Cfg) (evs : List Ev) : run c evs = (runFrom c (init c, 0) evs).1 := rfl

def nTurns (evs : List Ev) : Nat := (evs.filter (· == .turn)).length
def pieceOf : Ev → Bytes | .arrive b => b | .arriveQ b => b | _ => []
def arrived (evs : List Ev) : Bytes := evs.flatMap pieceOf

theorem nTurns_cons (e : Ev) (l : List Ev) :
    nTurns (e :: l) = (if e = .turn then 1 else 0) + nTurns l := by
  simp only [nTurns, List.filter_cons]
  by_cases h : e = .turn
  · simp [h]; omega
  · simp [h]
theorem nTurns_append (a b : List Ev) : nTurns (a ++ b) = nTurns a + nTurns b := by
  simp only [nTurns, List.filter_append, List.length_append]
theorem nTurns_replicate (n : Nat) : nTurns (List.replicate n Ev.turn) = n := by
  induction n with
  | zero => rfl
  | succ n ih => rw [List.replicate_succ, nTurns_cons, ih]; simp; omega
theorem turns_quiet (n : Nat) : ∀ e ∈ List.replicate n Ev.turn, e ≠ .start ∧ e ≠ .stop :=
  fun e he => by rw [List.eq_of_mem_replicate he]; simp
theorem arrived_cons (e : Ev) (l : List Ev) :
    arrived (e :: l) = pieceOf e ++ arrived l := by
  simp [arrived]
theorem arrived_append (a b : List Ev) : arrived (a ++ b) = arrived a ++ arrived b := by
  simp [arrived, List.flatMap_append]
theorem arrived_snoc (d : List Ev) (e : Ev) : arrived (d ++ [e]) = arrived d ++ pieceOf e := by
  rw [arrived_append, arrived_cons]; exact congrArg _ (List.append_nil _)

theorem runFrom_counter (c : Cfg) : ∀ (l : List Ev) (s : St) (k : Nat),
    (runFrom c (s, k) l).2 = k + l.length := by
  intro l
  induction l with
  | nil => intro s k; rfl
  | cons e l ih => intro s k; rw [runFrom_cons, ih]; simp; omega

theorem sig_not_mk {o : Obs} (h : isSig o = true) (k : Nat) : o ≠ Obs.ev k := by
  intro e; subst e; cases h

theorem step_minv (c : Cfg) (s : St) (k : Nat) (e : Ev) (h : MInv s.log k) :
    MInv (step c (mk s k) e).log (k + 1) := by
  obtain ⟨l, el, pl⟩ := step_ext c (mk s k) e
  intro j hj
  rw [el] at hj
  rcases List.mem_append.1 hj with hj | hj
  · simp only [mk] at hj
    rcases List.mem_append.1 hj with hj | hj
    · have := h j hj; omega
    · simp at hj; omega
  · exact absurd rfl (sig_not_mk (pl _ hj) j)

theorem run_append (c : Cfg) (pre post : List Ev) :
    run c (pre ++ post) = (runFrom c (run c pre, pre.length) post).1 := by
  have : runFrom c (init c, 0) pre = (run c pre, pre.length) :=
    Prod.ext rfl ((runFrom_counter c pre (init c) 0).trans (Nat.zero_add _))
  rw [run_eq, runFrom_append, this]

/-- **induction over a run.**  `I d s`: "`s` is reached by the events `d`".  An invariant kept by
    every step whose event satisfies `ok` (the marker of the step is `k0` plus the number of events
    before it) is kept by a run of such events. -/
theorem runFrom_induct (c : Cfg) (ok : Ev → Prop) (I : List Ev → St → Prop) (k0 : Nat)
    (hstep : ∀ d s e, ok e → I d s → I (d ++ [e]) (step c (mk s (k0 + d.length)) e)) :
    ∀ (l d : List Ev) (s : St), (∀ e ∈ l, ok e) → I d s →
      I (d ++ l) (runFrom c (s, k0 + d.length) l).1 := by
  intro l
  induction l with
  | nil => intro d s _ h; rw [List.append_nil]; exact h
  | cons e l ih =>
    intro d s hl h
    have := ih (d ++ [e]) _ (fun x hx => hl x (List.mem_cons_of_mem _ hx))
      (hstep d s e (hl e (List.mem_cons_self ..)) h)
    rw [List.append_assoc, List.length_append, ← Nat.add_assoc] at this
    exact this

theorem runFrom_inv (c : Cfg) (ok : Ev → Prop) (P : St → Prop)
    (hstep : ∀ s k e, ok e → P s → P (step c (mk s k) e))
    (l : List Ev) (s : St) (k : Nat) (hl : ∀ e ∈ l, ok e) (h : P s) : P (runFrom c (s, k) l).1 :=
  runFrom_induct c ok (fun _ => P) k (fun _ s e => hstep s _ e) l [] s hl h

theorem run_minv (c : Cfg) (evs : List Ev) : MInv (run c evs).log evs.length := by
  have := runFrom_induct c (fun _ => True) (fun d s => MInv s.log d.length) 0
    (fun d s e _ h => by
      rw [List.length_append]
      have := step_minv c s d.length e h
      rwa [Nat.zero_add])
    evs [] (init c) (fun _ _ => trivial) (fun j hj => nomatch hj)
  rwa [List.nil_append] at this

/-- `stop()` was called at event `k` on a log `L`: since then only markers were logged -/
def StInv (L : List Obs) (k : Nat) (s : St) : Prop :=
  s.stopped = true ∧ s.connected = false ∧
  ∃ ms, s.log = L ++ Obs.ev k :: fin :: ms ∧ ∀ o ∈ ms, isMk o = true

/-- an unconnected copier whose timer is idle, or stale (the copier was stopped): whatever the
    source announces and whatever timer fires, nothing is logged and nothing moves -/
theorem step_inert (c : Cfg) (s : St) (e : Ev) (hc : s.connected = false)
    (hp : s.pending = .none ∨ s.stopped = true) (he : e ≠ .start) (he' : e ≠ .stop) :
    (step c s e).log = s.log ∧ (step c s e).connected = false ∧ (step c s e).stopped = s.stopped ∧
    (step c s e).pos = s.pos ∧ (s.pending = .none ∨ e = .turn → (step c s e).pending = .none) := by
  cases e with
  | start => exact absurd rfl he
  | stop => exact absurd rfl he'
  | turn =>
    simp only [step]
    cases hpd : s.pending with
    | none => exact ⟨rfl, hc, rfl, rfl, fun _ => hpd⟩
    | nextBlock =>
      have hs : s.stopped = true := hp.resolve_left (by rw [hpd]; exact Pending.noConfusion)
      have : nextBlock c { s with pending := .none } = { s with pending := .none } := by
        unfold nextBlock; exact if_pos hs
      rw [this]; exact ⟨rfl, hc, rfl, rfl, fun _ => rfl⟩
    | readyRead =>
      have hs : s.stopped = true := hp.resolve_left (by rw [hpd]; exact Pending.noConfusion)
      have : onReadyRead c { s with pending := .none } = { s with pending := .none } := by
        unfold onReadyRead; exact if_pos hs
      rw [this]; exact ⟨rfl, hc, rfl, rfl, fun _ => rfl⟩
  | arrive b =>
    simp only [step]
    split
    · exact ⟨rfl, hc, rfl, rfl, fun h => h.elim id (fun h => nomatch h)⟩
    · rw [if_neg (by rw [hc]; exact Bool.false_ne_true)]; exact ⟨rfl, hc, rfl, rfl, fun h => h.elim id (fun h => nomatch h)⟩
  | eof =>
    simp only [step]
    split
    · exact ⟨rfl, hc, rfl, rfl, fun h => h.elim id (fun h => nomatch h)⟩
    · rw [if_neg (by rw [hc]; exact Bool.false_ne_true)]; exact ⟨rfl, hc, rfl, rfl, fun h => h.elim id (fun h => nomatch h)⟩
  | arriveQ b =>
    simp only [step]
    split <;> exact ⟨rfl, hc, rfl, rfl, fun h => h.elim id (fun h => nomatch h)⟩

theorem stop_stinv (c : Cfg) (s : St) (k : Nat) : StInv s.log k (step c (mk s k) .stop) :=
  ⟨rfl, rfl, [], by simp [step, stop, mk], by simp⟩

theorem step_stinv (c : Cfg) (L : List Obs) (k0 : Nat) (s : St) (k : Nat) (e : Ev)
    (he : e ≠ .start ∧ e ≠ .stop) (h : StInv L k0 s) : StInv L k0 (step c (mk s k) e) := by
  obtain ⟨hs, hc, ms, em, pm⟩ := h
  obtain ⟨d, b, a, _⟩ := step_inert c (mk s k) e hc (Or.inr hs) he.1 he.2
  refine ⟨a.trans hs, b, ms ++ [Obs.ev k], ?_, ?_⟩
  · rw [d]; simp [mk, em]
  · intro o ho
    rcases List.mem_append.1 ho with ho | ho
    · exact pm o ho
    · simp at ho; subst ho; rfl

/-- the run up to and after a `stop`: the log is the log before, the marker of the stop event,
    the `fin` that `stop()` signals, then markers only -/
theorem run_stop (c : Cfg) (pre post : List Ev) (hpost : ∀ e ∈ post, e ≠ .start ∧ e ≠ .stop) :
    Obs.ev pre.length ∉ (run c pre).log ∧
    ∃ ms, (run c (pre ++ .stop :: post)).log = (run c pre).log ++ Obs.ev pre.length :: fin :: ms ∧
          ∀ o ∈ ms, isMk o = true := by
  refine ⟨fun h => Nat.lt_irrefl _ (run_minv c pre _ h), ?_⟩
  rw [run_append, runFrom_cons]
  obtain ⟨_, _, ms, em, pm⟩ := runFrom_inv c _ _ (step_stinv c (run c pre).log pre.length) post _
    (pre.length + 1) hpost (stop_stinv c (run c pre) pre.length)
  exact ⟨ms, em, pm⟩

theorem Running.marker {c : Cfg} {nt : Nat} {s : St} (h : Running c nt s) (k : Nat) : Running c nt (C14L.mk s k) := by
  refine ⟨h.pending, h.stopped, h.reads, h.writes, h.pos, h.more, ?_, ?_, ?_, h.startok, h.nofault⟩
  · exact (written_snoc_ev s.log k).trans h.wr
  · exact (cnt_snoc_ev isFin_ev s.log k).trans h.nofin
  · exact (cnt_snoc_ev isErr_ev s.log k).trans h.noerr

theorem Done.marker {c : Cfg} {s : St} (h : Done c s) (k : Nat) : Done c (C14L.mk s k) := by
  have hw := written_snoc_ev s.log k
  have he := cnt_snoc_ev isErr_ev s.log k
  refine ⟨h.pending, h.closed.snoc_mk k, ?_, ?_⟩
  · show written (s.log ++ [Obs.ev k]) <+: _
    rw [hw]; exact h.pre
  · show (Obs.countP isErr (s.log ++ [Obs.ev k]) = 0 ∧ written (s.log ++ [Obs.ev k]) = _ ∧ _) ∨
         (Obs.countP isErr (s.log ++ [Obs.ev k]) = 1 ∧ _)
    rw [hw, he]; exact h.res

def NInv (c : Cfg) (nt : Nat) (s : St) : Prop := Running c nt s ∨ Done c s

theorem startFails_nonseq (c : Cfg) (hseq : c.seq = false) (hr : RangeNF c) :
    startFails c = (c.srcOpenFails || c.dstOpenFails || (decide (rangeFrom c > 0) && c.seekFails)) := by
  have hl := hr.from_le
  have e1 : seekNeeded c = decide (rangeFrom c > 0) := by
    simp only [seekNeeded, hseq, Bool.not_false, Bool.and_true]
  have e2 : decide ((rangeFrom c).toNat > c.src.length) = false := by
    simp; omega
  simp only [startFails, e1, e2, Bool.or_false]

theorem startFails_of_noFault (c : Cfg) (hnf : anyFault c = false) (h : c.seq = true ∨ RangeNF c) :
    startFails c = false := by
  simp only [anyFault, Bool.or_eq_false_iff] at hnf
  obtain ⟨⟨⟨⟨h1, h2⟩, h3⟩, _⟩, _⟩ := hnf
  cases hseq : c.seq
  · rcases h with h | h
    · rw [hseq] at h; cases h
    · rw [startFails_nonseq c hseq h, h1, h2, h3]; simp
  · simp [startFails, seekNeeded, hseq, h1, h2]

/-- a copier on which `start()` begins a (new) run: the timer is idle, no copier signal is in the
    log yet, no device call has been counted, the source stands at `prePos` -/
structure Fresh (c : Cfg) (s : St) : Prop where
  pos : s.pos = c.prePos
  pending : s.pending = .none
  reads : s.reads = 0
  writes : s.writes = 0
  nowr : written s.log = []
  nofin : Obs.countP isFin s.log = 0
  noerr : Obs.countP isErr s.log = 0

theorem fresh_init (c : Cfg) : Fresh c (init c) :=
  ⟨rfl, rfl, rfl, rfl, rfl, rfl, rfl⟩

/-- the block loop after `nt` turns: armed for block `nt`, or over — and when it is over without an
    error, everything wanted was written, within the `nt ≥ 1` blocks.  `NInv` (below), the
    fault-free invariant of C14StopIn.lean and "a fault-free copy is still running while bytes
    remain" (`Loop.running`) are read off this one invariant. -/
def Loop (c : Cfg) (nt : Nat) (s : St) : Prop :=
  Running c nt s ∨
  (Done c s ∧ (Obs.countP isErr s.log = 0 →
     written s.log = wanted c ∧ (wanted c).length ≤ nt * c.block ∧ 1 ≤ nt))

theorem Loop.ninv {c : Cfg} {nt : Nat} {s : St} (h : Loop c nt s) : NInv c nt s := h.imp id (·.1)

theorem Loop.marker {c : Cfg} {nt : Nat} {s : St} (h : Loop c nt s) (k : Nat) : Loop c nt (C14L.mk s k) :=
  h.imp (·.marker k) fun ⟨hd, hq⟩ =>
    ⟨hd.marker k, fun he => by
      have := hq ((cnt_snoc_ev isErr_ev s.log k).symm.trans he)
      exact ⟨(written_snoc_ev s.log k).trans this.1, this.2⟩⟩

theorem start_fresh_nonseq (c : Cfg) (hseq : c.seq = false) (hr : RangeNF c) (s : St) (k : Nat)
    (hf : Fresh c s) : Loop c 0 (start c (mk s k)) := by
  have hw : written (s.log ++ [Obs.ev k]) = [] := (written_snoc_ev s.log k).trans hf.nowr
  have hfin : Obs.countP isFin (s.log ++ [Obs.ev k]) = 0 := (cnt_snoc_ev isFin_ev s.log k).trans hf.nofin
  have herr : Obs.countP isErr (s.log ++ [Obs.ev k]) = 0 := (cnt_snoc_ev isErr_ev s.log k).trans hf.noerr
  rw [start_eq]
  cases hsf : startFails c
  · refine Or.inl ?_
    simp only [Bool.false_eq_true, if_false, hseq]
    refine ⟨rfl, rfl, hf.reads, hf.writes, ?_, Or.inl rfl, ?_, hfin, herr, hsf, by intro j hj; omega⟩
    · show (if seekNeeded c = true then (rangeFrom c).toNat else s.pos) = f0 c + 0 * c.block
      rw [hf.pos]
      cases hsn : seekNeeded c
      · simp only [seekNeeded, hseq, Bool.not_false, Bool.and_true, decide_eq_false_iff_not] at hsn
        rw [f0_of_zero c hsn]; simp
      · simp only [seekNeeded, hseq, Bool.not_false, Bool.and_true, decide_eq_true_eq] at hsn
        rw [f0_of_pos c hsn]; simp
    · show written (s.log ++ [Obs.ev k]) = _
      rw [hw]; simp
  · simp only [if_true]
    have he1 : Obs.countP isErr (s.log ++ [Obs.ev k] ++ [err, fin]) = 1 := by rw [cntErr_err_fin, herr]
    refine Or.inr ⟨⟨hf.pending, Closed.of_err_fin hfin, ?_, Or.inr ⟨he1, ?_⟩⟩, fun h0 => nomatch he1.symm.trans h0⟩
    · show written (s.log ++ [Obs.ev k] ++ [err, fin]) <+: _
      rw [written_err_fin, hw]; exact List.nil_prefix
    · rw [startFails_nonseq c hseq hr] at hsf
      simp only [anyFault]
      cases h1 : c.srcOpenFails <;> cases h2 : c.dstOpenFails <;> cases h3 : c.seekFails <;> simp_all

theorem start_init_nonseq (c : Cfg) (hseq : c.seq = false) (hr : RangeNF c) :
    NInv c 0 (start c (mk (init c) 0)) ∧
    (startFails c = true → (start c (mk (init c) 0)).log = [Obs.ev 0, err, fin] ∧
                            (start c (mk (init c) 0)).pending = .none) := by
  refine ⟨(start_fresh_nonseq c hseq hr _ 0 (fresh_init c)).ninv, ?_⟩
  intro hsf
  rw [start_eq]
  simp only [hsf, if_true]
  exact ⟨rfl, rfl⟩

theorem step_turn_done (c : Cfg) (s : St) (k : Nat) (h : s.pending = .none) :
    step c (mk s k) .turn = mk s k := by
  simp only [step]
  have : (mk s k).pending = .none := h
  rw [this]

theorem step_nonseq (c : Cfg) (hseq : c.seq = false) (s : St) (e : Ev)
    (he : e ≠ .start) (he' : e ≠ .stop) (ht : e ≠ .turn) : step c s e = s := by
  cases e with
  | start => exact absurd rfl he
  | stop => exact absurd rfl he'
  | turn => exact absurd rfl ht
  | _ => simp [step, hseq]

theorem nTurns_of_ne {e : Ev} (h : e ≠ .turn) : nTurns [e] = 0 := by
  simp [nTurns, h]

theorem step_loop (c : Cfg) (hseq : c.seq = false) (hr : RangeNF c)
    (nt : Nat) (s : St) (k : Nat) (e : Ev) (he : e ≠ .start ∧ e ≠ .stop) (h : Loop c nt s) :
    Loop c (nt + nTurns [e]) (step c (mk s k) e) := by
  by_cases ht : e = .turn
  · subst ht
    rcases h with h | ⟨hd, hq⟩
    · have hm := h.marker k
      have hp : (mk s k).pending = .nextBlock := hm.pending
      have : step c (mk s k) .turn = nextBlock c { mk s k with pending := .none } := by
        simp only [step]; rw [hp]
      rw [this]
      cases hf : faultAt c nt
      · exact (nextBlock_ok c hr nt _ hm hf).imp (·.1)
          fun ⟨hd, _, hw, hl⟩ => ⟨hd, fun _ => ⟨hw, hl, Nat.succ_pos nt⟩⟩
      · obtain ⟨hd, he1, _⟩ := nextBlock_fault c nt _ hm hf
        exact Or.inr ⟨hd, fun h0 => nomatch he1.symm.trans h0⟩
    · rw [step_turn_done c s k hd.pending]
      refine (Loop.marker (Or.inr ⟨hd, fun h0 => ?_⟩) k)
      obtain ⟨hw, hl, _⟩ := hq h0
      exact ⟨hw, Nat.le_trans hl (Nat.mul_le_mul_right _ (Nat.le_succ nt)), Nat.succ_pos nt⟩
  · rw [step_nonseq c hseq _ e he.1 he.2 ht, nTurns_of_ne ht]
    exact h.marker k

theorem runFrom_start_loop (c : Cfg) (hseq : c.seq = false) (hr : RangeNF c)
    (s : St) (k : Nat) (hf : Fresh c s) (r : List Ev) (hrs : ∀ e ∈ r, e ≠ .start ∧ e ≠ .stop) :
    Loop c (nTurns r) (runFrom c (s, k) (.start :: r)).1 := by
  have := runFrom_induct c _ (fun d s => Loop c (nTurns d) s) (k + 1)
    (fun d s e he h => by rw [nTurns_append]; exact step_loop c hseq hr _ s _ e he h)
    r [] _ hrs (start_fresh_nonseq c hseq hr s k hf)
  rwa [List.nil_append] at this

theorem run_loop (c : Cfg) (hseq : c.seq = false) (hr : RangeNF c)
    (r : List Ev) (hrs : ∀ e ∈ r, e ≠ .start ∧ e ≠ .stop) : Loop c (nTurns r) (run c (.start :: r)) :=
  runFrom_start_loop c hseq hr (init c) 0 (fresh_init c) r hrs

theorem run_ninv (c : Cfg) (hseq : c.seq = false) (hr : RangeNF c)
    (r : List Ev) (hrs : ∀ e ∈ r, e ≠ .start ∧ e ≠ .stop) : NInv c (nTurns r) (run c (.start :: r)) :=
  (run_loop c hseq hr r hrs).ninv

theorem run_turns_loop (c : Cfg) (hseq : c.seq = false) (hr : RangeNF c) (n : Nat) :
    Loop c n (run c (.start :: List.replicate n .turn)) := by
  have := run_loop c hseq hr _ (turns_quiet n)
  rwa [nTurns_replicate] at this

theorem Done.noerr {c : Cfg} {s : St} (h : Done c s) (hnf : anyFault c = false) :
    Obs.countP isErr s.log = 0 :=
  h.res.elim (·.1) fun ⟨_, hf⟩ => nomatch hnf.symm.trans hf

theorem Done.exact {c : Cfg} {s : St} (h : Done c s) (hnf : anyFault c = false) : written s.log = wanted c :=
  (h.res.resolve_right fun h' => nomatch hnf.symm.trans h'.2).2.1

theorem Loop.running {c : Cfg} {m : Nat} {s : St} (h : Loop c m s) (hnf : anyFault c = false)
    (hm : m = 0 ∨ m * c.block < (wanted c).length) : Running c m s := by
  rcases h with h | ⟨hd, hq⟩
  · exact h
  · obtain ⟨_, hl, h1⟩ := hq (hd.noerr hnf)
    omega

theorem NInv.done {c : Cfg} {nt : Nat} {s : St} (h : NInv c nt s) (hb : 1 ≤ c.block)
    (hn : nt ≥ (wanted c).length / c.block + 1) : Done c s := by
  rcases h with h | h
  · exfalso
    have h1 := Nat.lt_mul_div_succ (wanted c).length (show 0 < c.block by omega)
    have h2 : ((wanted c).length / c.block + 1) * c.block ≤ nt * c.block := Nat.mul_le_mul_right _ hn
    rw [Nat.mul_comm] at h1
    generalize (wanted c).length / c.block = q at *
    rcases h.more with h0 | hlt <;> omega
  · exact h

theorem NInv.prefix {c : Cfg} {nt : Nat} {s : St} (h : NInv c nt s) : written s.log <+: wanted c := by
  rcases h with h | h
  · rw [h.wr]; exact List.take_prefix _ _
  · exact h.pre


theorem NInv.no_wrote_after {c : Cfg} {nt : Nat} {s : St} (h : NInv c nt s) :
    Obs.countP isWrote ((s.log.dropWhile (fun o => !isFin o)).drop 1) = 0 := by
  rcases h with h | h
  · rw [dropWhile_notFin_of_cnt h.nofin]; rfl
  · exact h.closed.no_wrote_after

theorem run_turns_done (c : Cfg) (hseq : c.seq = false) (hb : 1 ≤ c.block) (hr : RangeNF c) (n : Nat)
    (hn : n ≥ (wanted c).length / c.block + 1) : Done c (run c (.start :: List.replicate n .turn)) :=
  (run_turns_loop c hseq hr n).ninv.done hb hn

theorem runFrom_idle (c : Cfg) : ∀ (n : Nat) (s : St) (k : Nat), s.pending = .none →
    (runFrom c (s, k) (List.replicate n Ev.turn)).1 =
      { s with log := s.log ++ (List.range' k n).map Obs.ev } := by
  intro n
  induction n with
  | zero => intro s k _; simp [runFrom]
  | succ n ih =>
    intro s k h
    rw [List.replicate_succ, runFrom_cons, step_turn_done c s k h, ih _ _ (show (mk s k).pending = .none from h)]
    simp [mk, List.range'_succ]

theorem range'_map_mk (k n : Nat) : ∀ o ∈ (List.range' k n).map Obs.ev, isMk o = true := by
  intro o ho
  simp only [List.mem_map] at ho
  obtain ⟨j, _, rfl⟩ := ho
  rfl

/-- a block read at `p`, beyond the range end `t ≥ 0`: the count handed to `write` is
    `t + 1 - p ≤ 0`, nothing is written, and the copy is over -/
theorem reversed_block (c : Cfg) (t : Int) (p : Nat) (e2 : rangeTo c = t) (ht0 : 0 ≤ t) (htf : t < p)
    (h5' : c.writeFailAt = none) :
    nbDone c p = true ∧ wr (nbD c p) = [] ∧ wfail c 0 (nbN c p) = decide (t + 1 < (p : Int)) := by
  have hpast : nbPast c p = true := by
    rw [nbPast_some (tn := t.toNat) (by rw [e2]; omega)]; exact decide_eq_true (by omega)
  have hn : nbN c p = t + 1 - p := by
    rw [nbN, hpast, if_pos rfl, e2, nbPos]; omega
  have hdone : nbDone c p = true := by simp [nbDone, hpast]
  have hd : wr (nbD c p) = [] := by
    have : nbD c p = [] := by
      simp only [nbD, hn]
      have : (t + 1 - (p : Int)).toNat = 0 := by omega
      rw [this]; rfl
    rw [this]; rfl
  have hwf : wfail c 0 (nbN c p) = decide (t + 1 < (p : Int)) := by
    simp only [wfail, hn, h5']
    by_cases h : t + 1 < (p : Int)
    · simp [h]; omega
    · simp [h]; omega
  exact ⟨hdone, hd, hwf⟩

/-- `setRange(f, t)` with `0 ≤ t < p ≤ |src|` on a random-access source, where `p` is the position
    of the first byte (`f` if > 0, else where the source stands), no device fault: the first block
    is cut to `t + 1 - p ≤ 0` bytes; a negative count makes `write` fail (error, then completion),
    the count 0 (`t = p - 1`, the empty range) just completes -/
theorem run_reversed (c : Cfg) (hseq : c.seq = false) (hnf : anyFault c = false) (f t : Int)
    (hrange : c.range = some (f, t)) (ht0 : 0 ≤ t) (htf : t < firstPos c) (hfl : firstPos c ≤ c.src.length) (n : Nat) :
    (run c (.start :: List.replicate (n + 1) Ev.turn)).log =
      [Obs.ev 0, Obs.ev 1] ++ (if t + 1 < firstPos c then [err, fin] else [fin]) ++ (List.range' 2 n).map Obs.ev ∧
    (run c (.start :: List.replicate (n + 1) Ev.turn)).pending = .none := by
  have e1 : rangeFrom c = f := by simp [rangeFrom, hrange]
  have e2 : rangeTo c = t := by simp [rangeTo, hrange]
  simp only [anyFault, Bool.or_eq_false_iff] at hnf
  obtain ⟨⟨⟨⟨h1, h2⟩, h3⟩, h4⟩, h5⟩ := hnf
  have h4' : c.readFailAt = none := by cases h : c.readFailAt <;> simp_all
  have h5' : c.writeFailAt = none := by cases h : c.writeFailAt <;> simp_all
  have hpos : (if seekNeeded c = true then (rangeFrom c).toNat else c.prePos) = firstPos c := by
    simp only [seekNeeded, hseq, Bool.not_false, Bool.and_true, decide_eq_true_eq, firstPos]
  generalize firstPos c = p at htf hfl hpos ⊢
  have hsf : startFails c = false := by
    simp only [startFails, h1, h2, h3, Bool.false_or, Bool.and_eq_false_iff, decide_eq_false_iff_not]
    cases hsn : seekNeeded c
    · exact Or.inl rfl
    · right; rw [hsn] at hpos; simp only [if_true] at hpos; omega
  rw [run_eq, runFrom_cons, List.replicate_succ, runFrom_cons]
  have hst : step c (mk (init c) 0) .start = start c (mk (init c) 0) := rfl
  rw [hst, start_eq]
  simp only [hsf, Bool.false_eq_true, if_false, hseq]
  have hp0 : (mk (init c) 0).pos = c.prePos := rfl
  rw [hp0, hpos]
  have hturn : ∀ s : St, s.pending = .nextBlock → step c s .turn = nextBlock c { s with pending := .none } := by
    intro s hs; simp only [step]; rw [hs]
  rw [hturn _ rfl, nextBlock_eq _ _ rfl]
  simp only [h4', mk]
  obtain ⟨hdone, hd, hwf⟩ := reversed_block c t p e2 ht0 htf h5'
  have hr0 : (init c).reads = 0 := rfl
  have hw0 : (init c).writes = 0 := rfl
  have hl0 : (init c).log = [] := rfl
  simp only [hr0, hw0, hl0]
  by_cases hlt : t + 1 < (p : Int)
  · simp only [hlt, if_true, decide_true] at hwf ⊢
    simp only [show (none == some 0) = false from rfl, Bool.false_eq_true, if_false, hwf, if_true]
    rw [runFrom_idle c n _ _ rfl]
    simp
  · simp only [hlt, if_false, decide_false] at hwf ⊢
    simp only [show (none == some 0) = false from rfl, Bool.false_eq_true, if_false, hwf, hd, hdone, if_true]
    rw [runFrom_idle c n _ _ rfl]
    simp

end Qhttp.C14L
