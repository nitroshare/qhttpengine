import Qhttp.Lemmas.C19Mark
/-
  C19: the run preserves `MS c`.  Between two external events the ghost flag `c` is "an earlier
  event was a closing API call from idle context": the Socket object is then gone or its device
  closed, and this stays so.
-/
namespace Qhttp.C19L
open Qhttp Qhttp.Obs Qhttp.Sock

variable {env : Env} {app : App} {c : Bool} {s : Sock}

theorem MS_steps (happ : AppM app) (c : Bool) : StepClosed env app (MS c) where
  same := fun _ _ hs h => MS_same hs h
  bad := fun _ h => fin_MS happ (writeError_frame (MS_frame c) env _ _ h)
  hp := fun _ _ hs _ _ h => emit_MS happ .hp rfl rfl _ (happ.hp _) (MS_same hs h)
  rr := fun _ h => emit_MS happ .rr rfl rfl _ (happ.rr _) h
  rcf := fun _ h => emit_MS happ .rcf rfl rfl _ (happ.rcf _) h
  bw := fun _ b h => emit_MS happ (.bw b) rfl rfl _ (happ.bw _) h
  tcp := fun _ _ ho h => MS_of_eq ho rfl rfl h
  dc := fun _ h => emitDc_MS happ h
  del := fun _ h => MSf_snoc .del rfl (fun x => by cases x) (MSf_dead h)

/-- an API call from idle context does not fake a write and writes the record only under `c` -/
def evOKM (c : Bool) : Event → Bool
  | .api op => nwOp op && (!markOp op || c)
  | _ => true

def evC (c : Bool) : Event → Bool
  | .api op => c || closesOp op
  | _ => c

def evsFrom (c : Bool) : List Event → Bool
  | [] => true
  | e :: rest => evOKM c e && evsFrom (evC c e) rest

theorem run_MS (happ : AppM app) (evs : List Event) (hevs : evsFrom false evs = true) :
    ((Sock.run env app evs).log.any isMark = true → (Sock.run env app evs).tcp.devOpen = false) ∧
    wac (Sock.run env app evs).log = false := by
  obtain ⟨c, _, h⟩ := run_induct_alive env app evs
    (fun _ rest s => ∃ c, evsFrom c rest = true ∧ MS c s) ⟨false, hevs, MSf_init⟩
    (by
      intro k e rest s hal ⟨c, hall, h⟩
      simp only [evsFrom, Bool.and_eq_true] at hall
      unfold MS at h
      rw [hal] at h
      exact ⟨_, hall.2, by unfold MS; rw [hal]; exact MSf_dead h⟩)
    (by
      intro k e rest s _ hal ⟨c, hall, h⟩
      simp only [evsFrom, Bool.and_eq_true] at hall
      have h' : MS c { s with log := s.log ++ [.ev k] } :=
        MS_note (.ev k) rfl (fun x => by cases x) h
      refine ⟨_, hall.2, ?_⟩
      cases e with
      | api op =>
        simp only [evOKM, Bool.and_eq_true] at hall
        rw [step_api env app op (s := { s with log := s.log ++ [.ev k] }) hal]
        exact api_MS happ hall.1.1 (mark_needs hall.1.2) h'
      | _ => exact (MS_steps happ c).step (fun _ x => Event.noConfusion x) h')
  exact ⟨h.1, h.2.1⟩

end Qhttp.C19L
