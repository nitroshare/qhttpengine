import Qhttp.Model.Bytes
/-
  `breakOn`, `splitF`/`split` and `joinWith` (Model/Bytes.lean), core only.
  `breakOn d xs = some (a, r)` says that `xs = a ++ d ++ r` with the shortest possible `a`
  (`breakOn_eq_some_iff`); everything else is derived from that.
-/
namespace Qhttp

theorem breakOn_nil (d : Bytes) :
    breakOn d [] = if d.isPrefixOf [] then some ([], []) else none := by
  rw [breakOn]; simp only [List.drop_nil]

theorem breakOn_cons (d : Bytes) (x : UInt8) (xs : Bytes) :
    breakOn d (x :: xs) =
      if d.isPrefixOf (x :: xs) then some ([], (x :: xs).drop d.length)
      else (breakOn d xs).map (fun p => (x :: p.1, p.2)) := by
  rw [breakOn]
  split
  · rfl
  · cases breakOn d xs with
    | none => rfl
    | some p => rfl

theorem breakOn_of_prefix {d xs : Bytes} (h : d <+: xs) :
    breakOn d xs = some ([], xs.drop d.length) := by
  have h' : d.isPrefixOf xs = true := List.isPrefixOf_iff_prefix.2 h
  cases xs with
  | nil => rw [breakOn_nil, if_pos h']; simp
  | cons x xs => rw [breakOn_cons, if_pos h']

theorem breakOn_cons_of_not_prefix {d : Bytes} {x : UInt8} {xs : Bytes} (h : ¬ d <+: x :: xs) :
    breakOn d (x :: xs) = (breakOn d xs).map (fun p => (x :: p.1, p.2)) := by
  have h' : ¬ d.isPrefixOf (x :: xs) = true := fun c => h (List.isPrefixOf_iff_prefix.1 c)
  rw [breakOn_cons, if_neg h']

/-- one induction for `breakOn_some`, `breakOn_min` and `breakOn_none` -/
theorem breakOn_spec (d xs : Bytes) :
    (∀ a r, breakOn d xs = some (a, r) →
      xs = a ++ d ++ r ∧ ∀ a' r', xs = a' ++ d ++ r' → a.length ≤ a'.length) ∧
    (breakOn d xs = none → ¬ d <:+: xs) := by
  induction xs with
  | nil =>
    rw [breakOn_nil]
    by_cases hp : d.isPrefixOf [] = true
    · have hd : d = [] := by simpa using hp
      rw [if_pos hp]
      refine ⟨fun a r h => ?_, fun h => by cases h⟩
      cases h
      subst hd
      exact ⟨rfl, fun _ _ _ => Nat.zero_le _⟩
    · rw [if_neg hp]
      refine ⟨fun a r h => (by cases h), fun _ c => hp ?_⟩
      have : d = [] := by simpa using c
      simp [this]
  | cons x xs ih =>
    by_cases hp : d <+: x :: xs
    · rw [breakOn_of_prefix hp]
      refine ⟨fun a r h => ?_, fun h => by cases h⟩
      cases h
      exact ⟨by simpa using (List.prefix_iff_eq_append.1 hp).symm, fun _ _ _ => Nat.zero_le _⟩
    · rw [breakOn_cons_of_not_prefix hp]
      cases hb : breakOn d xs with
      | none =>
        refine ⟨fun a r h => (by cases h), fun _ c => ?_⟩
        rcases List.infix_cons_iff.1 c with c | c
        · exact hp c
        · exact ih.2 hb c
      | some p =>
        obtain ⟨he, hm⟩ := ih.1 p.1 p.2 hb
        refine ⟨fun a r h => ?_, fun h => by cases h⟩
        cases h
        refine ⟨by simp [← he], fun a' r' h' => ?_⟩
        -- a decomposition with empty left part would make `d` a prefix
        cases a' with
        | nil => exact absurd ⟨r', by simpa using h'.symm⟩ hp
        | cons y a0' =>
          simp only [List.cons_append, List.cons.injEq] at h'
          simpa using hm _ _ h'.2

theorem breakOn_some {d xs a r : Bytes} (h : breakOn d xs = some (a, r)) : xs = a ++ d ++ r :=
  ((breakOn_spec d xs).1 a r h).1

theorem breakOn_min {d xs a r : Bytes} (h : breakOn d xs = some (a, r))
    {a' r' : Bytes} (h' : xs = a' ++ d ++ r') : a.length ≤ a'.length :=
  ((breakOn_spec d xs).1 a r h).2 a' r' h'

theorem breakOn_none {d xs : Bytes} (h : breakOn d xs = none) : ¬ d <:+: xs :=
  (breakOn_spec d xs).2 h

theorem breakOn_length {d xs a r : Bytes} (h : breakOn d xs = some (a, r)) :
    xs.length = a.length + d.length + r.length := by
  rw [breakOn_some h]; simp only [List.length_append]

theorem breakOn_length_lt {d xs a r : Bytes} (hd : d ≠ []) (h : breakOn d xs = some (a, r)) :
    r.length < xs.length := by
  have := breakOn_length h
  have : 0 < d.length := List.length_pos_iff.2 hd
  omega

/-- first occurrence, infix formulation: `d` does not occur in `a ++ d` before position `|a|` -/
theorem breakOn_not_infix_left {d xs a r : Bytes} (hd : d ≠ []) (h : breakOn d xs = some (a, r)) :
    ¬ d <:+: a ++ d.dropLast := by
  rintro ⟨s, t, hst⟩
  have hx := breakOn_some h
  have hdl : d = d.dropLast ++ [d.getLast hd] := (List.dropLast_concat_getLast hd).symm
  have e : xs = s ++ d ++ (t ++ [d.getLast hd] ++ r) := by
    rw [hx]
    conv => lhs; rw [hdl]
    rw [← List.append_assoc a, ← hst]
    simp [List.append_assoc]
  have h1 := breakOn_min h e
  have h2 : (s ++ d ++ t).length = (a ++ d.dropLast).length := by rw [hst]
  have : 0 < d.length := List.length_pos_iff.2 hd
  simp only [List.length_append, List.length_dropLast] at h2
  omega

theorem breakOn_not_infix_fst {d xs a r : Bytes} (hd : d ≠ []) (h : breakOn d xs = some (a, r)) :
    ¬ d <:+: a := fun c =>
  breakOn_not_infix_left hd h (List.infix_append_iff.2 (Or.inl c))

theorem breakOn_some_infix {d xs a r : Bytes} (h : breakOn d xs = some (a, r)) : d <:+: xs :=
  ⟨a, r, (breakOn_some h).symm⟩

theorem breakOn_eq_none_iff {d xs : Bytes} : breakOn d xs = none ↔ ¬ d <:+: xs := by
  refine ⟨breakOn_none, fun h => ?_⟩
  cases hb : breakOn d xs with
  | none => rfl
  | some p => exact absurd (breakOn_some_infix (a := p.1) (r := p.2) hb) h

theorem breakOn_isSome_iff {d xs : Bytes} : (breakOn d xs).isSome ↔ d <:+: xs := by
  cases hb : breakOn d xs with
  | none => simpa using breakOn_none hb
  | some p => simpa using breakOn_some_infix (a := p.1) (r := p.2) hb

theorem isInfixB_iff {d xs : Bytes} : isInfixB d xs = true ↔ d <:+: xs := breakOn_isSome_iff

theorem breakOn_eq_some_iff {d xs a r : Bytes} :
    breakOn d xs = some (a, r) ↔
      xs = a ++ d ++ r ∧ ∀ a' r', xs = a' ++ d ++ r' → a.length ≤ a'.length := by
  refine ⟨fun h => ⟨breakOn_some h, fun _ _ h' => breakOn_min h h'⟩, fun ⟨he, hm⟩ => ?_⟩
  cases hb : breakOn d xs with
  | none => exact absurd ⟨a, r, he.symm⟩ (breakOn_none hb)
  | some p =>
    obtain ⟨a2, r2⟩ := p
    have e2 := breakOn_some hb
    have l1 := breakOn_min hb he
    have l2 := hm a2 r2 e2
    have hl : a2.length = a.length := by omega
    rw [e2, List.append_assoc, List.append_assoc] at he
    obtain ⟨h1, h2⟩ := List.append_inj he hl
    have h3 := List.append_cancel_left h2
    rw [h1, h3]

theorem breakOn_of_not_infix {d a : Bytes} (r : Bytes) (hd : d ≠ [])
    (h : ¬ d <:+: a ++ d.dropLast) : breakOn d (a ++ d ++ r) = some (a, r) := by
  rw [breakOn_eq_some_iff]
  refine ⟨rfl, fun a' r' he => ?_⟩
  apply Nat.le_of_not_lt
  intro hlt
  apply h
  -- `a' ++ d` is a prefix of `a ++ d.dropLast`
  have hdl : d = d.dropLast ++ [d.getLast hd] := (List.dropLast_concat_getLast hd).symm
  have e : (a ++ d.dropLast) ++ ([d.getLast hd] ++ r) = (a' ++ d) ++ r' := by
    rw [← he]
    conv => rhs; rw [hdl]
    simp [List.append_assoc]
  have hlen : (a' ++ d).length ≤ (a ++ d.dropLast).length := by
    have : 0 < d.length := List.length_pos_iff.2 hd
    simp only [List.length_append, List.length_dropLast]
    omega
  have hp : a' ++ d <+: a ++ d.dropLast :=
    List.prefix_of_prefix_length_le ⟨r', e.symm⟩ ⟨_, rfl⟩ hlen
  obtain ⟨t, ht⟩ := hp
  exact ⟨a', t, ht⟩

theorem breakOn_append {d xs a r : Bytes} (ys : Bytes) (h : breakOn d xs = some (a, r)) :
    breakOn d (xs ++ ys) = some (a, r ++ ys) := by
  have hx := breakOn_some h
  refine breakOn_eq_some_iff.2 ⟨by rw [hx, List.append_assoc], fun a' r' he => ?_⟩
  -- an occurrence that starts earlier would end inside `xs` already
  apply Nat.le_of_not_lt
  intro hlt
  have hlen : (a' ++ d).length ≤ xs.length := by
    rw [hx]; simp only [List.length_append]; omega
  obtain ⟨t, ht⟩ := List.prefix_of_prefix_length_le ⟨r', he.symm⟩ ⟨ys, rfl⟩ hlen
  exact absurd (breakOn_min h ht.symm) (by omega)

theorem breakOn_none_of_append {d xs ys : Bytes} (h : breakOn d (xs ++ ys) = none) :
    breakOn d xs = none := by
  rw [breakOn_eq_none_iff] at h ⊢
  exact fun c => h (List.infix_append_iff.2 (Or.inl c))

theorem breakOn_self (d xs : Bytes) : breakOn d (d ++ xs) = some ([], xs) := by
  rw [breakOn_of_prefix (List.prefix_append d xs), List.drop_left]

theorem breakOn_cons_ne {c x : UInt8} (d xs : Bytes) (h : x ≠ c) :
    breakOn (c :: d) (x :: xs) = (breakOn (c :: d) xs).map (fun p => (x :: p.1, p.2)) :=
  breakOn_cons_of_not_prefix (fun hp => h (List.cons_prefix_cons.1 hp).1.symm)

theorem breakOn_skip {c : UInt8} {d l : Bytes} (rest : Bytes) (h : c ∉ l) :
    breakOn (c :: d) (l ++ rest) = (breakOn (c :: d) rest).map (fun p => (l ++ p.1, p.2)) := by
  induction l with
  | nil =>
    rw [List.nil_append]
    cases breakOn (c :: d) rest <;> rfl
  | cons x l ih =>
    rw [List.cons_append, breakOn_cons_ne _ _ (fun e => h (List.mem_cons.2 (Or.inl e.symm))),
      ih (fun e => h (List.mem_cons_of_mem _ e))]
    cases breakOn (c :: d) rest <;> rfl

theorem breakOn_found {c : UInt8} {d l : Bytes} (rest : Bytes) (h : c ∉ l) :
    breakOn (c :: d) (l ++ (c :: d) ++ rest) = some (l, rest) := by
  rw [List.append_assoc, breakOn_skip _ h, breakOn_self]
  simp only [Option.map_some, List.append_nil]

theorem breakOn_eq_none_of_not_mem {c : UInt8} {d l : Bytes} (h : c ∉ l) :
    breakOn (c :: d) l = none := by
  rw [breakOn_eq_none_iff]
  rintro ⟨s, t, rfl⟩
  exact h (by simp)

theorem not_mem_of_all_bne {c : UInt8} {a : Bytes} (h : a.all (· != c) = true) : c ∉ a :=
  fun hc => absurd rfl (bne_iff_ne.1 (List.all_eq_true.1 h c hc))

theorem singleton_infix_iff {c : UInt8} {a : Bytes} : [c] <:+: a ↔ c ∈ a := by
  constructor
  · rintro ⟨s, t, rfl⟩; simp
  · intro h
    obtain ⟨s, t, rfl⟩ := List.mem_iff_append.1 h
    exact ⟨s, t, by simp⟩

theorem breakOn_singleton {c : UInt8} {a : Bytes} (r : Bytes) (h : c ∉ a) :
    breakOn [c] (a ++ [c] ++ r) = some (a, r) :=
  breakOn_found r h

theorem breakOn_singleton_not_mem {c : UInt8} {xs a r : Bytes} (h : breakOn [c] xs = some (a, r)) :
    c ∉ a := fun hc =>
  breakOn_not_infix_fst (by simp) h (singleton_infix_iff.2 hc)

theorem breakOn_singleton_isSome_iff {c : UInt8} {xs : Bytes} :
    (breakOn [c] xs).isSome ↔ c ∈ xs := by
  rw [breakOn_isSome_iff, singleton_infix_iff]

theorem joinWith_cons {d x : Bytes} {l : List Bytes} (h : l ≠ []) :
    joinWith d (x :: l) = x ++ d ++ joinWith d l := by
  cases l with
  | nil => exact absurd rfl h
  | cons y ys => rfl

theorem joinWith_singleton (d x : Bytes) : joinWith d [x] = x := rfl

/-- `joinWith` written with `flatMap` (the shape used by grammar-style specifications) -/
theorem joinWith_cons_eq_flatMap (d x : Bytes) (l : List Bytes) :
    joinWith d (x :: l) = x ++ l.flatMap (fun p => d ++ p) := by
  induction l generalizing x with
  | nil => simp [joinWith]
  | cons y ys ih =>
    rw [joinWith_cons (by simp), ih]
    simp [List.append_assoc]

theorem joinWith_append (d : Bytes) {xs ys : List Bytes} (hx : xs ≠ []) (hy : ys ≠ []) :
    joinWith d (xs ++ ys) = joinWith d xs ++ d ++ joinWith d ys := by
  induction xs with
  | nil => exact absurd rfl hx
  | cons x xs ih =>
    cases xs with
    | nil => exact joinWith_cons hy
    | cons x' xs' =>
      have e1 : joinWith d (x :: (x' :: xs' ++ ys)) = x ++ d ++ joinWith d (x' :: xs' ++ ys) :=
        joinWith_cons (by simp)
      have e2 : joinWith d (x :: x' :: xs') = x ++ d ++ joinWith d (x' :: xs') :=
        joinWith_cons (by simp)
      rw [List.cons_append, e1, ih (by simp), e2]
      simp only [List.append_assoc]

theorem splitF_zero (d : Bytes) (lim : Option Nat) (xs : Bytes) : splitF d 0 lim xs = [xs] := by
  rw [splitF]

theorem splitF_succ (d : Bytes) (f : Nat) (lim : Option Nat) (xs : Bytes) :
    splitF d (f + 1) lim xs =
      if lim = some 0 then [xs] else
      match breakOn d xs with
      | none => [xs]
      | some (a, r) => a :: splitF d f (lim.map (· - 1)) r := by
  rw [splitF]
  split
  · rfl
  · cases breakOn d xs with
    | none => rfl
    | some p => rfl

theorem splitF_succ_cases (d : Bytes) (f : Nat) (lim : Option Nat) (xs : Bytes) :
    ((lim = some 0 ∨ breakOn d xs = none) ∧ splitF d (f + 1) lim xs = [xs]) ∨
    ∃ a r, lim ≠ some 0 ∧ breakOn d xs = some (a, r) ∧
      splitF d (f + 1) lim xs = a :: splitF d f (lim.map (· - 1)) r := by
  rw [splitF_succ]
  by_cases hl : lim = some 0
  · exact Or.inl ⟨Or.inl hl, if_pos hl⟩
  · rw [if_neg hl]
    cases hb : breakOn d xs with
    | none => exact Or.inl ⟨Or.inr rfl, rfl⟩
    | some p => exact Or.inr ⟨p.1, p.2, hl, rfl, rfl⟩

theorem splitF_ne_nil (d : Bytes) (f : Nat) (lim : Option Nat) (xs : Bytes) :
    splitF d f lim xs ≠ [] := by
  cases f with
  | zero => simp [splitF_zero]
  | succ f =>
    rcases splitF_succ_cases d f lim xs with ⟨_, h⟩ | ⟨a, r, _, _, h⟩
    · rw [h]; simp
    · rw [h]; simp

theorem split_ne_nil (d : Bytes) (k : Nat) (xs : Bytes) : split d k xs ≠ [] :=
  splitF_ne_nil _ _ _ _

theorem splitChar_ne_nil (c : UInt8) (xs : Bytes) : splitChar c xs ≠ [] :=
  splitF_ne_nil _ _ _ _

theorem joinWith_splitF (d : Bytes) (f : Nat) (lim : Option Nat) (xs : Bytes) :
    joinWith d (splitF d f lim xs) = xs := by
  induction f generalizing lim xs with
  | zero => simp [splitF_zero, joinWith]
  | succ f ih =>
    rcases splitF_succ_cases d f lim xs with ⟨_, h⟩ | ⟨a, r, _, hb, h⟩
    · rw [h]; rfl
    · rw [h, joinWith_cons (splitF_ne_nil _ _ _ _), ih, ← breakOn_some hb]

theorem join_split (d : Bytes) (k : Nat) (xs : Bytes) : joinWith d (split d k xs) = xs :=
  joinWith_splitF _ _ _ _

theorem join_splitChar (c : UInt8) (xs : Bytes) : joinWith [c] (splitChar c xs) = xs :=
  joinWith_splitF _ _ _ _

theorem splitF_fuel {d : Bytes} (hd : d ≠ []) {f1 f2 : Nat} {lim : Option Nat} {xs : Bytes}
    (h1 : xs.length < f1) (h2 : xs.length < f2) :
    splitF d f1 lim xs = splitF d f2 lim xs := by
  induction f1 generalizing f2 lim xs with
  | zero => omega
  | succ f1 ih =>
    cases f2 with
    | zero => omega
    | succ f2 =>
      rw [splitF_succ, splitF_succ]
      split
      · rfl
      · split
        · rfl
        · rename_i a r hb
          have := breakOn_length_lt hd hb
          exact congrArg _ (ih (f2 := f2) (by omega) (by omega))

theorem splitF_eq {d : Bytes} (hd : d ≠ []) {f : Nat} {lim : Option Nat} {xs : Bytes}
    (h : xs.length < f) :
    splitF d f lim xs =
      if lim = some 0 then [xs] else
      match breakOn d xs with
      | none => [xs]
      | some (a, r) => a :: splitF d (r.length + 1) (lim.map (· - 1)) r := by
  cases f with
  | zero => omega
  | succ f =>
    rw [splitF_succ]
    split
    · rfl
    · split
      · rfl
      · rename_i a r hb
        have := breakOn_length_lt hd hb
        rw [splitF_fuel hd (f1 := f) (f2 := r.length + 1) (by omega) (by omega)]

theorem split_eq_splitF {d : Bytes} (hd : d ≠ []) (k : Nat) {f : Nat} {xs : Bytes}
    (h : xs.length < f) : split d k xs = splitF d f (limOf k) xs :=
  splitF_fuel hd (Nat.lt_succ_self _) h

theorem split_zero_eq {d : Bytes} (hd : d ≠ []) (xs : Bytes) :
    split d 0 xs =
      match breakOn d xs with
      | none => [xs]
      | some (a, r) => a :: split d 0 r := by
  unfold split
  rw [splitF_eq hd (Nat.lt_succ_self _)]
  simp only [limOf, if_true]
  rw [if_neg (by simp)]
  rfl

theorem split_succ_eq {d : Bytes} (hd : d ≠ []) (k : Nat) (xs : Bytes) :
    split d (k + 1) xs =
      match breakOn d xs with
      | none => [xs]
      | some (a, r) => a :: (if k = 0 then [r] else split d k r) := by
  unfold split
  rw [splitF_eq hd (Nat.lt_succ_self _)]
  have e1 : limOf (k + 1) = some (k + 1) := by simp [limOf]
  rw [e1, if_neg (by simp)]
  cases hb : breakOn d xs with
  | none => rfl
  | some p =>
    obtain ⟨a, r⟩ := p
    simp only [Option.map_some, Nat.add_sub_cancel]
    by_cases hk : k = 0
    · subst hk
      rw [if_pos rfl, splitF_succ, if_pos rfl]
    · rw [if_neg hk]
      simp [limOf, hk]

theorem splitF_dropLast_not_infix {d : Bytes} (hd : d ≠ []) (f : Nat) (lim : Option Nat)
    (xs : Bytes) : ∀ p ∈ (splitF d f lim xs).dropLast, ¬ d <:+: p ++ d.dropLast := by
  induction f generalizing lim xs with
  | zero => simp [splitF_zero]
  | succ f ih =>
    rcases splitF_succ_cases d f lim xs with ⟨_, h⟩ | ⟨a, r, _, hb, h⟩
    · rw [h]; simp
    · rw [h, List.dropLast_cons_of_ne_nil (splitF_ne_nil _ _ _ _)]
      intro p hp
      rcases List.mem_cons.1 hp with rfl | hp
      · exact breakOn_not_infix_left hd hb
      · exact ih _ _ p hp

theorem split_dropLast_not_infix {d : Bytes} (hd : d ≠ []) (k : Nat) (xs : Bytes) :
    ∀ p ∈ (split d k xs).dropLast, ¬ d <:+: p := fun p hp c =>
  splitF_dropLast_not_infix hd _ _ _ p hp (List.infix_append_iff.2 (Or.inl c))

theorem splitF_none_not_infix {d : Bytes} (hd : d ≠ []) {f : Nat} {xs : Bytes}
    (h : xs.length < f) : ∀ p ∈ splitF d f none xs, ¬ d <:+: p := by
  induction f generalizing xs with
  | zero => omega
  | succ f ih =>
    rcases splitF_succ_cases d f none xs with ⟨hn, e⟩ | ⟨a, r, _, hb, e⟩
    · rw [e]
      intro p hp
      rw [List.mem_singleton.1 hp]
      exact breakOn_none (hn.resolve_left (by simp))
    · rw [e]
      intro p hp
      rcases List.mem_cons.1 hp with rfl | hp
      · exact breakOn_not_infix_fst hd hb
      · have := breakOn_length_lt hd hb
        exact ih (by omega) p hp

theorem split_zero_not_infix {d : Bytes} (hd : d ≠ []) (xs : Bytes) :
    ∀ p ∈ split d 0 xs, ¬ d <:+: p :=
  splitF_none_not_infix hd (Nat.lt_succ_self _)

theorem splitF_length_le (d : Bytes) (f k : Nat) (xs : Bytes) :
    (splitF d f (some k) xs).length ≤ k + 1 := by
  induction f generalizing k xs with
  | zero => simp [splitF_zero]
  | succ f ih =>
    rcases splitF_succ_cases d f (some k) xs with ⟨_, h⟩ | ⟨a, r, hk, _, h⟩
    · rw [h]; simp
    · cases k with
      | zero => exact absurd rfl hk
      | succ k =>
        rw [h]
        simpa using ih k r

theorem split_length_le (d : Bytes) {k : Nat} (hk : k ≠ 0) (xs : Bytes) :
    (split d k xs).length ≤ k + 1 := by
  unfold split
  rw [show limOf k = some k by simp [limOf, hk]]
  exact splitF_length_le _ _ _ _

theorem splitF_length_le_fuel (d : Bytes) (f : Nat) (lim : Option Nat) (xs : Bytes) :
    (splitF d f lim xs).length ≤ f + 1 := by
  induction f generalizing lim xs with
  | zero => simp [splitF_zero]
  | succ f ih =>
    rcases splitF_succ_cases d f lim xs with ⟨_, h⟩ | ⟨a, r, _, _, h⟩
    · rw [h]; simp
    · rw [h]
      simpa using ih (lim.map (· - 1)) r

/-- `split ∘ join = id`: in every piece but the last the delimiter must have no occurrence that
    ends in the following delimiter (`h1`), in the last none at all (`h2`) -/
theorem splitF_joinWith {d : Bytes} (hd : d ≠ []) (ps : List Bytes) (hne : ps ≠ [])
    (h1 : ∀ p ∈ ps.dropLast, ¬ d <:+: p ++ d.dropLast)
    (h2 : ¬ d <:+: ps.getLast hne) {f : Nat} (hf : (joinWith d ps).length < f) :
    splitF d f none (joinWith d ps) = ps := by
  induction ps generalizing f with
  | nil => exact absurd rfl hne
  | cons p ps ih =>
    rw [splitF_eq hd hf, if_neg (by simp)]
    cases ps with
    | nil =>
      simp only [joinWith_singleton]
      have : breakOn d p = none := breakOn_eq_none_iff.2 (by simpa using h2)
      rw [this]
    | cons q qs =>
      have hne' : q :: qs ≠ [] := by simp
      rw [joinWith_cons hne']
      rw [breakOn_of_not_infix _ hd (h1 p (by simp))]
      simp only [Option.map_none]
      rw [ih hne' (fun p' hp' => h1 p' (by
            rw [List.dropLast_cons_of_ne_nil hne']; exact List.mem_cons_of_mem _ hp'))
          (by rw [List.getLast_cons hne'] at h2; exact h2) (Nat.lt_succ_self _)]

theorem split_joinWith {d : Bytes} (hd : d ≠ []) (ps : List Bytes) (hne : ps ≠ [])
    (h1 : ∀ p ∈ ps.dropLast, ¬ d <:+: p ++ d.dropLast)
    (h2 : ¬ d <:+: ps.getLast hne) : split d 0 (joinWith d ps) = ps :=
  splitF_joinWith hd ps hne h1 h2 (Nat.lt_succ_self _)

-- needed for `HeaderMap.keyLt` below HttpBytes, where the order theory of `bytesLt` is

theorem bytesLt_irrefl (x : Bytes) : bytesLt x x = false := by
  induction x with
  | nil => rfl
  | cons a x ih => simp [bytesLt, ih, UInt8.lt_irrefl]

/-- an occurrence cannot start inside a delimiter-free piece and end in the delimiter that follows -/
theorem not_pair_infix_append_fst {p q : UInt8} (hpq : p ≠ q) {x : Bytes} (h : ¬ [p, q] <:+: x) :
    ¬ [p, q] <:+: x ++ [p] := by
  rintro ⟨s, t, e⟩
  rcases List.eq_nil_or_concat t with rfl | ⟨t', z, rfl⟩
  · have e' : s ++ [p] ++ [q] = x ++ [p] := by rw [List.append_assoc]; simpa using e
    exact hpq (List.singleton_inj.1 (List.append_inj' e' rfl).2).symm
  · rw [List.concat_eq_append, ← List.append_assoc] at e
    exact h ⟨s, t', (List.append_inj' e rfl).1⟩

theorem split_pair_joinWith {p q : UInt8} (hpq : p ≠ q) (ps : List Bytes) (hne : ps ≠ [])
    (h : ∀ x ∈ ps, ¬ [p, q] <:+: x) : split [p, q] 0 (joinWith [p, q] ps) = ps :=
  split_joinWith (by simp) ps hne
    (fun x hx => not_pair_infix_append_fst hpq (h x (List.dropLast_subset _ hx)))
    (h _ (List.getLast_mem hne))

theorem split_pair_append {p q : UInt8} (hpq : p ≠ q) (x v : Bytes) :
    split [p, q] 0 (x ++ [p, q] ++ v) = split [p, q] 0 x ++ split [p, q] 0 v := by
  have hd : [p, q] ≠ [] := by simp
  have e : x ++ [p, q] ++ v = joinWith [p, q] (split [p, q] 0 x ++ split [p, q] 0 v) := by
    rw [joinWith_append _ (split_ne_nil _ _ _) (split_ne_nil _ _ _), join_split, join_split]
  rw [e]
  exact split_pair_joinWith hpq _ (by simp [split_ne_nil])
    (fun y hy => (List.mem_append.1 hy).elim (split_zero_not_infix hd x y)
      (split_zero_not_infix hd v y))

theorem CRLF_ne_nil : CRLF ≠ [] := by decide

theorem split_CRLF_joinWith (ps : List Bytes) (hne : ps ≠ []) (h : ∀ p ∈ ps, ¬ CRLF <:+: p) :
    split CRLF 0 (joinWith CRLF ps) = ps :=
  split_pair_joinWith (by decide) ps hne h

theorem not_infix_append_sep {d a b : Bytes} {c : UInt8} (ha : ¬ d <:+: a) (hb : ¬ d <:+: b)
    (hc : c ∉ d) : ¬ d <:+: a ++ [c] ++ b := by
  -- a prefix of `c :: b` is empty or starts with `c`
  have hp : ∀ {l : Bytes}, l <+: c :: b → l = [] ∨ c ∈ l := fun h =>
    (List.prefix_cons_iff.1 h).imp id (fun ⟨t, e, _⟩ => e ▸ List.mem_cons_self)
  rw [List.append_assoc, List.singleton_append, List.infix_append_iff_ne_nil, List.infix_cons_iff]
  rintro (h | (h | h) | ⟨l1, l2, _, h2, rfl, _, h⟩)
  · exact ha h
  · rcases hp h with rfl | h
    · exact ha List.nil_infix
    · exact hc h
  · exact hb h
  · rcases hp h with rfl | h
    · exact h2 rfl
    · exact hc (List.mem_append_right _ h)

theorem CR_mem_of_CRLF_infix {xs : Bytes} (h : CRLF <:+: xs) : (13 : UInt8) ∈ xs := by
  obtain ⟨s, t, rfl⟩ := h
  simp [CRLF]

/-- splitting at CRLF would give an empty piece after the first -/
theorem no_CRLF2_joinWith (q : Bytes) (qs : List Bytes) (hfree : ∀ p ∈ q :: qs, ¬ CRLF <:+: p)
    (hnonempty : ∀ p ∈ qs, p ≠ []) : ¬ CRLF2 <:+: joinWith CRLF (q :: qs) := by
  rintro ⟨a, b, e⟩
  have hj : joinWith CRLF (split CRLF 0 a ++ ([[]] ++ split CRLF 0 b)) = joinWith CRLF (q :: qs) := by
    rw [joinWith_append _ (split_ne_nil _ _ _) (by simp),
      joinWith_append _ (by simp) (split_ne_nil _ _ _), join_split, join_split, ← e]
    simp [joinWith, CRLF2, CRLF, List.append_assoc]
  have hs := split_CRLF_joinWith (split CRLF 0 a ++ ([[]] ++ split CRLF 0 b)) (by simp) (by
    intro p hp
    rcases List.mem_append.1 hp with hp | hp
    · exact split_zero_not_infix CRLF_ne_nil a p hp
    · rcases List.mem_append.1 hp with hp | hp
      · rw [List.mem_singleton.1 hp]; decide
      · exact split_zero_not_infix CRLF_ne_nil b p hp)
  rw [hj, split_CRLF_joinWith _ (List.cons_ne_nil q qs) hfree] at hs
  obtain ⟨s, ss, hsa⟩ := List.exists_cons_of_ne_nil (split_ne_nil CRLF 0 a)
  rw [hsa, List.cons_append] at hs
  exact hnonempty [] (by rw [(List.cons.inj hs).2]; simp) rfl

/-- `… ++ CRLF2.dropLast` is the form `breakOn_of_not_infix` asks for: an occurrence inside it
    would be a blank line that starts before the closing one -/
theorem first_CRLF2_joinWith (q : Bytes) (qs : List Bytes) (hfree : ∀ p ∈ q :: qs, ¬ CRLF <:+: p)
    (hnonempty : ∀ p ∈ qs, p ≠ []) : ¬ CRLF2 <:+: joinWith CRLF (q :: qs) ++ CRLF2.dropLast := by
  have e : joinWith CRLF (q :: qs) ++ CRLF2.dropLast = joinWith CRLF (q :: (qs ++ [[13]])) := by
    rw [← List.cons_append, joinWith_append _ (List.cons_ne_nil q qs) (by simp), List.append_assoc]; rfl
  rw [e]
  refine no_CRLF2_joinWith _ _ (fun p hp => ?_) (fun p hp => ?_)
  · rcases List.mem_append.1 (List.cons_append ▸ hp) with hp | hp
    · exact hfree p hp
    · rw [List.mem_singleton.1 hp]; decide
  · rcases List.mem_append.1 hp with hp | hp
    · exact hnonempty p hp
    · rw [List.mem_singleton.1 hp]; decide

end Qhttp

-- the form in which the C04 statements quote the two facts
namespace Qhttp.C04L
open Qhttp

theorem breakOn_append {d : Bytes} : ∀ {xs a r : Bytes} (ys : Bytes),
    breakOn d xs = some (a, r) → breakOn d (xs ++ ys) = some (a, r ++ ys) :=
  Qhttp.breakOn_append

theorem breakOn_none (d0 : UInt8) (dt a : Bytes) (h : a.all (· != d0) = true) :
    breakOn (d0 :: dt) a = none :=
  breakOn_eq_none_of_not_mem (not_mem_of_all_bne h)

end Qhttp.C04L
