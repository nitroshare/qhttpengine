import Qhttp.Lemmas.C03Hdr
import Qhttp.Lemmas.ObsLog
import Qhttp.Lemmas.SockEqns
/-
  Model-side facts for C03: what each response-side call, acknowledgement and event-loop turn
  does to the history of observations while the response is open (`Open`) and after the
  library closed the transport (`Shut`).
-/
namespace Qhttp.C03L
open Qhttp Qhttp.HB Qhttp.Http Qhttp.Sock

/-- the byte chunks that reached the transport, in order -/
def chunks (l : List Obs) : List Bytes := l.filterMap fun o => match o with | .w b => some b | _ => none

theorem wire_eq_chunks (l : List Obs) : Obs.wire l = (chunks l).flatten := by
  induction l with
  | nil => rfl
  | cons o l ih =>
    cases o with
    | w b => exact congrArg (b ++ ·) ih
    | _ => exact ih

def afterTc (l : List Obs) : List Obs := l.dropWhile fun o => !Obs.isTc o

def quietObs (o : Obs) : Bool := !Obs.isW o && !Obs.isTc o

theorem chunks_append (l l' : List Obs) : chunks (l ++ l') = chunks l ++ chunks l' := by
  simp [chunks]

theorem chunks_quiet {o : Obs} (h : Obs.isW o = false) : chunks [o] = [] := by
  cases o <;> first | rfl | cases h

theorem chunks_of_noW {l : List Obs} (h : ∀ o ∈ l, Obs.isW o = false) : chunks l = [] := by
  induction l with
  | nil => rfl
  | cons o l ih =>
    rw [← List.singleton_append, chunks_append, chunks_quiet (h o List.mem_cons_self),
      ih fun x hx => h x (List.mem_cons_of_mem _ hx)]
    rfl

theorem quietObs_isW {o : Obs} (h : quietObs o = true) : Obs.isW o = false := by
  simp only [quietObs, Bool.and_eq_true, Bool.not_eq_true'] at h; exact h.1

theorem quietObs_isTc {o : Obs} (h : quietObs o = true) : Obs.isTc o = false := by
  simp only [quietObs, Bool.and_eq_true, Bool.not_eq_true'] at h; exact h.2

theorem chunks_w (b : Bytes) : chunks [Obs.w b] = [b] := rfl

def LogOpen (l : List Obs) : Prop := ∀ o ∈ l, Obs.isTc o = false

/-- the library closed the transport once and wrote nothing afterwards -/
structure LogShut (l : List Obs) : Prop where
  oneTc : Obs.countP Obs.isTc l = 1
  noW : Obs.countP Obs.isW (afterTc l) = 0

theorem LogOpen.snoc {l : List Obs} {o : Obs} (h : LogOpen l) (ho : Obs.isTc o = false) : LogOpen (l ++ [o]) := by
  intro x hx
  rcases List.mem_append.mp hx with hx | hx
  · exact h x hx
  · simp at hx; subst hx; exact ho

theorem afterTc_eq_nil_iff {l : List Obs} : afterTc l = [] ↔ LogOpen l := by
  induction l with
  | nil => simp [afterTc, LogOpen]
  | cons a l ih =>
    simp only [afterTc, LogOpen, List.dropWhile_cons, List.mem_cons, forall_eq_or_imp] at ih ⊢
    cases h : Obs.isTc a <;> simp [ih]

theorem afterTc_snoc (l : List Obs) (o : Obs) :
    afterTc (l ++ [o]) = if afterTc l = [] then (if Obs.isTc o then [o] else []) else afterTc l ++ [o] := by
  induction l with
  | nil => simp only [afterTc, List.nil_append, List.dropWhile_cons, List.dropWhile_nil]; cases Obs.isTc o <;> simp
  | cons a l ih =>
    simp only [afterTc, List.cons_append, List.dropWhile_cons] at ih ⊢
    cases h : Obs.isTc a
    · simp only [Bool.not_false, if_true]; exact ih
    · simp

theorem afterTc_of_logOpen {l : List Obs} (h : LogOpen l) : afterTc l = [] := afterTc_eq_nil_iff.mpr h

theorem countTc_of_logOpen {l : List Obs} (h : LogOpen l) : Obs.countP Obs.isTc l = 0 := Obs.countP_eq_zero.mpr h

theorem LogOpen.close {l : List Obs} (h : LogOpen l) : LogShut (l ++ [Obs.tc]) := by
  constructor
  · have := countTc_of_logOpen h
    simp only [Obs.countP] at this ⊢
    rw [List.filter_append, List.length_append, this]; rfl
  · rw [afterTc_snoc, afterTc_of_logOpen h]; rfl

theorem afterTc_ne_nil {l : List Obs} (h : Obs.countP Obs.isTc l = 1) : afterTc l ≠ [] := by
  intro e
  have := countTc_of_logOpen (afterTc_eq_nil_iff.mp e)
  omega

theorem LogShut.snoc {l : List Obs} {o : Obs} (h : LogShut l) (ho : quietObs o = true) : LogShut (l ++ [o]) := by
  constructor
  · rw [Obs.countP_snoc, quietObs_isTc ho]; exact h.oneTc
  · rw [afterTc_snoc, if_neg (afterTc_ne_nil h.oneTc), Obs.countP_snoc, quietObs_isW ho]; exact h.noW

/-- no request byte ever arrives in a C03 history: the request side stays empty -/
structure Base (s : Sock) : Prop where
  dcF : s.dcFlag = false
  rb : s.readBuffer = []
  inbox : s.tcp.inbox = []
  rs : s.rs ≠ .data

/-- the response is open: nothing was closed yet -/
structure Open (s : Sock) : Prop extends Base s where
  alive : s.alive = true
  io : s.ioOpen = true
  dev : s.tcp.devOpen = true
  conn : s.tcp.conn = .connected
  noClose : s.closeCalled = false
  noDel : s.delPending = false
  logOpen : LogOpen s.log

/-- the library closed the transport (the object may already be deleted) -/
structure Shut (s : Sock) : Prop extends Base s where
  io : s.ioOpen = false
  dev : s.tcp.devOpen = false
  logShut : LogShut s.log

def respOp : ApiOp → Bool
  | .status _ _ | .hdr _ _ _ | .hdrs _ | .wh | .write _ | .err _ _ | .redir _ _ | .json _ _ | .close => true
  | _ => false

theorem LogOpen.append {l l' : List Obs} (h : LogOpen l) (h' : ∀ o ∈ l', quietObs o = true) : LogOpen (l ++ l') := by
  intro x hx
  rcases List.mem_append.mp hx with hx | hx
  · exact h x hx
  · exact quietObs_isTc (h' x hx)

theorem LogShut.append {l l' : List Obs} (h : LogShut l) (h' : ∀ o ∈ l', quietObs o = true) : LogShut (l ++ l') := by
  induction l' generalizing l with
  | nil => simpa using h
  | cons o l' ih =>
    have : l ++ o :: l' = (l ++ [o]) ++ l' := by simp
    rw [this]
    exact ih (h.snoc (h' o (by simp))) (fun x hx => h' x (by simp [hx]))

theorem chunks_append_quiet {l l' : List Obs} (h' : ∀ o ∈ l', quietObs o = true) : chunks (l ++ l') = chunks l := by
  rw [chunks_append, chunks_of_noW fun o ho => quietObs_isW (h' o ho), List.append_nil]

theorem quiet_cons {o : Obs} {l : List Obs} (ho : quietObs o = true) (hl : ∀ x ∈ l, quietObs x = true) :
    ∀ x ∈ o :: l, quietObs x = true := by
  intro x hx
  rcases List.mem_cons.mp hx with hx | hx
  · rw [hx]; exact ho
  · exact hl x hx

theorem quiet_singleton {o : Obs} (ho : quietObs o = true) : ∀ x ∈ [o], quietObs x = true :=
  quiet_cons ho fun _ h => nomatch h

theorem Open.of_eq {s s' : Sock} (h : Open s)
    (hf : (s'.dcFlag, s'.readBuffer, s'.tcp.inbox, s'.rs, s'.alive, s'.ioOpen, s'.tcp.devOpen, s'.tcp.conn,
            s'.closeCalled, s'.delPending) =
          (s.dcFlag, s.readBuffer, s.tcp.inbox, s.rs, s.alive, s.ioOpen, s.tcp.devOpen, s.tcp.conn,
            s.closeCalled, s.delPending))
    (hl : LogOpen s'.log) : Open s' := by
  simp only [Prod.mk.injEq] at hf
  obtain ⟨h1, h2, h3, h4, h5, h6, h7, h8, h9, h10⟩ := hf
  obtain ⟨⟨a1, a2, a3, a4⟩, a5, a6, a7, a8, a9, a10, _⟩ := h
  exact ⟨⟨h1 ▸ a1, h2 ▸ a2, h3 ▸ a3, h4 ▸ a4⟩, h5 ▸ a5, h6 ▸ a6, h7 ▸ a7, h8 ▸ a8, h9 ▸ a9, h10 ▸ a10, hl⟩

theorem Shut.of_eq {s s' : Sock} (h : Shut s)
    (hf : (s'.dcFlag, s'.readBuffer, s'.tcp.inbox, s'.ioOpen, s'.tcp.devOpen) =
          (s.dcFlag, s.readBuffer, s.tcp.inbox, s.ioOpen, s.tcp.devOpen))
    (hrs : s'.rs ≠ .data) (hl : LogShut s'.log) : Shut s' := by
  simp only [Prod.mk.injEq] at hf
  obtain ⟨h1, h2, h3, h4, h5⟩ := hf
  obtain ⟨⟨a1, a2, a3, _⟩, a5, a6, _⟩ := h
  exact ⟨⟨h1 ▸ a1, h2 ▸ a2, h3 ▸ a3, hrs⟩, h4 ▸ a5, h5 ▸ a6, hl⟩

/-- calls that touch neither the response nor the transport -/
def passiveOp : ApiOp → Bool
  | .read _ | .readAll | .avail | .snap => true
  | .note o => quietObs o
  | _ => false

/-- `s'` differs from `s` only in the read-side buffers and in quiet observations appended -/
def PStep (s s' : Sock) : Prop :=
  ∃ q d l, s' = { s with qio := q, dataRead := d, log := s.log ++ l } ∧ ∀ o ∈ l, quietObs o = true

theorem PStep.refl (s : Sock) : PStep s s := ⟨s.qio, s.dataRead, [], by simp, by simp⟩

theorem PStep.trans {a c d : Sock} (h1 : PStep a c) (h2 : PStep c d) : PStep a d := by
  obtain ⟨q1, d1, l1, e1, p1⟩ := h1
  obtain ⟨q2, d2, l2, e2, p2⟩ := h2
  refine ⟨q2, d2, l1 ++ l2, by rw [e2, e1]; simp, ?_⟩
  intro o ho; rcases List.mem_append.mp ho with ho | ho
  · exact p1 o ho
  · exact p2 o ho

theorem apiPrim_pstep (env : Env) (s : Sock) {op : ApiOp} (hop : passiveOp op = true) (hrb : s.readBuffer = []) :
    PStep s (apiPrim env s op) := by
  cases ha : s.alive
  · rw [Sock.apiPrim_dead env _ ha]; exact PStep.refl s
  · cases op <;> first | exact Bool.noConfusion hop | (rw [apiPrim_alive env ha]; dsimp only)
    · rename_i n
      obtain ⟨q, k, d, e⟩ := read_eq s n
      exact ⟨q, d, [Obs.rd (Sock.read s n).2], by rw [e, hrb, List.drop_nil], quiet_singleton rfl⟩
    · obtain ⟨q, k, d, e⟩ := readAll_eq s
      exact ⟨q, d, [Obs.rd (Sock.readAll s).2], by rw [e, hrb, List.drop_nil], quiet_singleton rfl⟩
    · exact ⟨s.qio, s.dataRead, [Obs.av (bytesAvailable s)], rfl, quiet_singleton rfl⟩
    · exact ⟨s.qio, s.dataRead, [Obs.snap (takeSnap s)], rfl, quiet_singleton rfl⟩
    · rename_i o
      exact ⟨s.qio, s.dataRead, [o], rfl, quiet_singleton hop⟩

theorem PStep.rb {s s' : Sock} (h : PStep s s') : s'.readBuffer = s.readBuffer := by
  obtain ⟨q, d, l, e, _⟩ := h; rw [e]

theorem PStep.dcF {s s' : Sock} (h : PStep s s') : s'.dcFlag = s.dcFlag := by
  obtain ⟨q, d, l, e, _⟩ := h; rw [e]

theorem foldl_apiPrim_pstep (env : Env) (ops : List ApiOp) : ∀ (s : Sock), (∀ op ∈ ops, passiveOp op = true) →
    s.readBuffer = [] → PStep s (ops.foldl (apiPrim env) s) := by
  induction ops with
  | nil => intro s _ _; exact PStep.refl s
  | cons op ops ih =>
    intro s hops hrb
    have h1 := apiPrim_pstep env s (hops op List.mem_cons_self) hrb
    exact h1.trans (ih _ (fun x hx => hops x (List.mem_cons_of_mem _ hx)) (by rw [h1.rb, hrb]))

theorem api_passive (env : Env) (app : App) {s : Sock} {op : ApiOp} (hop : passiveOp op = true)
    (hrb : s.readBuffer = []) (hdc : s.dcFlag = false) : PStep s (api env app s op) := by
  have h1 := apiPrim_pstep env s hop hrb
  rw [Sock.api_of_dcFlag env app s op (h1.dcF.trans hdc)]; exact h1

theorem foldl_api_pstep (env : Env) (app : App) (ops : List ApiOp) : ∀ (s : Sock),
    (∀ op ∈ ops, passiveOp op = true) → s.readBuffer = [] → s.dcFlag = false →
    PStep s (ops.foldl (api env app) s) := by
  induction ops with
  | nil => intro s _ _ _; exact PStep.refl s
  | cons op ops ih =>
    intro s hops hrb hdc
    have h1 := api_passive env app (hops op List.mem_cons_self) hrb hdc
    exact h1.trans (ih _ (fun x hx => hops x (List.mem_cons_of_mem _ hx)) (by rw [h1.rb, hrb]) (by rw [h1.dcF, hdc]))

/-- the reactions to `bytesWritten` and `disconnected` make no response-side call (they may read,
    query and record harmless notes) -/
def QuietApp (app : App) : Prop :=
  ∀ s, (∀ op ∈ app.onBw s, passiveOp op = true) ∧ (∀ op ∈ app.onDc s, passiveOp op = true)

theorem quietApp_of_nil {app : App} (h : ∀ s, app.onBw s = [] ∧ app.onDc s = []) : QuietApp app := by
  intro s; rw [(h s).1, (h s).2]; simp

theorem emitDc_quiet {app : App} (hq : QuietApp app) (env : Env) (s : Sock) (hrb : s.readBuffer = []) :
    ∃ q d l, emitDc env app s =
        { s with dcFlag := false, qio := q, dataRead := d, log := s.log ++ Obs.dc :: l,
                 delPending := s.delPending || s.closeCalled } ∧
      ∀ o ∈ l, quietObs o = true := by
  obtain ⟨q, d, l, e, hl⟩ := foldl_apiPrim_pstep env
    (app.onDc { s with dcFlag := false, log := s.log ++ [Obs.dc] })
    { s with dcFlag := false, log := s.log ++ [Obs.dc] } (hq _).2 hrb
  refine ⟨q, d, l, ?_, hl⟩
  unfold emitDc
  dsimp only
  rw [e]
  simp

theorem onBytesWritten_eq {app : App} (hq : QuietApp app) (env : Env) (s : Sock) (n : Int)
    (hrb : s.readBuffer = []) (hdc : s.dcFlag = false) :
    ∃ x y q d l, onBytesWritten env app s n =
        { s with ws := x, hdrRemaining := y, qio := q, dataRead := d, log := s.log ++ l } ∧
      (x = .none ↔ s.ws = .none) ∧ (∀ o ∈ l, quietObs o = true) := by
  -- the `bytesWritten` emission with its reaction
  have hemit : ∀ (s' : Sock) (b : Int), s'.readBuffer = [] → s'.dcFlag = false →
      ∃ q d l, emit env app s' (.bw b) (app.onBw s') =
        { s' with qio := q, dataRead := d, log := s'.log ++ l } ∧ ∀ o ∈ l, quietObs o = true := by
    intro s' b hrb' hdc'
    obtain ⟨q, d, l, e, hl⟩ := foldl_api_pstep env app (app.onBw s')
      { s' with log := s'.log ++ [Obs.bw b] } (hq _).1 hrb' hdc'
    refine ⟨q, d, Obs.bw b :: l, ?_, ?_⟩
    · unfold emit apis; rw [e]; simp
    · intro o ho
      rcases List.mem_cons.mp ho with ho | ho
      · subst ho; rfl
      · exact hl o ho
  unfold onBytesWritten
  by_cases h1 : s.ws = .headers
  · by_cases h2 : s.hdrRemaining - n > 0
    · refine ⟨.headers, s.hdrRemaining - n, s.qio, s.dataRead, [], ?_, by simp [h1], by simp⟩
      simp only [h1, h2, if_true, reduceCtorEq, if_false, List.append_nil]
    · obtain ⟨q, d, l, e, hl⟩ := hemit { s with ws := .data } (n - s.hdrRemaining) hrb hdc
      refine ⟨.data, s.hdrRemaining, q, d, l, ?_, by simp [h1], hl⟩
      simp only [h1, h2, if_true, if_false]
      exact e
  · by_cases h2 : s.ws = .data
    · obtain ⟨q, d, l, e, hl⟩ := hemit s n hrb hdc
      refine ⟨.data, s.hdrRemaining, q, d, l, ?_, by simp [h2], hl⟩
      rw [if_neg h1]; dsimp only; rw [if_pos h2, e]
      simp [h2]
    · refine ⟨s.ws, s.hdrRemaining, s.qio, s.dataRead, [], ?_, by simp, by simp⟩
      rw [if_neg h1]; dsimp only; rw [if_neg h2]; simp

theorem onReadyRead_idle (env : Env) (app : App) (s : Sock) (hrb : s.readBuffer = []) (hin : s.tcp.inbox = [])
    (hrs : s.rs ≠ .data) : onReadyRead env app s = s := by
  rcases s with ⟨⟨inbox, wire, unacked, devOpen, conn⟩, readBuffer, qio, rs, method, rawPath, path, query,
    reqHeaders, dataRead, total, ws, code, reason, respHeaders, hdrRemaining, ioOpen, initPending,
    closeCalled, dcFlag, delPending, alive, log⟩
  simp only at hrb hin hrs
  subst hrb hin
  cases rs
  · cases devOpen <;> simp [onReadyRead, readHeaders, breakOn, CRLF2]
  · exact absurd rfl hrs
  · cases devOpen <;> simp [onReadyRead]

theorem open_setStatusCode {s : Sock} (h : Open s) (c : Int) (r : Option Bytes) :
    Open (setStatusCode s c r) := h.of_eq rfl h.logOpen

theorem open_setHeader {s : Sock} (h : Open s) (n v : Bytes) (r : Bool) : Open (setHeader s n v r) := by
  rw [setHeader_eq]; exact h.of_eq rfl h.logOpen

theorem writeHeaders_open_eq {s : Sock} (h : Open s) :
    writeHeaders s =
      { s with ws := .headers, hdrRemaining := (headBytes s).length,
               tcp := { s.tcp with wire := s.tcp.wire ++ headBytes s,
                                   unacked := s.tcp.unacked + (headBytes s).length },
               log := s.log ++ [Obs.w (headBytes s)] } := by
  show tcpWrite { s with ws := .headers, hdrRemaining := (headBytes s).length } (headBytes s) = _
  exact Sock.tcpWrite_open h.dev h.conn (Sock.headBytes_ne_nil s)

theorem open_writeHeaders {s : Sock} (h : Open s) :
    Open (writeHeaders s) ∧ (writeHeaders s).log = s.log ++ [Obs.w (headBytes s)] ∧
    (writeHeaders s).ws = .headers := by
  rw [writeHeaders_open_eq h]
  exact ⟨h.of_eq rfl (h.logOpen.snoc rfl), rfl, rfl⟩

theorem open_tcpWrite {s : Sock} (h : Open s) (b : Bytes) :
    Open (tcpWrite s b) ∧ (tcpWrite s b).ws = s.ws ∧
    chunks (tcpWrite s b).log = chunks s.log ++ (if b = [] then [] else [b]) := by
  by_cases hb : b = []
  · subst hb; rw [Sock.tcpWrite_nil]; exact ⟨h, rfl, by simp⟩
  · rw [Sock.tcpWrite_open h.dev h.conn hb]
    refine ⟨h.of_eq rfl (h.logOpen.snoc rfl), rfl, ?_⟩
    show chunks (s.log ++ [Obs.w b]) = _
    rw [chunks_append, chunks_w, if_neg hb]

theorem open_write {s : Sock} (h : Open s) (b : Bytes) :
    Open (write s b) ∧ (write s b).ws ≠ .none ∧
    chunks (write s b).log =
      chunks s.log ++ (if s.ws = .none then [headBytes s] else []) ++ (if b = [] then [] else [b]) := by
  unfold write
  simp only [h.io, Bool.not_true, Bool.false_eq_true, if_false]
  by_cases hw : s.ws = .none
  · simp only [hw, if_true]
    obtain ⟨h1, h2, h3⟩ := open_writeHeaders h
    obtain ⟨h4, h5, h6⟩ := open_tcpWrite h1 b
    refine ⟨h4, by rw [h5, h3]; simp, ?_⟩
    rw [h6, h2, chunks_append, chunks_w]
  · simp only [hw, if_false]
    obtain ⟨h4, h5, h6⟩ := open_tcpWrite h b
    exact ⟨h4, by rw [h5]; exact hw, by rw [h6]; simp⟩

/-- `Socket::close` followed by the `disconnected` emission it may cause -/
def closeDc (env : Env) (app : App) (s : Sock) : Sock :=
  let s' := Sock.close s
  if s'.dcFlag then emitDc env app s' else s'

theorem open_closeDc {app : App} (hq : QuietApp app) (env : Env) {s : Sock} (h : Open s) :
    Shut (closeDc env app s) ∧ chunks (closeDc env app s).log = chunks s.log := by
  obtain ⟨⟨a1, a2, a3, a4⟩, a5, a6, a7, a8, a9, a10, a11⟩ := h
  have hl := a11.close
  by_cases hu : s.tcp.unacked = 0
  · have e0 : closeDc env app s = emitDc env app
        { s with ioOpen := false, qio := [], rs := .finished, ws := .finished, closeCalled := true,
                 tcp := { s.tcp with devOpen := false, conn := .unconnected },
                 dcFlag := true, log := s.log ++ [Obs.tc] } := by
      simp only [closeDc, Sock.close, tcpClose, a7, a8, hu]
      simp
    obtain ⟨q, d, l, e, hq'⟩ := emitDc_quiet hq env
        { s with ioOpen := false, qio := [], rs := .finished, ws := .finished, closeCalled := true,
                 tcp := { s.tcp with devOpen := false, conn := .unconnected },
                 dcFlag := true, log := s.log ++ [Obs.tc] } a2
    have hq2 : ∀ o ∈ Obs.dc :: l, quietObs o = true := by
      intro o ho
      rcases List.mem_cons.mp ho with ho | ho
      · subst ho; rfl
      · exact hq' o ho
    rw [e0, e]
    refine ⟨⟨⟨rfl, a2, a3, by simp⟩, rfl, rfl, hl.append hq2⟩, ?_⟩
    show chunks (s.log ++ [Obs.tc] ++ Obs.dc :: l) = chunks s.log
    rw [chunks_append_quiet hq2]; simp [chunks]
  · have : closeDc env app s =
        { s with ioOpen := false, qio := [], rs := .finished, ws := .finished, closeCalled := true,
                 tcp := { s.tcp with devOpen := false, conn := .closing },
                 log := s.log ++ [Obs.tc] } := by
      simp only [closeDc, Sock.close, tcpClose, a7, a8, hu]
      simp [a1]
    rw [this]
    refine ⟨⟨⟨a1, a2, a3, by simp⟩, rfl, rfl, hl⟩, ?_⟩
    simp [chunks]

/-- what the primitives of the response side preserve, every response-side call preserves:
    `writeError`, `writeRedirect` and `writeJson` are compositions of them -/
structure RespClosed (P : Sock → Prop) : Prop where
  status : ∀ s c r, P s → P (setStatusCode s c r)
  hdr : ∀ s n v r, P s → P (setHeader s n v r)
  hdrs : ∀ s m, P s → P { s with respHeaders := m }
  wh : ∀ s, P s → P (writeHeaders s)
  write : ∀ s b, P s → P (write s b)
  close : ∀ s, P s → P (Sock.close s)

theorem RespClosed.apiPrim {P : Sock → Prop} (hP : RespClosed P) (env : Env) {s : Sock} {op : ApiOp}
    (hop : respOp op = true) (h : P s) : P (apiPrim env s op) := by
  cases ha : s.alive
  · rw [Sock.apiPrim_dead env _ ha]; exact h
  · cases op <;> first | exact Bool.noConfusion hop | (rw [apiPrim_alive env ha]; dsimp only)
    · exact hP.status _ _ _ h
    · exact hP.hdr _ _ _ _ h
    · exact hP.hdrs _ _ h
    · exact hP.wh _ h
    · exact hP.write _ _ h
    · exact hP.close _ (hP.write _ _ (hP.wh _ (hP.hdr _ _ _ _ (hP.hdr _ _ _ _ (hP.status _ _ _ h)))))
    · exact hP.close _ (hP.wh _ (hP.hdr _ _ _ _ (hP.status _ _ _ h)))
    · exact hP.close _ (hP.write _ _ (hP.hdr _ _ _ _ (hP.hdr _ _ _ _ (hP.status _ _ _ h))))
    · exact hP.close _ h

theorem shut_closed (l : List Obs) : RespClosed fun s => Shut s ∧ s.log = l where
  status := fun _ _ _ h => ⟨h.1.of_eq rfl h.1.rs h.1.logShut, h.2⟩
  hdr := fun s n v r h => by rw [setHeader_eq]; exact ⟨h.1.of_eq rfl h.1.rs h.1.logShut, h.2⟩
  hdrs := fun _ _ h => ⟨h.1.of_eq rfl h.1.rs h.1.logShut, h.2⟩
  wh := fun s h => by
    rw [show writeHeaders s = { s with ws := .headers, hdrRemaining := (headBytes s).length } from
      Sock.tcpWrite_closed _ _ h.1.dev]
    exact ⟨h.1.of_eq rfl h.1.rs h.1.logShut, h.2⟩
  write := fun s b h => by rw [show write s b = s from if_pos (by rw [h.1.io]; rfl)]; exact h
  close := fun s h => by
    have : Sock.close s = { s with ioOpen := false, qio := [], rs := .finished, ws := .finished, closeCalled := true } :=
      Sock.tcpClose_closed _ h.1.dev
    rw [this]; exact ⟨h.1.of_eq (by simp [h.1.io]) (by simp) h.1.logShut, h.2⟩

theorem shut_api (env : Env) (app : App) {s : Sock} (h : Shut s) {op : ApiOp} (hop : respOp op = true) :
    Shut (api env app s op) ∧ (api env app s op).log = s.log := by
  obtain ⟨h1, e1⟩ := (shut_closed s.log).apiPrim env hop ⟨h, rfl⟩
  rw [Sock.api_of_dcFlag env app s op h1.dcF]
  exact ⟨h1, e1⟩

/-- `s'` is still open, has written nothing more and holds the same pending head -/
def OpenStep (s s' : Sock) : Prop :=
  Open s' ∧ chunks s'.log = chunks s.log ∧ s'.code = s.code ∧ s'.reason = s.reason ∧
  s'.respHeaders = s.respHeaders ∧ (s'.ws = .none ↔ s.ws = .none)

theorem open_ackN {app : App} (hq : QuietApp app) (env : Env) {s : Sock} (h : Open s) (n : Nat) :
    OpenStep s (ackN env app s n) := by
  by_cases hn : min n s.tcp.unacked = 0
  · rw [ackN_zero env app hn]; exact ⟨h, rfl, rfl, rfl, rfl, Iff.rfl⟩
  · obtain ⟨x, y, q, d, l, he, hx, hl⟩ := onBytesWritten_eq hq env
      { s with tcp := { s.tcp with unacked := s.tcp.unacked - min n s.tcp.unacked } } (min n s.tcp.unacked : Nat)
      h.rb h.dcF
    rw [ackN_pos env app hn, he, ackTail_connected]
    · exact ⟨h.of_eq rfl (h.logOpen.append hl), chunks_append_quiet hl, rfl, rfl, rfl, hx⟩
    · exact h.conn

theorem shut_ackN {app : App} (hq : QuietApp app) (env : Env) {s : Sock} (h : Shut s) (n : Nat) :
    Shut (ackN env app s n) ∧ chunks (ackN env app s n).log = chunks s.log := by
  by_cases hn : min n s.tcp.unacked = 0
  · rw [ackN_zero env app hn]; exact ⟨h, rfl⟩
  · obtain ⟨x, y, q, d, l, he, hx, hl⟩ := onBytesWritten_eq hq env
      { s with tcp := { s.tcp with unacked := s.tcp.unacked - min n s.tcp.unacked } } (min n s.tcp.unacked : Nat)
      h.rb h.dcF
    rw [ackN_pos env app hn, he]
    unfold ackTail
    split
    · obtain ⟨q2, d2, l2, e2, hl2⟩ := emitDc_quiet hq env
        { s with ws := x, hdrRemaining := y, qio := q, dataRead := d, log := s.log ++ l,
                 tcp := { s.tcp with unacked := s.tcp.unacked - min n s.tcp.unacked, conn := .unconnected } }
        h.rb
      have hl' : ∀ o ∈ l ++ Obs.dc :: l2, quietObs o = true := fun o ho =>
        (List.mem_append.mp ho).elim (hl o) (quiet_cons rfl hl2 o)
      rw [e2]
      refine ⟨h.of_eq (by simp [h.dcF]) h.rs ?_, ?_⟩
      · simpa [List.append_assoc] using h.logShut.append hl'
      · simpa [List.append_assoc] using chunks_append_quiet (l := s.log) hl'
    · exact ⟨h.of_eq rfl h.rs (h.logShut.append hl), chunks_append_quiet hl⟩

theorem open_pstep {s s' : Sock} (h : Open s) (hp : PStep s s') : OpenStep s s' := by
  obtain ⟨q, d, l, e, hl⟩ := hp
  rw [e]
  exact ⟨h.of_eq rfl (h.logOpen.append hl), chunks_append_quiet hl, rfl, rfl, rfl, Iff.rfl⟩

theorem shut_pstep {s s' : Sock} (h : Shut s) (hp : PStep s s') :
    Shut s' ∧ chunks s'.log = chunks s.log := by
  obtain ⟨q, d, l, e, hl⟩ := hp
  rw [e]
  exact ⟨h.of_eq rfl h.rs (h.logShut.append hl), chunks_append_quiet hl⟩

/-- the external events of a C03 history -/
def allowedEv : Event → Bool
  | .api op => respOp op || passiveOp op
  | .ack _ | .ackAll | .turn => true
  | _ => false

theorem Open.ev {s : Sock} (h : Open s) (k : Nat) : Open { s with log := s.log ++ [Obs.ev k] } :=
  h.of_eq rfl (h.logOpen.snoc rfl)

theorem Shut.ev {s : Sock} (h : Shut s) (k : Nat) : Shut { s with log := s.log ++ [Obs.ev k] } :=
  h.of_eq rfl h.rs (h.logShut.snoc rfl)

theorem chunks_ev (l : List Obs) (k : Nat) : chunks (l ++ [Obs.ev k]) = chunks l := by
  simp [chunks]

def delTurn (s : Sock) : Sock :=
  if s.delPending then { s with alive := false, delPending := false, log := s.log ++ [Obs.del] } else s

/-- an event-loop turn when nothing was ever received: the queued initial read finds nothing,
    then the deferred deletion runs -/
def turnIdle (s : Sock) : Sock :=
  delTurn (if s.initPending then { s with initPending := false } else s)

theorem step_turn_eq (env : Env) (app : App) {s : Sock} (ha : s.alive = true) (hrb : s.readBuffer = [])
    (hin : s.tcp.inbox = []) (hrs : s.rs ≠ .data) : step env app s .turn = turnIdle s := by
  have e1 := onReadyRead_idle env app { s with initPending := false } hrb hin hrs
  unfold step
  rw [if_neg (by simp [ha])]
  simp only [e1]
  rfl

theorem open_turn (env : Env) (app : App) {s : Sock} (h : Open s) : OpenStep s (step env app s .turn) := by
  rw [step_turn_eq env app h.alive h.rb h.inbox h.rs]
  unfold turnIdle
  split
  · rw [show delTurn { s with initPending := false } = { s with initPending := false } from if_neg (by simp [h.noDel])]
    exact ⟨h.of_eq rfl h.logOpen, rfl, rfl, rfl, rfl, Iff.rfl⟩
  · rw [show delTurn s = s from if_neg (by simp [h.noDel])]
    exact ⟨h, rfl, rfl, rfl, rfl, Iff.rfl⟩

theorem shut_delTurn {s : Sock} (h : Shut s) : Shut (delTurn s) ∧ chunks (delTurn s).log = chunks s.log := by
  unfold delTurn
  split
  · exact ⟨h.of_eq rfl h.rs (h.logShut.snoc rfl), chunks_append_quiet (quiet_singleton rfl)⟩
  · exact ⟨h, rfl⟩

theorem shut_step {app : App} (hq : QuietApp app) (env : Env) {s : Sock} (h : Shut s) {e : Event}
    (he : allowedEv e = true) :
    Shut (step env app s e) ∧ chunks (step env app s e).log = chunks s.log := by
  cases ha : s.alive
  · have : step env app s e = s := by simp [step, ha]
    rw [this]; exact ⟨h, rfl⟩
  · cases e <;> first | exact Bool.noConfusion he | skip
    · simp only [step, ha, Bool.not_true, Bool.false_eq_true, if_false]; exact shut_ackN hq env h _
    · simp only [step, ha, Bool.not_true, Bool.false_eq_true, if_false]; exact shut_ackN hq env h _
    · rw [step_turn_eq env app ha h.rb h.inbox h.rs]
      unfold turnIdle
      split
      · exact shut_delTurn (h.of_eq rfl h.rs h.logShut)
      · exact shut_delTurn h
    · rw [Sock.step_api env app _ ha]
      rcases Bool.or_eq_true_iff.mp he with he | he
      · exact (shut_api env app h he).imp_right (congrArg chunks)
      · exact shut_pstep h (api_passive env app he h.rb h.dcF)

theorem shut_stepK {app : App} (hq : QuietApp app) (env : Env) {s : Sock} (k : Nat) (h : Shut s) {e : Event}
    (he : allowedEv e = true) :
    Shut (stepK env app (s, k) e).1 ∧ chunks (stepK env app (s, k) e).1.log = chunks s.log ∧
    (stepK env app (s, k) e).2 = k + 1 := by
  by_cases ha : s.alive = true
  · rw [Sock.stepK_alive env app k e ha]
    obtain ⟨h1, e1⟩ := shut_step hq env (h.ev k) he
    exact ⟨h1, by rw [e1]; exact chunks_ev _ _, rfl⟩
  · have ha' : s.alive = false := by simpa using ha
    rw [Sock.stepK_dead env app k e ha']
    exact ⟨h, rfl, rfl⟩

end Qhttp.C03L
