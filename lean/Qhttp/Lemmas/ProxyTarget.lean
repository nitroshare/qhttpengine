import Qhttp.Model.Proxy
import Qhttp.Model.Fs
import Qhttp.Lemmas.BytesLemmas
import Qhttp.Lemmas.HttpBytes
/-
  C12 — the request target written upstream: `"/" ++ pctEncode pathKeep path ++ rawQuery raw`.
  Pure byte lemmas: the percent-encoder's alphabet, `pctDecode ∘ pctEncode = id` whenever '%'
  itself is escaped, the shape of `rawQuery`.
-/
namespace Qhttp.ProxyL
open Qhttp Proxy

def isUpHex (c : UInt8) : Bool := (48 ≤ c && c ≤ 57) || (65 ≤ c && c ≤ 70)

theorem hexv_hexUp : ∀ n, n < 16 → Fs.hexv (hexUp n) = some n := by decide

theorem isUpHex_hexUp : ∀ n, n < 16 → isUpHex (hexUp n) = true := by decide

theorem u8_div_lt (c : UInt8) : c.toNat / 16 < 16 := by
  have := c.toNat_lt; omega

theorem u8_mod_lt (c : UInt8) : c.toNat % 16 < 16 := by omega

theorem u8_recompose (c : UInt8) : UInt8.ofNat (c.toNat / 16 * 16 + c.toNat % 16) = c := by
  have : c.toNat / 16 * 16 + c.toNat % 16 = c.toNat := by omega
  rw [this]; exact UInt8.ofNat_toNat

theorem pctDecode_cons_ne (x : UInt8) (rest : Bytes) (h : x ≠ 37) :
    Fs.pctDecode (x :: rest) = x :: Fs.pctDecode rest := by
  rw [Fs.pctDecode.eq_2]
  intro a c r hx _; exact h hx

theorem pctDecode_escape (c : UInt8) (rest : Bytes) :
    Fs.pctDecode (37 :: hexUp (c.toNat / 16) :: hexUp (c.toNat % 16) :: rest) = c :: Fs.pctDecode rest := by
  rw [Fs.pctDecode.eq_1, hexv_hexUp _ (u8_div_lt c), hexv_hexUp _ (u8_mod_lt c)]
  simp only [u8_recompose]

/-- whenever '%' itself is always escaped -/
theorem pctDecode_pctEncode (keep : UInt8 → Bool) (h37 : keep 37 = false) (p : Bytes) :
    Fs.pctDecode (pctEncode keep p) = p := by
  induction p with
  | nil => simp [pctEncode, Fs.pctDecode.eq_3]
  | cons c cs ih =>
    rw [pctEncode]
    by_cases hk : keep c = true
    · have hc : c ≠ 37 := fun e => by rw [e, h37] at hk; cases hk
      simp only [hk, if_true, List.singleton_append]
      rw [pctDecode_cons_ne c _ hc, ih]
    · simp only [hk, Bool.false_eq_true, if_false, List.cons_append, List.nil_append]
      rw [pctDecode_escape, ih]

theorem pathKeep_37 : pathKeep 37 = false := by decide

theorem mem_pctEncode {keep : UInt8 → Bool} {p : Bytes} {x : UInt8} (h : x ∈ pctEncode keep p) :
    keep x = true ∨ x = 37 ∨ isUpHex x = true := by
  induction p with
  | nil => simp [pctEncode] at h
  | cons c cs ih =>
    rw [pctEncode] at h
    rcases List.mem_append.mp h with h | h
    · by_cases hk : keep c = true
      · simp only [hk, if_true, List.mem_singleton] at h
        subst h; exact Or.inl hk
      · simp only [hk, Bool.false_eq_true, if_false, List.mem_cons, List.not_mem_nil, or_false] at h
        rcases h with h | h | h
        · exact Or.inr (Or.inl h)
        · subst h; exact Or.inr (Or.inr (isUpHex_hexUp _ (u8_div_lt c)))
        · subst h; exact Or.inr (Or.inr (isUpHex_hexUp _ (u8_mod_lt c)))
    · exact ih h

theorem not_mem_pctEncode {keep : UInt8 → Bool} (p : Bytes) {x : UInt8}
    (h1 : keep x = false) (h2 : x ≠ 37) (h3 : isUpHex x = false) : x ∉ pctEncode keep p := by
  intro h
  rcases mem_pctEncode h with h | h | h
  · rw [h1] at h; cases h
  · exact h2 h
  · rw [h3] at h; cases h

theorem SP_not_mem_enc (p : Bytes) : SP ∉ pctEncode pathKeep p :=
  not_mem_pctEncode p (by decide) (by decide) (by decide)
theorem CR_not_mem_enc (p : Bytes) : CR ∉ pctEncode pathKeep p :=
  not_mem_pctEncode p (by decide) (by decide) (by decide)
theorem LF_not_mem_enc (p : Bytes) : LF ∉ pctEncode pathKeep p :=
  not_mem_pctEncode p (by decide) (by decide) (by decide)
theorem QM_not_mem_enc (p : Bytes) : (63 : UInt8) ∉ pctEncode pathKeep p :=
  not_mem_pctEncode p (by decide) (by decide) (by decide)

def encPath (p : Bytes) : Bytes := 47 :: pctEncode pathKeep p

theorem not_mem_encPath (p : Bytes) {x : UInt8} (h0 : x ≠ 47)
    (h1 : pathKeep x = false) (h2 : x ≠ 37) (h3 : isUpHex x = false) : x ∉ encPath p := by
  intro h
  rcases List.mem_cons.mp h with h | h
  · exact h0 h
  · exact not_mem_pctEncode p h1 h2 h3 h

theorem pctDecode_encPath (p : Bytes) : Fs.pctDecode (encPath p) = 47 :: p := by
  rw [encPath, pctDecode_cons_ne _ _ (by decide), pctDecode_pctEncode _ pathKeep_37]

theorem rawQuery_of_none {r : Bytes} (h : (63 : UInt8) ∉ r) : rawQuery r = [] := by
  unfold rawQuery
  rw [Qhttp.breakOn_eq_none_of_not_mem h]

theorem rawQuery_of_some (a q : Bytes) (h : (63 : UInt8) ∉ a) : rawQuery (a ++ [63] ++ q) = 63 :: q := by
  unfold rawQuery
  rw [Qhttp.breakOn_found (c := 63) (d := []) q h]

theorem rawQuery_cases (r : Bytes) :
    ((63 : UInt8) ∉ r ∧ rawQuery r = []) ∨
    ∃ a q, r = a ++ [63] ++ q ∧ (63 : UInt8) ∉ a ∧ rawQuery r = 63 :: q := by
  unfold rawQuery
  cases h : breakOn [63] r with
  | none =>
    left
    refine ⟨?_, rfl⟩
    intro hm
    exact breakOn_none h (singleton_infix_iff.mpr hm)
  | some pr =>
    obtain ⟨a, q⟩ := pr
    right
    exact ⟨a, q, breakOn_some h, breakOn_singleton_not_mem h, rfl⟩

theorem mem_rawQuery {r : Bytes} {x : UInt8} (h : x ∈ rawQuery r) : x ∈ r := by
  rcases rawQuery_cases r with ⟨_, e⟩ | ⟨a, q, e1, _, e2⟩
  · rw [e] at h; cases h
  · rw [e2] at h; rw [e1]
    rcases List.mem_cons.mp h with h | h
    · subst h; simp
    · simp [h]

theorem rawQuery_suffix (r : Bytes) : rawQuery r <:+ r := by
  rcases rawQuery_cases r with ⟨_, e⟩ | ⟨a, q, e1, _, e2⟩
  · rw [e]; exact List.nil_suffix
  · rw [e2]; exact ⟨a, by rw [e1]; simp⟩

theorem hexv_some_keep {keep : UInt8 → Bool}
    (hk : ∀ n, n < 256 → (Fs.hexv (UInt8.ofNat n)).isSome = true → keep (UInt8.ofNat n) = true)
    {a : UInt8} {x : Nat} (h : Fs.hexv a = some x) : keep a = true := by
  have := hk a.toNat a.toNat_lt
  rw [UInt8.ofNat_toNat, h] at this
  exact this rfl

theorem hexv_37 : Fs.hexv 37 = none := by decide

theorem pctDecode_single (a : UInt8) : Fs.pctDecode [a] = [a] := by
  rw [Fs.pctDecode.eq_2 a [] (by intro _ _ _ _ h; cases h), Fs.pctDecode.eq_3]

theorem pctDecode_37_single (a : UInt8) : Fs.pctDecode [37, a] = [37, a] := by
  rw [Fs.pctDecode.eq_2 37 [a] (by intro _ _ _ _ h; cases h), pctDecode_single]

theorem pctEncode_cons_keep {keep : UInt8 → Bool} {c : UInt8} (cs : Bytes) (h : keep c = true) :
    pctEncode keep (c :: cs) = c :: pctEncode keep cs := by
  rw [pctEncode]; simp [h]

theorem pctEncode_cons_esc {keep : UInt8 → Bool} {c : UInt8} (cs : Bytes) (h : keep c = false) :
    pctEncode keep (c :: cs) =
      37 :: hexUp (c.toNat / 16) :: hexUp (c.toNat % 16) :: pctEncode keep cs := by
  rw [pctEncode]; simp [h]

/-- a '%' that does not start an escape in the raw text does not start one in the encoded text -/
theorem pctDecode_37_encode {keep : UInt8 → Bool}
    (a c : UInt8) (rest : Bytes) (hno : ¬ ((Fs.hexv a).isSome = true ∧ (Fs.hexv c).isSome = true)) :
    Fs.pctDecode (37 :: pctEncode keep (a :: c :: rest)) =
      37 :: Fs.pctDecode (pctEncode keep (a :: c :: rest)) := by
  by_cases ha : keep a = true
  · rw [pctEncode_cons_keep _ ha]
    by_cases hc : keep c = true
    · rw [pctEncode_cons_keep _ hc, Fs.pctDecode.eq_1]
      cases h1 : Fs.hexv a <;> cases h2 : Fs.hexv c <;> simp_all
    · have hc' : keep c = false := by simpa using hc
      rw [pctEncode_cons_esc _ hc', Fs.pctDecode.eq_1, hexv_37]
      cases Fs.hexv a <;> rfl
  · have ha' : keep a = false := by simpa using ha
    rw [pctEncode_cons_esc _ ha', Fs.pctDecode.eq_1, hexv_37]

/-- when '%' and all hex digits are kept the encoded text decodes to what the raw text decodes to:
    existing escapes stay escapes, stray '%' stay stray, newly escaped bytes decode to themselves -/
theorem pctDecode_pctEncode_commute (keep : UInt8 → Bool) (h37 : keep 37 = true)
    (hk : ∀ n, n < 256 → (Fs.hexv (UInt8.ofNat n)).isSome = true → keep (UInt8.ofNat n) = true)
    (x : Bytes) : Fs.pctDecode (pctEncode keep x) = Fs.pctDecode x := by
  fun_induction Fs.pctDecode x with
  | case1 a c rest xa ya h1 h2 ih =>
    rw [pctEncode_cons_keep _ h37, pctEncode_cons_keep _ (hexv_some_keep hk h2),
      pctEncode_cons_keep _ (hexv_some_keep hk h1), Fs.pctDecode.eq_1, h1, h2]
    simp only [ih]
  | case2 a c rest hno ih =>
    rw [pctEncode_cons_keep _ h37, pctDecode_37_encode a c rest ?_, ih]
    rintro ⟨h1, h2⟩
    obtain ⟨xa, hx⟩ := Option.isSome_iff_exists.mp h1
    obtain ⟨ya, hy⟩ := Option.isSome_iff_exists.mp h2
    exact hno xa ya hx hy
  | case3 y rest hnp ih =>
    by_cases hy : keep y = true
    · rw [pctEncode_cons_keep _ hy]
      by_cases h37' : y = 37
      · subst h37'
        -- fewer than two bytes follow
        match rest, hnp with
        | [], _ => simp only [pctEncode]; rw [pctDecode_single, Fs.pctDecode.eq_3]
        | [a], _ =>
          by_cases ha : keep a = true
          · rw [pctEncode_cons_keep _ ha]; simp only [pctEncode]
            rw [pctDecode_37_single, pctDecode_single]
          · have ha' : keep a = false := by simpa using ha
            rw [pctEncode_cons_esc _ ha', Fs.pctDecode.eq_1, hexv_37]
            simp only [pctEncode]
            rw [pctDecode_escape, pctDecode_single, Fs.pctDecode.eq_3]
        | a :: c :: r, hnp => exact (hnp a c r rfl rfl).elim
      · rw [pctDecode_cons_ne _ _ h37', ih]
    · have hy' : keep y = false := by simpa using hy
      rw [pctEncode_cons_esc _ hy', pctDecode_escape, ih]
  | case4 => simp [pctEncode, Fs.pctDecode.eq_3]

theorem queryKeep_37 : queryKeep 37 = true := by decide

theorem queryKeep_hex : ∀ n, n < 256 → (Fs.hexv (UInt8.ofNat n)).isSome = true →
    queryKeep (UInt8.ofNat n) = true := by decide +kernel

theorem pctDecode_upstreamQuery (r : Bytes) :
    Fs.pctDecode (upstreamQuery r) = Fs.pctDecode (rawQuery r) :=
  pctDecode_pctEncode_commute queryKeep queryKeep_37 queryKeep_hex _

theorem SP_not_mem_query (r : Bytes) : SP ∉ upstreamQuery r :=
  not_mem_pctEncode _ (by decide) (by decide) (by decide)
theorem CR_not_mem_query (r : Bytes) : CR ∉ upstreamQuery r :=
  not_mem_pctEncode _ (by decide) (by decide) (by decide)
theorem LF_not_mem_query (r : Bytes) : LF ∉ upstreamQuery r :=
  not_mem_pctEncode _ (by decide) (by decide) (by decide)

theorem upstreamQuery_cases (r : Bytes) :
    upstreamQuery r = [] ∨ ∃ q, upstreamQuery r = 63 :: q := by
  unfold upstreamQuery
  rcases rawQuery_cases r with ⟨_, e⟩ | ⟨a, q, _, _, e2⟩
  · left; rw [e]; rfl
  · right; rw [e2, pctEncode_cons_keep _ (by decide)]; exact ⟨_, rfl⟩

def target (p r : Bytes) : Bytes := encPath p ++ upstreamQuery r

theorem breakOn_target (p r : Bytes) :
    (match breakOn [63] (target p r) with | some (a, q) => (a, 63 :: q) | none => (target p r, [])) =
      (encPath p, upstreamQuery r) := by
  have hq : (63 : UInt8) ∉ encPath p :=
    not_mem_encPath p (by decide) (by decide) (by decide) (by decide)
  rcases upstreamQuery_cases r with e | ⟨q, e2⟩
  · rw [target, e, List.append_nil, Qhttp.breakOn_eq_none_of_not_mem hq]
  · rw [target, e2]
    have : encPath p ++ 63 :: q = encPath p ++ [63] ++ q := by simp
    rw [this, Qhttp.breakOn_found (c := 63) (d := []) q hq]

theorem breakOn_target_cases (p r : Bytes) :
    (breakOn [63] (target p r) = none ∧ target p r = encPath p ∧ upstreamQuery r = []) ∨
    ∃ q, breakOn [63] (target p r) = some (encPath p, q) ∧ upstreamQuery r = 63 :: q := by
  have hq : (63 : UInt8) ∉ encPath p :=
    not_mem_encPath p (by decide) (by decide) (by decide) (by decide)
  rcases upstreamQuery_cases r with e | ⟨q, e2⟩
  · left
    rw [target, e, List.append_nil]
    exact ⟨Qhttp.breakOn_eq_none_of_not_mem hq, rfl, rfl⟩
  · right
    refine ⟨q, ?_, e2⟩
    rw [target, e2]
    have : encPath p ++ 63 :: q = encPath p ++ [63] ++ q := by simp
    rw [this, Qhttp.breakOn_found (c := 63) (d := []) q hq]

end Qhttp.ProxyL
