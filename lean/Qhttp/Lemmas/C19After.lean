import Qhttp.Lemmas.C19Step
/-
  C19: nothing is routed after the close.

  `rac l` ("routed after close", `C19.routedAfterClose`): some `hp` or `rt` follows the first `tc`.
  The invariant `A` ("after"; `run_A` is what `C19.holdsStrict_run` rests on):
      rac s.log = false  ∧  (s.rs = .headers → no `tc` in s.log)
  `tc` is recorded only by `tcpClose`, reached only through `Sock.close`, which leaves `.headers`
  first; `hp` is recorded only by `readHeaders`, which runs only in `.headers`; `rs` never returns
  to `.headers`.  The one `rt` note of the `headersParsed` slot has to be its FIRST call: then it is
  recorded right after `hp`, when the history still has no `tc` (otherwise: `C19.cxApp`).
-/
namespace Qhttp.C19L
open Qhttp Qhttp.Obs Qhttp.Sock

/-- a request is handed to the application -/
def rtd (o : Obs) : Bool := isHp o || isRt o

def rac (l : List Obs) : Bool := (l.dropWhile (fun o => !isTc o)).any rtd

theorem rac_nil : rac [] = false := rfl

theorem rac_eq (l : List Obs) : rac l = aft isTc rtd l := rfl

theorem quiet_rtd {o : Obs} (h : quiet o = true) : rtd o = false ∧ isTc o = false := by
  obtain ⟨q1, q2, _, q4, _, _⟩ := quiet_facts h
  exact ⟨by rw [rtd, q1, q2]; rfl, q4⟩

def A (s : Sock) : Prop := rac s.log = false ∧ (s.rs = .headers → s.log.any isTc = false)

theorem A_init : A ({} : Sock) := ⟨rfl, fun _ => rfl⟩

theorem A_same {s s' : Sock} (hs : Same s s') (h : A s) : A s' := by
  unfold A; rw [hs.l]; exact ⟨h.1, fun x => h.2 (hs.r x)⟩

theorem A_snoc {s : Sock} (o : Obs) (ho : rtd o = false) (ht : isTc o = false) (h : A s) :
    A { s with log := s.log ++ [o] } := by
  refine ⟨aft_snoc _ h.1 ho, fun hr => ?_⟩
  show (s.log ++ [o]).any isTc = false
  rw [List.any_append, h.2 hr, List.any_cons, ht]; rfl

theorem A_tcpWrite {s : Sock} (b : Bytes) (h : A s) : A (tcpWrite s b) := by
  unfold tcpWrite
  split
  · exact A_snoc (.w b) rfl rfl h
  · exact h

/-- the transport is shut only after `.headers` has been left -/
theorem A_tcpClose {s : Sock} (hr : s.rs = .finished) (h : A s) : A (tcpClose s) := by
  obtain ⟨_, hrs, _, hl⟩ := tcpClose_facts s
  refine ⟨?_, fun x => ?_⟩
  · rcases hl with e | e <;> rw [e]
    · exact h.1
    · exact aft_snoc _ h.1 rfl
  · rw [hrs, hr] at x; cases x

theorem A_frame : Frame quiet A where
  res := quiet_res
  same := fun _ _ hs h => A_same hs h
  tw := fun _ b h => A_tcpWrite b h
  tcl := fun _ hr h => A_tcpClose hr h
  note := fun _ o ho h => A_snoc o (quiet_rtd ho).1 (quiet_rtd ho).2 h

variable {env : Env} {app : App} {s : Sock}

theorem emitDc_A (happ : AppQ app) (h : A s) : A (emitDc env app s) := by
  unfold emitDc
  dsimp only
  exact foldl_apiPrim_frame A_frame env _ (happ.dc _) (A_snoc .dc rfl rfl h)

theorem fin_A (happ : AppQ app) (h : A s) :
    A (if s.dcFlag = true then emitDc env app s else s) := by
  split
  · exact emitDc_A happ h
  · exact h

theorem api_A (happ : AppQ app) {op : ApiOp} (hq : qOp op = true) (h : A s) :
    A (api env app s op) := by
  unfold api
  exact fin_A happ (apiPrim_frame A_frame env (qOp_note hq) h)

theorem apis_A (happ : AppQ app) (ops : List ApiOp) (hq : ops.all qOp = true) (h : A s) :
    A (apis env app s ops) :=
  foldl_closed (f := api env app) (fun hq h => api_A happ hq h) ops hq h

theorem emit_A (happ : AppQ app) {o : Obs} (ho : quiet o = true) (ops : List ApiOp)
    (hq : ops.all qOp = true) (h : A s) : A (emit env app s o ops) := by
  unfold emit
  exact apis_A happ ops hq (A_snoc o (quiet_rtd ho).1 (quiet_rtd ho).2 h)

/-- in the `headersParsed` slot a routing note may only be the first call -/
def hpFirst (ops : List ApiOp) : Bool :=
  match ops with
  | [] => true
  | op :: rest => hOp op && rest.all qOp

theorem hp_A (happ : AppQ app) (ops : List ApiOp) (hops : hpFirst ops = true)
    (hr : s.rs ≠ .headers) (hn : s.log.any isTc = false) : A (emit env app s .hp ops) := by
  unfold emit
  have hn1 : (s.log ++ [Obs.hp]).any isTc = false := by
    rw [List.any_append, hn]; rfl
  have h1 : A { s with log := s.log ++ [.hp] } :=
    ⟨aft_of_none hn1, fun x => absurd x hr⟩
  cases ops with
  | nil => exact h1
  | cons op rest =>
    simp only [hpFirst, Bool.and_eq_true] at hops
    obtain ⟨h0, hrest⟩ := hops
    unfold apis
    rw [List.foldl_cons]
    refine apis_A happ rest hrest ?_
    rcases hOp_cases h0 with ⟨a, b, rfl⟩ | ⟨_, hqo⟩
    · unfold api
      apply fin_A happ
      unfold apiPrim
      split
      · exact h1
      · refine ⟨aft_of_none ?_, fun x => absurd x hr⟩
        show (s.log ++ [Obs.hp] ++ [Obs.rt a b]).any isTc = false
        rw [List.any_append, hn1]; rfl
    · exact api_A happ hqo h1

theorem A_steps (happ : AppQ app) (hhp : ∀ s, hpFirst (app.onHp s) = true) :
    StepClosed env app A where
  same := fun _ _ hs h => A_same hs h
  bad := fun _ h => fin_A happ (writeError_frame A_frame env _ _ h)
  hp := fun _ _ hs hr hr' h => hp_A happ _ (hhp _) hr' (by rw [hs.l]; exact h.2 hr)
  rr := fun _ h => emit_A happ rfl _ (happ.rr _) h
  rcf := fun _ h => emit_A happ rfl _ (happ.rcf _) h
  bw := fun _ _ h => emit_A happ rfl _ (happ.bw _) h
  tcp := fun _ _ _ h => h
  dc := fun _ h => emitDc_A happ h
  del := fun _ h => A_snoc .del rfl rfl h

theorem run_A (happ : AppQ app) (hhp : ∀ s, hpFirst (app.onHp s) = true) (evs : List Event)
    (hevs : evs.all evOK = true) : A (Sock.run env app evs) := by
  refine (run_induct_alive env app evs (fun _ rest s => rest.all evOK = true ∧ A s)
    ⟨hevs, A_init⟩ ?_ ?_).2
  · intro k e rest s _ ⟨hall, h⟩
    simp only [List.all_cons, Bool.and_eq_true] at hall
    exact ⟨hall.2, h⟩
  · intro k e rest s _ hal ⟨hall, h⟩
    simp only [List.all_cons, Bool.and_eq_true] at hall
    have h' : A { s with log := s.log ++ [.ev k] } := A_snoc (.ev k) rfl rfl h
    refine ⟨hall.2, ?_⟩
    cases e with
    | api op => rw [step_api env app op (s := { s with log := s.log ++ [.ev k] }) hal]; exact api_A happ hall.1 h'
    | _ => exact (A_steps happ hhp).step (fun _ x => Event.noConfusion x) h'

end Qhttp.C19L
