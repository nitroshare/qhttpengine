import Qhttp.Lemmas.ProxyHead
import Qhttp.Lemmas.ProxyRun
/-
  C12 — the clauses of the executable predicate `C12.holds` about the forwarded header map,
  stated on the model's `fwdHeaders` (the Props file assembles them).
-/
namespace Qhttp.ProxyL
open Qhttp Proxy Qhttp.HB Qhttp.C03L

/-- the value multiset under a name as `C12.vals` computes it -/
def valsL (n : Bytes) (hs : List (Bytes × Bytes)) : List Bytes :=
  Http.sortBytes ((hs.filter fun h => lower h.1 == lower n).map (·.2))

theorem valsL_eq (n : Bytes) (hs : List (Bytes × Bytes)) :
    valsL n hs = Http.sortBytes (HeaderMap.values n hs) := rfl

theorem clause_headers (c : Cfg) (h : HeaderMap) :
    h.all (fun e => lower e.1 == lower XFF || lower e.1 == lower XRI ||
                    valsL e.1 (fwdHeaders c h) == valsL e.1 h) = true := by
  rw [List.all_eq_true]
  intro e _
  by_cases h1 : lower e.1 = lower XFF
  · simp [h1]
  · by_cases h2 : lower e.1 = lower XRI
    · simp [h2]
    · have k1 : HeaderMap.keyEq XFF e.1 = false := by
        cases hk : HeaderMap.keyEq XFF e.1
        · rfl
        · exact absurd (HeaderMap.keyEq_iff.mp hk).symm h1
      have k2 : HeaderMap.keyEq XRI e.1 = false := by
        cases hk : HeaderMap.keyEq XRI e.1
        · rfl
        · exact absurd (HeaderMap.keyEq_iff.mp hk).symm h2
      rw [valsL_eq, valsL_eq, headers_forwarded c h e.1 k1 k2]
      simp

/-- the combined list as `C12.holds` computes it from parsed header entries -/
def combinedL (hs : List (Bytes × Bytes)) : List Bytes :=
  (hs.filter fun h => lower h.1 == lower XFF).flatMap (fun h => splitF [44, 32] (h.2.length + 1) none h.2)

theorem combinedL_eq (hs : List (Bytes × Bytes)) :
    combinedL hs = (HeaderMap.values XFF hs).flatMap csplit := by
  simp only [combinedL, HeaderMap.values, List.flatMap_map]
  rfl

theorem csplit_xff (vs : List Bytes) (peer : Bytes) :
    csplit ((vs.flatMap fun v => v ++ [44, 32]) ++ peer) = vs.flatMap csplit ++ csplit peer := by
  induction vs with
  | nil => simp
  | cons v vs ih =>
    have : ((v :: vs).flatMap fun v => v ++ [44, 32]) ++ peer =
        v ++ [44, 32] ++ ((vs.flatMap fun v => v ++ [44, 32]) ++ peer) := by
      simp [List.append_assoc]
    rw [this, csplit_join, ih]
    simp

theorem combinedL_fwd (c : Cfg) (h : HeaderMap) :
    combinedL (fwdHeaders c h) = (HeaderMap.values XFF h).reverse.flatMap csplit ++ csplit c.peerIP := by
  rw [combinedL_eq, xff_ends_with_peer]
  simp only [List.flatMap_cons, List.flatMap_nil, List.append_nil]
  exact csplit_xff _ _

theorem clause_xff (c : Cfg) (h : HeaderMap) (hpeer : (44 : UInt8) ∉ c.peerIP) :
    ((combinedL (fwdHeaders c h)).getLast? == some c.peerIP &&
      (h.filter fun e => lower e.1 == lower XFF).all fun e =>
        (splitF [44, 32] (e.2.length + 1) none e.2).all fun v => (combinedL (fwdHeaders c h)).contains v) = true := by
  have hp : csplit c.peerIP = [c.peerIP] := splitAll_of_not_mem (c := 44) (d := [32]) hpeer
  rw [combinedL_fwd, hp]
  simp only [Bool.and_eq_true]
  constructor
  · simp
  · rw [List.all_eq_true]
    intro e he
    rw [List.all_eq_true]
    intro v hv
    rw [List.contains_iff_mem]
    apply List.mem_append_left
    rw [List.mem_flatMap]
    refine ⟨e.2, ?_, hv⟩
    rw [List.mem_reverse]
    simp only [HeaderMap.values, List.mem_map]
    exact ⟨e, he, rfl⟩

theorem sortBytes_single (x : Bytes) : Http.sortBytes [x] = [x] := rfl

theorem clause_xri (c : Cfg) (h : HeaderMap) :
    (if HeaderMap.contains XRI h then valsL XRI (fwdHeaders c h) == valsL XRI h
     else valsL XRI (fwdHeaders c h) == [c.peerIP]) = true := by
  rw [valsL_eq, valsL_eq, xri]
  split
  · simp
  · simp [sortBytes_single]

theorem HTTP11_lit : Parser.HTTP11 = lit ['H','T','T','P','/','1','.','1'] := rfl

theorem clause_target (c : Cfg) (raw : Bytes) :
    (!containsByte CR (target c.path raw) && !containsByte LF (target c.path raw) &&
      (let (p, q) := match breakOn [63] (target c.path raw) with
                     | some (a, b) => (a, 63 :: b) | none => (target c.path raw, [])
       Fs.pctDecode p == 47 :: c.path && !containsByte SP q &&
         Fs.pctDecode q == Fs.pctDecode (rawQuery raw))) = true := by
  obtain ⟨_, t2, t3⟩ := target_clean c.path raw
  have hsp := Http.containsByte_eq_false.mpr (SP_not_mem_query raw)
  have hdq := pctDecode_upstreamQuery raw
  rw [Http.containsByte_eq_false.mpr t2, Http.containsByte_eq_false.mpr t3]
  rcases breakOn_target_cases c.path raw with ⟨hb, ht, hq⟩ | ⟨q, hb, hq⟩
  · rw [hb]
    simp only [ht, pctDecode_encPath]
    rw [hq] at hdq
    rw [← hdq]
    simp [containsByte]
  · rw [hb]
    simp only [pctDecode_encPath]
    rw [hq] at hsp hdq
    rw [hsp, hdq]
    simp

end Qhttp.ProxyL
