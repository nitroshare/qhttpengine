import Qhttp.Lemmas.C13First
/-
  C13, for `C13.holds_run`: one event of the history on a proxy whose client socket is still open:
  the invariant (`OSt`, `OMode`) and what an event-loop turn makes of it (`TurnRes`).
-/
namespace Qhttp.C13L
open Qhttp Qhttp.Sock Qhttp.Proxy
open Qhttp.C03L (quietObs)
open Qhttp.ProxyL (routed countEv turnSock connectFlush connectFlushR deliverPhase closePhase delPhase)

/-- connected upstream, client socket open, the queued initial read done -/
structure OSt (st : St) : Prop where
  conn : st.conn = .connected
  op : WOpen st.sock
  initP : st.sock.initPending = false

/-- `D` = the upstream bytes delivered to the proxy so far -/
inductive OMode (st : St) (D : Bytes) : Prop
  /-- no complete head yet: nothing written -/
  | acc (wire : Obs.wire st.sock.log = []) (hp : st.headersParsed = false) (respH : st.sock.respHeaders = [])
      (upRead : st.upRead = D) (nb : breakOn CRLF2 D = none)
  /-- head relayed, body passing through -/
  | relayed (head body : Bytes) (code : Int) (reason : Bytes) (hs : HeaderMap)
      (hp : st.headersParsed = true) (ws : st.sock.ws ≠ .none)
      (hb : breakOn CRLF2 D = some (head, body))
      (hq : Parser.parseResponseHeaders head = some (code, reason, hs))
      (wire : Obs.wire st.sock.log = headOut code reason hs ++ body)

theorem OSt.quiet {st st' : St} (o : OSt st) (w : WStep st.sock st'.sock []) (hc : st'.conn = st.conn) : OSt st' :=
  ⟨hc.trans o.conn, w.op, w.initP.trans o.initP⟩

theorem OMode.quiet {st st' : St} {D : Bytes} (m : OMode st D) (w : WStep st.sock st'.sock [])
    (hp : st'.headersParsed = st.headersParsed) (hu : st'.upRead = st.upRead) : OMode st' D := by
  cases m with
  | acc wire hp' respH upRead nb =>
    exact OMode.acc (by rw [w.wire, wire]; rfl) (hp.trans hp') (w.respH.trans respH) (hu.trans upRead) nb
  | relayed head body code reason hs hp' ws hb hq wire =>
    exact OMode.relayed head body code reason hs (hp.trans hp') (w.ws ws) hb hq (by rw [w.wire, wire]; simp)

/-- the marker and the queued initial read leave the write side alone -/
theorem turnSock_wstep (env : Env) {s : Sock} (ho : WOpen s) (hr : s.initPending = true → s.rs ≠ .headers)
    (k : Nat) : WStep { s with initPending := false } (turnSock env s k) [] := by
  have ho' : WOpen { s with initPending := false } := ho.of_eq rfl ho.logOpen
  have hq := C03L.quiet_singleton (quiet_ev k)
  unfold turnSock
  dsimp only
  by_cases hi : s.initPending = true
  · rw [if_pos hi]
    obtain ⟨inb, fr⟩ := onReadyRead_frame env
      (s := { s with log := s.log ++ [Obs.ev k], initPending := false }) ho.alive ho.dcF (hr hi)
    have w0 : WStep { s with initPending := false }
        { s with log := s.log ++ [Obs.ev k], initPending := false, tcp := { s.tcp with inbox := inb } } [] :=
      WStep.of_quiet ho' [Obs.ev k] hq rfl rfl rfl id rfl
    simpa using w0.trans (fr.wstep w0.op)
  · rw [if_neg hi]
    exact WStep.of_quiet ho' [Obs.ev k] hq rfl rfl (by simpa using hi) id rfl

/-- the refusal branch is only taken while connecting -/
theorem connectFlushR_of_ne (env : Env) (c : Cfg) {st : St} (h : st.conn ≠ .connecting) :
    connectFlushR env c st = connectFlush c st := by
  have e : (st.conn == UpConn.connecting) = false := by cases hc : st.conn <;> first | rfl | exact absurd hc h
  unfold connectFlushR connectFlush
  simp only [e, Bool.false_eq_true, if_false]

theorem connectFlush_wstep (c : Cfg) {st : St} (ho : WOpen st.sock) : WStep st.sock (connectFlush c st).sock [] := by
  unfold connectFlush
  dsimp only
  split <;> split
  · exact wstep_note ho (quiet_misc 20 _)
  · exact WStep.refl ho
  · exact wstep_note ho (quiet_misc 20 _)
  · exact WStep.refl ho

theorem turn_before_delivery (env : Env) (c : Cfg) {st : St} {D : Bytes} (o : OSt st) (m : OMode st D) (n k : Nat) :
    OSt (connectFlushR env c (routed n st (turnSock env st.sock k))) ∧
    OMode (connectFlushR env c (routed n st (turnSock env st.sock k))) D ∧
    (connectFlushR env c (routed n st (turnSock env st.sock k))).fromUp = st.fromUp ∧
    (connectFlushR env c (routed n st (turnSock env st.sock k))).upClosing = st.upClosing := by
  obtain ⟨r1, r2, r3, r4, r5⟩ := ProxyL.routed_frame n st (turnSock env st.sock k)
  have w1 : WStep st.sock (routed n st (turnSock env st.sock k)).sock [] := by
    rw [ProxyL.routed_sock]
    have w0 : WStep st.sock { st.sock with initPending := false } [] :=
      WStep.of_quiet o.op [] (fun _ h => nomatch h) (by simp) rfl o.initP.symm id rfl
    simpa using w0.trans (turnSock_wstep env o.op (fun h => by rw [o.initP] at h; cases h) k)
  have c1 := r5.mpr o.conn
  generalize routed n st (turnSock env st.sock k) = a at r1 r2 r3 r4 w1 c1
  rw [connectFlushR_of_ne env c (by rw [c1]; exact fun e => nomatch e)]
  obtain ⟨f1, f2, f3, f4, f5, _⟩ := ProxyL.connectFlush_frame c a
  have w : WStep st.sock (connectFlush c a).sock [] := by simpa using w1.trans (connectFlush_wstep c w1.op)
  exact ⟨o.quiet w ((f5 c1).trans o.conn.symm), m.quiet w (f3.trans r3) (f4.trans r4), f1.trans r1, f2.trans r2⟩

/-- the 502 on a socket that has written nothing and whose header map is still empty -/
theorem err502_fresh (env : Env) {s : Sock} (hw : Obs.wire s.log = []) (hr : s.respHeaders = []) :
    Obs.wire s.log ++ err502 env s.respHeaders = err502 env [] := by
  rw [hw, hr]; rfl

/-- delivery on an open proxy: either still open with `D` extended, or a rejected head (502) -/
theorem deliver_open (env : Env) {st : St} {D : Bytes} (o : OSt st) (m : OMode st D) :
    (OSt (deliverPhase env st) ∧ OMode (deliverPhase env st) (D ++ st.fromUp.flatten) ∧ (deliverPhase env st).fromUp = [] ∧
      (deliverPhase env st).upClosing = st.upClosing) ∨
    (∃ head body, breakOn CRLF2 (D ++ st.fromUp.flatten) = some (head, body) ∧
      Parser.parseResponseHeaders head = none ∧ Frozen (err502 env []) (deliverPhase env st).sock) := by
  rw [ProxyL.deliverPhase_conn env st o.conn]
  cases m with
  | acc wire hp respH upRead nb =>
    have := deliver_outcome env st.fromUp (ProxyL.clr st) o.op hp (by show breakOn CRLF2 st.upRead = none; rw [upRead]; exact nb)
    have hD : (ProxyL.clr st).upRead ++ st.fromUp.flatten = D ++ st.fromUp.flatten := by
      show st.upRead ++ _ = _; rw [upRead]
    rw [hD] at this
    cases this with
    | waiting h e =>
      left
      rw [e]
      exact ⟨⟨o.conn, o.op, o.initP⟩, OMode.acc wire hp respH rfl h, rfl, rfl⟩
    | relayed head body code reason hs hb hq op wire' parsed ws respH' initP rest =>
      left
      simp only [Prod.mk.injEq] at rest
      refine ⟨⟨rest.1.trans o.conn, op, initP.trans o.initP⟩, ?_, rest.2.1, rest.2.2⟩
      refine OMode.relayed head body code reason hs parsed ws hb hq ?_
      rw [wire']; show Obs.wire st.sock.log ++ _ = _; rw [wire]; rfl
    | failed head body hb hq fr parsed rest =>
      right
      refine ⟨head, body, hb, hq, ?_⟩
      rw [← err502_fresh env wire respH]
      exact fr
  | relayed head body code reason hs hp ws hb hq wire =>
    left
    obtain ⟨s', e, w⟩ := passthrough env st.fromUp (st := ProxyL.clr st) o.op hp ws
    rw [e]
    refine ⟨⟨o.conn, w.op, w.initP.trans o.initP⟩, ?_, rfl, rfl⟩
    refine OMode.relayed head (body ++ st.fromUp.flatten) code reason hs hp (w.ws ws)
      (breakOn_append _ hb) hq ?_
    show Obs.wire s'.log = _
    rw [w.wire]; show Obs.wire st.sock.log ++ _ = _; rw [wire]; simp [List.append_assoc]

/-- what a turn makes of an open proxy; `D'` = everything delivered including this turn -/
inductive TurnRes (env : Env) (st' : St) (D' : Bytes) (closing : Bool) : Prop
  | cont (hc : closing = false) (o : OSt st') (m : OMode st' D') (fu : st'.fromUp = [])
      (uc : st'.upClosing = false)
  | failed (head body : Bytes) (hb : breakOn CRLF2 D' = some (head, body))
      (hq : Parser.parseResponseHeaders head = none) (fr : Frozen (err502 env []) st'.sock)
  | closedNone (hc : closing = true) (nb : breakOn CRLF2 D' = none) (fr : Frozen (err502 env []) st'.sock)
  | closedRelayed (hc : closing = true) (head body : Bytes) (code : Int) (reason : Bytes) (hs : HeaderMap)
      (hb : breakOn CRLF2 D' = some (head, body))
      (hq : Parser.parseResponseHeaders head = some (code, reason, hs))
      (fr : Frozen (headOut code reason hs ++ body) st'.sock)

theorem turn_post (env : Env) {st : St} {D : Bytes} (o : OSt st) (m : OMode st D) (hf : st.fromUp = []) :
    TurnRes env (delPhase (closePhase env st)) D st.upClosing := by
  by_cases hc : st.upClosing = true
  · unfold closePhase
    rw [if_pos (by rw [o.conn, hc]; rfl), hc]
    cases m with
    | acc wire hp respH upRead nb =>
      have fr := onUpstreamError_502 env (st := { st with conn := .closed, upClosing := false }) o.op hp
      refine TurnRes.closedNone rfl nb (frozen_delPhase ?_)
      rw [← err502_fresh env wire respH]
      exact fr
    | relayed head body code reason hs hp ws hb hq wire =>
      have fr := onUpstreamError_close env (st := { st with conn := .closed, upClosing := false }) o.op hp
      refine TurnRes.closedRelayed rfl head body code reason hs hb hq (frozen_delPhase ?_)
      rw [← wire]
      exact fr
  · have hc' : st.upClosing = false := by simpa using hc
    rw [ProxyL.closePhase_id env st hc', ProxyL.delPhase_id st o.op.noDel, hc']
    exact TurnRes.cont rfl o m hf hc'

theorem turn_open (env : Env) (c : Cfg) {st : St} {D : Bytes} (o : OSt st) (m : OMode st D) :
    TurnRes env (Proxy.turn env c st) (D ++ st.fromUp.flatten) st.upClosing := by
  rw [ProxyL.turn_eq0, if_neg (by simp [o.op.alive])]
  obtain ⟨o3, m3, f3, u3⟩ := turn_before_delivery env c o m (Obs.countP Obs.isHp st.sock.log) (countEv st.sock.log)
  generalize connectFlushR env c _ = a3 at o3 m3 f3 u3
  rw [← f3, ← u3]
  rcases deliver_open env o3 m3 with ⟨o4, m4, f4, u4⟩ | ⟨head, body, hb, hq, fr⟩
  · rw [← u4]
    exact turn_post env o4 m4 f4
  · exact TurnRes.failed head body hb hq (frozen_delPhase (frozen_closePhase env fr))

theorem first_turn (env : Env) (c : Cfg) {st : St} (h : Fed st) :
    (c.refuse = true → Frozen (err502 env []) (Proxy.turn env c st).sock) ∧
    (c.refuse = false → OSt (Proxy.turn env c st) ∧ OMode (Proxy.turn env c st) [] ∧
      (Proxy.turn env c st).fromUp = [] ∧ (Proxy.turn env c st).upClosing = false) := by
  have ho := h.sock.op
  rw [ProxyL.turn_eq0, if_neg (by simp [ho.alive])]
  obtain ⟨r1, r2, r3, r4, _⟩ := ProxyL.routed_frame (Obs.countP Obs.isHp st.sock.log) st
    (turnSock env st.sock (countEv st.sock.log))
  have c1 : (routed (Obs.countP Obs.isHp st.sock.log) st (turnSock env st.sock (countEv st.sock.log))).conn =
      .connecting := by
    rw [ProxyL.routed_eq]
    show ProxyL.routedConn _ _ _ = _
    unfold ProxyL.routedConn
    rw [h.conn]
    exact ite_self _
  have w1 : WStep { st.sock with initPending := false }
      (routed (Obs.countP Obs.isHp st.sock.log) st (turnSock env st.sock (countEv st.sock.log))).sock [] := by
    rw [ProxyL.routed_sock]; exact turnSock_wstep env ho (fun _ => h.sock.rs) _
  generalize routed _ st _ = a1 at r1 r2 r3 r4 c1 w1
  have wire1 : Obs.wire a1.sock.log = [] := by rw [w1.wire, List.append_nil]; exact h.sock.wire
  have resp1 : a1.sock.respHeaders = [] := w1.respH.trans h.sock.respH
  constructor
  · intro hr
    have e2 : connectFlushR env c a1 = onUpstreamError env { a1 with conn := .closed } := by
      unfold connectFlushR onUpstreamError
      simp only [c1, hr, beq_self_eq_true, if_true]
      split <;> rfl
    rw [e2]
    refine frozen_delPhase (frozen_closePhase env (frozen_deliverPhase env ?_))
    rw [← err502_fresh env wire1 resp1]
    exact onUpstreamError_502 env (st := { a1 with conn := .closed }) w1.op (r3.trans h.parsed)
  · intro hr
    rw [ProxyL.connectFlushR_eq env c a1 hr]
    obtain ⟨f1, f2, f3, f4, _, _⟩ := ProxyL.connectFlush_frame c a1
    have w3 := connectFlush_wstep c w1.op
    have c3 : (connectFlush c a1).conn = .connected := by rw [ProxyL.connectFlush_conn, c1]; rfl
    have o3 : OSt (connectFlush c a1) := ⟨c3, w3.op, w3.initP.trans w1.initP⟩
    have m3 : OMode (connectFlush c a1) [] :=
      OMode.acc (by rw [w3.wire, wire1]; rfl) (f3.trans (r3.trans h.parsed)) (w3.respH.trans resp1)
        (f4.trans (r4.trans h.upRead)) rfl
    have fu3 : (connectFlush c a1).fromUp = [] := f1.trans (r1.trans h.fromUp)
    have uc3 : (connectFlush c a1).upClosing = false := f2.trans (r2.trans h.upClosing)
    generalize connectFlush c a1 = a3 at o3 m3 fu3 uc3
    rcases deliver_open env o3 m3 with ⟨o4, m4, f4, u4⟩ | ⟨head, body, hb, _, _⟩
    · rw [fu3] at m4
      have := turn_post env o4 m4 f4
      rw [u4, uc3] at this
      cases this with
      | cont _ o m fu uc => exact ⟨o, by simpa using m, fu, uc⟩
      | failed head body hb hq fr => simp [breakOn, CRLF2, List.isPrefixOf] at hb
      | closedNone hc _ _ => cases hc
      | closedRelayed hc _ _ _ _ _ _ _ _ => cases hc
    · rw [fu3] at hb
      simp [breakOn, CRLF2, List.isPrefixOf] at hb

end Qhttp.C13L
