import Qhttp.Model.LocalAuth
import Qhttp.Lemmas.HttpBytes
/-
  `insertKey` / `sortKeys`: the key set of the advertised JSON object (C17).
  `sortKeys` is insertion sort with de-duplication for the strict total order `bytesLt`.
-/
namespace Qhttp.C17L
open Qhttp LocalAuth HB

/-- strictly increasing for `bytesLt` (hence duplicate-free) -/
def Sorted (l : List Bytes) : Prop := l.Pairwise (fun a b => bytesLt a b = true)

theorem mem_insertKey {k x : Bytes} {l : List Bytes} : x ∈ insertKey k l ↔ x = k ∨ x ∈ l := by
  induction l with
  | nil => simp [insertKey]
  | cons y l ih =>
    simp only [insertKey]
    split
    · simp
    · split
      · rename_i h; have : k = y := by simpa using h
        subst this; simp
      · simp only [List.mem_cons, ih]
        constructor
        · rintro (h | h | h) <;> simp [h]
        · rintro (h | h | h) <;> simp [h]

theorem mem_sortKeys {x : Bytes} {l : List Bytes} : x ∈ sortKeys l ↔ x ∈ l := by
  induction l with
  | nil => simp [sortKeys]
  | cons y l ih =>
    have : sortKeys (y :: l) = insertKey y (sortKeys l) := rfl
    rw [this, mem_insertKey, ih]; simp

theorem sortKeys_cons (k : Bytes) (l : List Bytes) : sortKeys (k :: l) = insertKey k (sortKeys l) := rfl

theorem insertKey_sorted {k : Bytes} {l : List Bytes} (h : Sorted l) : Sorted (insertKey k l) := by
  induction l with
  | nil => simp [insertKey, Sorted]
  | cons y l ih =>
    have hy : ∀ z ∈ l, bytesLt y z = true := (List.pairwise_cons.mp h).1
    have hl : Sorted l := (List.pairwise_cons.mp h).2
    simp only [insertKey]
    cases h1 : bytesLt k y with
    | true =>
      simp only [if_true]
      refine List.pairwise_cons.mpr ⟨?_, h⟩
      intro z hz
      rcases List.mem_cons.mp hz with rfl | hz
      · exact h1
      · exact bytesLt_trans h1 (hy z hz)
    | false =>
      simp only [Bool.false_eq_true, if_false]
      split
      · exact h
      · rename_i hne
        have hne' : k ≠ y := by simpa using hne
        refine List.pairwise_cons.mpr ⟨?_, ih hl⟩
        intro z hz
        rcases mem_insertKey.mp hz with rfl | hz
        · cases h2 : bytesLt y z with
          | true => rfl
          | false => exact absurd (bytesLt_total h1 h2) hne'
        · exact hy z hz

theorem sortKeys_sorted (l : List Bytes) : Sorted (sortKeys l) := by
  induction l with
  | nil => simp [sortKeys, Sorted]
  | cons y l ih => rw [sortKeys_cons]; exact insertKey_sorted ih

theorem Sorted.nodup {l : List Bytes} (h : Sorted l) : l.Nodup := by
  refine List.Pairwise.imp ?_ h
  intro a b hab heq
  subst heq
  rw [bytesLt_irrefl] at hab; cases hab

theorem sortKeys_nodup (l : List Bytes) : (sortKeys l).Nodup := (sortKeys_sorted l).nodup

/-- a strictly increasing list is determined by its members -/
theorem Sorted.ext {l l' : List Bytes} (h : Sorted l) (h' : Sorted l') (hm : ∀ x, x ∈ l ↔ x ∈ l') :
    l = l' := by
  induction l generalizing l' with
  | nil =>
    cases l' with
    | nil => rfl
    | cons b l' => exact absurd ((hm b).2 List.mem_cons_self) List.not_mem_nil
  | cons a l ih =>
    cases l' with
    | nil => exact absurd ((hm a).1 List.mem_cons_self) List.not_mem_nil
    | cons b l' =>
      obtain ⟨ha, hl⟩ := List.pairwise_cons.mp h
      obtain ⟨hb, hl'⟩ := List.pairwise_cons.mp h'
      -- a head that occurred in the other tail would be both above and below the other head
      have hab : a = b := by
        rcases List.mem_cons.mp ((hm a).1 List.mem_cons_self) with e | ha'
        · exact e
        · rcases List.mem_cons.mp ((hm b).2 List.mem_cons_self) with e | hb'
          · exact e.symm
          · have := ha b hb'
            rw [bytesLt_asymm (hb a ha')] at this; cases this
      subst hab
      have hne : ∀ {m : List Bytes}, (∀ z ∈ m, bytesLt a z = true) → ∀ {x}, x ∈ m → x ≠ a := by
        intro m hm' x hx e
        have := hm' x hx
        rw [e, bytesLt_irrefl] at this; cases this
      rw [ih hl hl' fun x => ⟨
        fun hx => ((List.mem_cons.mp ((hm x).1 (List.mem_cons_of_mem _ hx))).resolve_left (hne ha hx)),
        fun hx => ((List.mem_cons.mp ((hm x).2 (List.mem_cons_of_mem _ hx))).resolve_left (hne hb hx))⟩]

/-- a strictly increasing list is a fixed point of `sortKeys` -/
theorem sortKeys_of_sorted {l : List Bytes} (h : Sorted l) : sortKeys l = l :=
  (sortKeys_sorted l).ext h fun _ => mem_sortKeys

/-- `sortKeys` is idempotent -/
theorem sortKeys_idem (l : List Bytes) : sortKeys (sortKeys l) = sortKeys l :=
  sortKeys_of_sorted (sortKeys_sorted l)

/-- `sortKeys` only depends on the set of keys: permuted input, same result -/
theorem sortKeys_perm {l l' : List Bytes} (h : l.Perm l') : sortKeys l = sortKeys l' :=
  (sortKeys_sorted l).ext (sortKeys_sorted l') fun x => by rw [mem_sortKeys, mem_sortKeys, h.mem_iff]

/-- `setData` strips a caller-supplied `token` key before inserting its own: same key set -/
theorem sortKeys_token_filter (t : Bytes) (ks : List Bytes) :
    sortKeys (t :: ks.filter (· != t)) = sortKeys (t :: ks) := by
  refine (sortKeys_sorted _).ext (sortKeys_sorted _) fun x => ?_
  rw [mem_sortKeys, mem_sortKeys]
  by_cases hx : x = t <;> simp [hx]

/-- the `token` key is always a member of what `setData` writes -/
theorem token_mem_sortKeys (t : Bytes) (ks : List Bytes) : t ∈ sortKeys (t :: ks) :=
  mem_sortKeys.mpr (by simp)

end Qhttp.C17L
