import Qhttp.Lemmas.C02Inv
/-
  C02 — the private slots.  `SocketPrivate::readData` preserves `Mid` (`Mid.readDataSlot`); for
  `readHeaders` and `onReadyRead` only the state changes and unfoldings are here, preservation is
  `orr_inv` in C02Run.
-/
namespace Qhttp.C02
open Qhttp

variable {evs : List Event} {hl N fedLen : Nat} {hb B : Bytes} {a : Option Nat} {s : Sock}

theorem Mid.len_eq (h : Mid evs hl N fedLen hb B a s) (hrs : s.rs ≠ .headers) :
    (Obs.reads s.log).length + s.qio.length + s.readBuffer.length = B.length := by
  rw [← (h.dat hrs).1, List.length_append, List.length_append]

theorem Mid.setBuf (h : Mid evs hl N fedLen hb B a s) {hb' B' : Bytes} (b' : Bytes) (t' : Tcp)
    (ht : t'.devOpen = true) (hH : s.rs = .headers → b' = hb')
    (hD : s.rs ≠ .headers → Obs.reads s.log ++ s.qio ++ b' = B' ∧ hl + B'.length ≤ fedLen) :
    Mid evs hl N fedLen hb' B' a { s with readBuffer := b', tcp := t' } :=
  { alive := h.alive, ioOpen := h.ioOpen, devOpen := ht, dcFlag := h.dcFlag, delPending := h.delPending,
    walk := h.walk, wst := h.wst, hp := h.hp, rcf := h.rcf, tc := h.tc,
    hdr := fun hh => ⟨hH hh, (h.hdr hh).2⟩,
    dat := fun hh => ⟨(hD hh).1, (h.dat hh).2.1, (h.dat hh).2.2.1, (hD hh).2⟩ }

theorem Mid.setInit (h : Mid evs hl N fedLen hb B a s) (v : Bool) :
    Mid evs hl N fedLen hb B a { s with initPending := v } :=
  { alive := h.alive, ioOpen := h.ioOpen, devOpen := h.devOpen,
    dcFlag := h.dcFlag, delPending := h.delPending,
    walk := h.walk, wst := h.wst, hp := h.hp, rcf := h.rcf, tc := h.tc, hdr := h.hdr, dat := h.dat }

theorem Mid.setInbox (h : Mid evs hl N fedLen hb B a s) (v : Bytes) :
    Mid evs hl N fedLen hb B a { s with tcp := { s.tcp with inbox := v } } :=
  { alive := h.alive, ioOpen := h.ioOpen, devOpen := h.devOpen,
    dcFlag := h.dcFlag, delPending := h.delPending,
    walk := h.walk, wst := h.wst, hp := h.hp, rcf := h.rcf, tc := h.tc, hdr := h.hdr, dat := h.dat }

/-- `headersParsed` is recorded, its slot has not run yet -/
theorem Mid.hpEmit (h : Mid evs hl N fedLen hb B none s) (hrs : s.rs = .headers)
    (m : Nat) (rp p : Bytes) (rh : HeaderMap) (q : List (Bytes × Bytes)) (buf : Bytes)
    (hf : hl + buf.length ≤ fedLen) :
    Mid evs hl N fedLen hb buf none
      { s with method := m, rawPath := rp, reqHeaders := rh, path := p, query := q, readBuffer := buf,
               rs := .data, total := (N : Int), log := s.log ++ [Obs.hp] } := by
  obtain ⟨_, _, _, e4, e5, e6⟩ := h.hdr hrs
  refine { alive := h.alive, ioOpen := h.ioOpen, devOpen := h.devOpen,
           dcFlag := h.dcFlag, delPending := h.delPending,
           walk := ?_, wst := ?_, hp := ?_, rcf := ?_, tc := ?_, hdr := ?_, dat := ?_ }
  · show walkL evs hl N (s.log ++ [Obs.hp]) 0 false none = true
    rw [walkL_append, h.walk]; rfl
  · show C02.wst evs (s.log ++ [Obs.hp]) 0 false none = _
    rw [wst_append, h.wst]; rfl
  · show Obs.countP Obs.isHp (s.log ++ [Obs.hp]) = _
    rw [Obs.countP_append, h.hp, hrs]; rfl
  · exact (Obs.countP_snoc _ _ _).trans (by rw [h.rcf, hrs]; rfl)
  · show (s.log ++ [Obs.hp]).any Obs.isTc = false
    rw [List.any_append, h.tc]; rfl
  · intro hh; exact absurd hh RState.noConfusion
  · intro _
    show Obs.reads (s.log ++ [Obs.hp]) ++ s.qio ++ buf = buf ∧
      s.dataRead = ((Obs.reads (s.log ++ [Obs.hp])).length + s.qio.length : Nat) ∧ (N : Int) = N ∧
      hl + buf.length ≤ fedLen
    rw [Obs.reads_append, e5, e4, e6]
    exact ⟨rfl, rfl, rfl, hf⟩

/-- `readChannelFinished` is recorded, its slot has not run yet -/
theorem Mid.rcfEmit (h : Mid evs hl N fedLen hb B none s) (hrs : s.rs = .data) (hN : hl + N ≤ fedLen) :
    Mid evs hl N fedLen hb B none { s with rs := .finished, log := s.log ++ [Obs.rcf] } := by
  have hne : s.rs ≠ .headers := by rw [hrs]; exact RState.noConfusion
  obtain ⟨e1, e2, e3, e4⟩ := h.dat hne
  refine { alive := h.alive, ioOpen := h.ioOpen, devOpen := h.devOpen,
           dcFlag := h.dcFlag, delPending := h.delPending,
           walk := ?_, wst := ?_, hp := ?_, rcf := ?_, tc := ?_, hdr := ?_, dat := ?_ }
  · show walkL evs hl N (s.log ++ [Obs.rcf]) 0 false none = true
    rw [walkL_append, h.walk, h.wst]
    show (true && (decide (fedLen ≥ hl + N) && true)) = true
    rw [decide_eq_true hN]; rfl
  · show C02.wst evs (s.log ++ [Obs.rcf]) 0 false none = _
    rw [wst_append, h.wst, hrs]; rfl
  · exact (Obs.countP_snoc _ _ _).trans (by rw [h.hp, hrs]; rfl)
  · show Obs.countP Obs.isRcf (s.log ++ [Obs.rcf]) = _
    rw [Obs.countP_append, h.rcf, hrs]; rfl
  · show (s.log ++ [Obs.rcf]).any Obs.isTc = false
    rw [List.any_append, h.tc]; rfl
  · intro hh; exact absurd hh RState.noConfusion
  · intro _
    show Obs.reads (s.log ++ [Obs.rcf]) ++ s.qio ++ s.readBuffer = B ∧
      s.dataRead = ((Obs.reads (s.log ++ [Obs.rcf])).length + s.qio.length : Nat) ∧ s.total = N ∧
      hl + B.length ≤ fedLen
    rw [Obs.reads_append, show Obs.reads [Obs.rcf] = [] from rfl, List.append_nil]
    exact ⟨e1, e2, e3, e4⟩

theorem Mid.emit_rr (env : Env) (app : App) (happ : ReaderApp app) (h : Mid evs hl N fedLen hb B a s) :
    Mid evs hl N fedLen hb B none (Sock.emit env app s .rr (app.onRr s)) ∧
      SameCtl s (Sock.emit env app s .rr (app.onRr s)) := by
  unfold Sock.emit
  obtain ⟨h2, c2⟩ := Mid.apis env app (app.onRr s) (happ.rr s) _ h.rr
  exact ⟨h2, SameCtl.trans ⟨rfl, rfl, rfl, rfl⟩ c2⟩

/-- the three statements of `SocketPrivate::readData` (socket.cpp), one function each -/
def cutS (s : Sock) : Sock :=
  if s.total ≥ 0 && s.dataRead + s.readBuffer.length > s.total
  then { s with readBuffer := s.readBuffer.take (s.total - s.dataRead).toNat } else s
def rrS (env : Env) (app : App) (s : Sock) : Sock :=
  if s.readBuffer.length != 0 then Sock.emit env app s .rr (app.onRr s) else s
def finS (env : Env) (app : App) (s : Sock) : Sock :=
  if s.total != -1 && s.dataRead + s.readBuffer.length ≥ s.total then
    Sock.emit env app { s with rs := .finished } .rcf (app.onRcf { s with rs := .finished })
  else s

theorem readDataSlot_eq (env : Env) (app : App) (s : Sock) :
    Sock.readDataSlot env app s = finS env app (rrS env app (cutS s)) := rfl

/-- the two tests of `SocketPrivate::readData` in natural numbers: `D` bytes read so far, `L` buffered -/
theorem cut_cond (N D L : Nat) : ((N : Int) ≥ 0 && (D : Int) + (L : Int) > (N : Int)) = true ↔ N < D + L := by
  rw [Bool.and_eq_true, decide_eq_true_eq, decide_eq_true_eq]; omega

theorem fin_cond (N D L : Nat) : ((N : Int) != -1 && (D : Int) + (L : Int) ≥ (N : Int)) = true ↔ N ≤ D + L := by
  rw [Bool.and_eq_true, bne_iff_ne, decide_eq_true_eq]; omega

theorem cutS_sameCtl (s : Sock) : SameCtl s (cutS s) := by
  unfold cutS; split
  · exact ⟨rfl, rfl, rfl, rfl⟩
  · exact SameCtl.refl s

theorem Mid.cut (h : Mid evs hl N fedLen hb B a s) (hrs : s.rs ≠ .headers)
    (hk : (Obs.reads s.log).length + s.qio.length ≤ N) :
    Mid evs hl N fedLen hb (B.take N) a (cutS s) := by
  obtain ⟨e1, e2, e3, e4⟩ := h.dat hrs
  have hlen := h.len_eq hrs
  have hcond := cut_cond N ((Obs.reads s.log).length + s.qio.length) s.readBuffer.length
  rw [← e2, ← e3] at hcond
  unfold cutS
  by_cases hc : N < (Obs.reads s.log).length + s.qio.length + s.readBuffer.length
  · rw [if_pos (hcond.mpr hc)]
    have hB : Obs.reads s.log ++ s.qio ++ s.readBuffer.take (s.total - s.dataRead).toNat = B.take N := by
      have : (s.total - s.dataRead).toNat = N - (Obs.reads s.log ++ s.qio).length := by
        rw [e2, e3, Int.toNat_sub, List.length_append]
      rw [this, ← e1, List.take_append, List.take_of_length_le (l := Obs.reads s.log ++ s.qio) (by rw [List.length_append]; exact hk)]
    exact h.setBuf _ s.tcp h.devOpen (fun hh => absurd hh hrs)
      (fun _ => ⟨hB, Nat.le_trans (Nat.add_le_add_left (List.length_take_le' N B) hl) e4⟩)
  · rw [if_neg (fun hc' => hc (hcond.mp hc')),
      List.take_of_length_le (by rw [← hlen]; exact Nat.le_of_not_lt hc)]
    exact h

/-- `B`, the bytes delivered after the blank line, becomes `B.take N`, what the reader is entitled to -/
theorem Mid.readDataSlot (env : Env) (app : App) (happ : ReaderApp app)
    (h : Mid evs hl N fedLen hb B none s) (hrs : s.rs = .data)
    (hk : (Obs.reads s.log).length + s.qio.length ≤ N) :
    Mid evs hl N fedLen hb (B.take N) none (Sock.readDataSlot env app s) ∧
      (Sock.readDataSlot env app s).tcp = s.tcp ∧
      (Sock.readDataSlot env app s).initPending = s.initPending ∧
      (Sock.readDataSlot env app s).rs = (if N ≤ B.length then .finished else .data) := by
  have hne : s.rs ≠ .headers := by rw [hrs]; exact RState.noConfusion
  rw [readDataSlot_eq]
  have h1 := h.cut hne hk
  have c1 := cutS_sameCtl s
  generalize cutS s = s1 at h1 c1 ⊢
  have hc2 : Mid evs hl N fedLen hb (B.take N) none (rrS env app s1) ∧ SameCtl s1 (rrS env app s1) := by
    unfold rrS
    split
    · exact h1.emit_rr env app happ
    · exact ⟨h1, SameCtl.refl s1⟩
  obtain ⟨h2, c2⟩ := hc2
  generalize rrS env app s1 = s2 at h2 c2 ⊢
  have c12 := c1.trans c2
  have hrs2 : s2.rs = .data := by rw [c12.1, hrs]
  have hne2 : s2.rs ≠ .headers := by rw [hrs2]; exact RState.noConfusion
  obtain ⟨e1, e2, e3, e4⟩ := h2.dat hne2
  have hcond := fin_cond N ((Obs.reads s2.log).length + s2.qio.length) s2.readBuffer.length
  rw [← e2, ← e3, h2.len_eq hne2, List.length_take, Nat.le_min] at hcond
  unfold finS
  by_cases hN : N ≤ B.length
  · rw [if_pos (hcond.mpr ⟨Nat.le_refl N, hN⟩), if_pos hN]
    rw [List.length_take, Nat.min_eq_left hN] at e4
    have h3 := h2.rcfEmit hrs2 e4
    unfold Sock.emit
    obtain ⟨h4, c4⟩ := Mid.apis env app (app.onRcf { s2 with rs := .finished })
      (happ.rcf _) _ h3
    exact ⟨h4, c4.2.1.trans c12.2.1, c4.2.2.1.trans c12.2.2.1, c4.1⟩
  · rw [if_neg (fun hc => hN (hcond.mp hc).2), if_neg hN]
    exact ⟨h2, c12.2.1, c12.2.2.1, hrs2⟩

/-- the state in which `headersParsed` is emitted for an accepted head declaring `N` body bytes -/
def hpState (s : Sock) (rh : Parser.ReqHead) (p : Bytes) (q : List (Bytes × Bytes)) (rest : Bytes) (N : Nat) : Sock :=
  { s with method := rh.method, rawPath := rh.rawPath, reqHeaders := rh.headers, path := p,
           query := q.foldl (fun m e => Sock.qmInsert e.1 e.2 m) s.query,
           readBuffer := rest.take N, rs := .data, total := (N : Int) }

theorem readHeaders_acc (env : Env) (app : App) (s : Sock) (head rest : Bytes) (rh : Parser.ReqHead)
    (p : Bytes) (q : List (Bytes × Bytes)) (N : Nat)
    (hb : breakOn CRLF2 s.readBuffer = some (head, rest))
    (hp : Parser.parseRequestHeaders head s.reqHeaders = some rh)
    (hu : env.url rh.rawPath = some (p, q))
    (hc : HeaderMap.contains Sock.CONTENT_LENGTH_KEY rh.headers = true)
    (ht : toLongLong (HeaderMap.value Sock.CONTENT_LENGTH_KEY rh.headers) = (N : Int)) :
    Sock.readHeaders env app s =
      (Sock.emit env app (hpState s rh p q rest N) .hp (app.onHp (hpState s rh p q rest N)), true) := by
  rw [Sock.readHeaders_ok env app s hb hp hu]
  have hbuf : (if ((N : Int) ≥ 0 && (rest.length : Int) > (N : Int)) = true then rest.take (N : Int).toNat else rest)
      = rest.take N := by
    split
    · simp
    · rename_i hc
      simp at hc
      rw [List.take_of_length_le (by omega)]
  have e : Sock.hpState s rh p q rest = hpState s rh p q rest N := by
    unfold Sock.hpState hpState
    simp only [hc, ht, if_true, hbuf]
  rw [e]

/-- `readBuffer.append(socket->readAll())`, the first statement of `onReadyRead` -/
def pullS (s : Sock) : Sock :=
  if s.tcp.devOpen then { s with readBuffer := s.readBuffer ++ s.tcp.inbox, tcp := { s.tcp with inbox := [] } } else s

theorem pullS_rs (s : Sock) : (pullS s).rs = s.rs := by unfold pullS; split <;> rfl

/-- `onReadyRead` after the transport's bytes were appended to the buffer -/
def orrBody (env : Env) (app : App) (s : Sock) : Sock :=
  let r := if s.rs = .headers then Sock.readHeaders env app s else (s, true)
  if !r.2 then r.1 else
  match r.1.rs with
  | .data => Sock.readDataSlot env app r.1
  | .finished => { r.1 with readBuffer := [] }
  | .headers => r.1

theorem onReadyRead_eq (env : Env) (app : App) (s : Sock) :
    Sock.onReadyRead env app s =
      if s.rs = .finished then
        (if s.tcp.devOpen then { s with tcp := { s.tcp with inbox := [] } } else s)
      else orrBody env app (pullS s) := rfl

theorem orrBody_data (env : Env) (app : App) (s : Sock) (h : s.rs = .data) :
    orrBody env app s = Sock.readDataSlot env app s := by
  unfold orrBody; simp [h]

theorem orrBody_headers_none (env : Env) (app : App) (s : Sock) (h : s.rs = .headers)
    (hb : breakOn CRLF2 s.readBuffer = none) : orrBody env app s = s := by
  unfold orrBody; simp [h, Sock.readHeaders_none env app s hb]

theorem orrBody_headers_acc (env : Env) (app : App) (s : Sock) (h : s.rs = .headers)
    (head rest : Bytes) (rh : Parser.ReqHead) (p : Bytes) (q : List (Bytes × Bytes)) (N : Nat)
    (hb : breakOn CRLF2 s.readBuffer = some (head, rest))
    (hp : Parser.parseRequestHeaders head s.reqHeaders = some rh)
    (hu : env.url rh.rawPath = some (p, q))
    (hc : HeaderMap.contains Sock.CONTENT_LENGTH_KEY rh.headers = true)
    (ht : toLongLong (HeaderMap.value Sock.CONTENT_LENGTH_KEY rh.headers) = (N : Int))
    (hrs : (Sock.emit env app (hpState s rh p q rest N) .hp (app.onHp (hpState s rh p q rest N))).rs = .data) :
    orrBody env app s =
      Sock.readDataSlot env app (Sock.emit env app (hpState s rh p q rest N) .hp (app.onHp (hpState s rh p q rest N))) := by
  unfold orrBody
  simp [h, readHeaders_acc env app s head rest rh p q N hb hp hu hc ht, hrs]

end Qhttp.C02
