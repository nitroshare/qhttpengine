import Qhttp.Model.Handler
import Qhttp.Lemmas.RouteSingle
/-
  The library substitutes the captures of a redirect pattern into its template in ONE pass
  (`substitute`, handler.cpp `substituteCaptures`).  One `QString::arg` call per capture
  (`substituteChained`) substitutes again inside captures that contain place markers (defect D12:
  "%1" in a capture was replaced by the next capture).  This file gives a condition under which the two agree:
  the chained calls are read as a rewriting of the TOKEN list of the template, and the question is
  when re-reading the string after one round gives the intended token list (`MarkerFree`; a
  syntactic sufficient condition is `Separated` template, `Plain` captures).
-/
namespace Qhttp.RouteL
open Qhttp

/-- one `QString::arg` per capture: `foreach (replacement, captures) newPath = newPath.arg(replacement)`, the
    loop `substituteCaptures` replaces -/
def substituteChained (tmpl : QStr) (caps : List QStr) : QStr := caps.foldl qarg tmpl

def render : List ArgTok → QStr
  | [] => []
  | .lit c :: l => c :: render l
  | .esc _ raw :: l => raw ++ render l

/-- the token list one `arg(a)` round MEANS: marker `n` becomes the literal units of `a` -/
def expand (n : Nat) (a : QStr) : List ArgTok → List ArgTok
  | [] => []
  | .lit c :: l => .lit c :: expand n a l
  | .esc k raw :: l => if k = n then a.map .lit ++ expand n a l else .esc k raw :: expand n a l

def expandAll : List ArgTok → List QStr → List ArgTok
  | toks, [] => toks
  | toks, a :: as =>
    match minEsc toks with
    | none => toks
    | some n => expandAll (expand n a toks) as

/-- round by round: whenever a further `arg` call follows, the string produced by this round
    reads back as the token list this round meant -/
def Rescans : List ArgTok → List QStr → Bool
  | _, [] => true
  | toks, a :: as =>
    match minEsc toks with
    | none => true
    | some n =>
      (as.isEmpty || argScan .normal (argFill n a toks) == expand n a toks) &&
        Rescans (expand n a toks) as

/-- no round of chained `arg()` creates, destroys or renumbers a place marker for a later round; then chained =
    simultaneous substitution (`C05.substitute_eq_chained`; the converse is not proved) -/
def MarkerFree (tmpl : QStr) (caps : List QStr) : Bool := Rescans (argScan .normal tmpl) caps

theorem render_append (a b : List ArgTok) : render (a ++ b) = render a ++ render b := by
  induction a with
  | nil => rfl
  | cons t a ih => cases t <;> simp [render, ih]

theorem render_map_lit (a : QStr) : render (a.map .lit) = a := by
  induction a with
  | nil => rfl
  | cons c a ih => simp [render, ih]

theorem argFill_eq_render (n : Nat) (a : QStr) (toks : List ArgTok) :
    argFill n a toks = render (expand n a toks) := by
  induction toks with
  | nil => rfl
  | cons t l ih =>
    cases t with
    | lit c => simp [argFill, expand, render, ih]
    | esc k raw =>
      by_cases h : k = n
      · simp [argFill, expand, ih, h, render_append, render_map_lit]
      · simp [argFill, expand, render, ih, h]

def isDig (c : UInt16) : Bool := (digit16 c).isSome

def litNext (c : UInt16) : ArgSt := if c = 37 then .pct else .normal

def pendTok : ArgSt → List ArgTok
  | .normal => []
  | .pct => [.lit 37]
  | .pctL => [.lit 37, .lit 76]
  | .d1 loc d => [.esc (dval d) (rawOf loc [d])]

theorem isDig_ne {c : UInt16} (h : isDig c = true) : c ≠ 37 ∧ c ≠ 76 := by
  constructor <;> (intro e; subst e; revert h; decide)

theorem isDig_iff (c : UInt16) : (digit16 c).isSome = isDig c := rfl

def argNext : ArgSt → UInt16 → ArgSt
  | .normal, c => litNext c
  | .pct, c => if c = 76 then .pctL else if isDig c then .d1 false c else litNext c
  | .pctL, c => if isDig c then .d1 true c else litNext c
  | .d1 _ _, c => if isDig c then .normal else litNext c

/-- the pending `%`-sequence is given up: it is emitted, and `c` is text unless it opens a new one -/
def flush (st : ArgSt) (c : UInt16) : List ArgTok := pendTok st ++ (if c = 37 then [] else [.lit c])

def argOut : ArgSt → UInt16 → List ArgTok
  | .normal, c => flush .normal c
  | .pct, c => if c = 76 then [] else if isDig c then [] else flush .pct c
  | .pctL, c => if isDig c then [] else flush .pctL c
  | .d1 loc d, c => if isDig c then [.esc (10 * dval d + dval c) (rawOf loc [d, c])] else flush (.d1 loc d) c

theorem argScan_nil (st : ArgSt) : argScan st [] = pendTok st := by cases st <;> rfl

/-- the scanner one unit at a time; every fact about it below is an induction over this equation.
    Both sides are the same table over (state, is `c` a `%` / `L` / digit / other). -/
theorem argScan_cons (st : ArgSt) (c : UInt16) (cs : QStr) :
    argScan st (c :: cs) = argOut st c ++ argScan (argNext st c) cs := by
  by_cases hc : c = 37
  · cases st <;> simp [argScan, argOut, argNext, flush, litNext, pendTok, isDig, hc, digit16_pct]
  · cases st with
    | normal => simp [argScan, argOut, argNext, flush, litNext, pendTok, hc]
    | pct =>
      by_cases hL : c = 76
      · simp [argScan, argOut, argNext, hL]
      · by_cases hd : isDig c = true
        · simp [argScan, argOut, argNext, hL, isDig_iff, hd]
        · simp [argScan, argOut, argNext, flush, litNext, pendTok, hc, hL, isDig_iff, hd]
    | pctL =>
      by_cases hd : isDig c = true
      · simp [argScan, argOut, argNext, isDig_iff, hd]
      · simp [argScan, argOut, argNext, flush, litNext, pendTok, hc, isDig_iff, hd]
    | d1 loc d =>
      by_cases hd : isDig c = true
      · simp [argScan, argOut, argNext, isDig_iff, hd]
      · simp [argScan, argOut, argNext, flush, litNext, pendTok, hc, isDig_iff, hd]

theorem isDig_pct : isDig 37 = false := by decide
theorem isDig_L : isDig 76 = false := by decide

theorem render_step (st : ArgSt) (c : UInt16) :
    render (argOut st c) ++ render (pendTok (argNext st c)) = render (pendTok st) ++ [c] := by
  by_cases hd : isDig c = true
  · have hc := (isDig_ne hd).1
    have hL := (isDig_ne hd).2
    cases st with
    | d1 loc d => cases loc <;> simp [argOut, argNext, pendTok, render, rawOf, hd]
    | _ => simp [argOut, argNext, flush, litNext, pendTok, render, rawOf, hd, hc, hL]
  · by_cases hc : c = 37
    · cases st <;> simp [argOut, argNext, flush, litNext, pendTok, render, hc, isDig_pct]
    · by_cases hL : c = 76
      · cases st <;> simp [argOut, argNext, flush, litNext, pendTok, render, hL, isDig_L]
      · cases st <;> simp [argOut, argNext, flush, litNext, pendTok, render, hc, hL, hd]

/-- reading `c` in `st` neither completes nor extends a marker -/
def litOk : ArgSt → UInt16 → Bool
  | .normal, _ => true
  | _, c => !isDig c

theorem argNext_of_litOk {st : ArgSt} {c : UInt16} (h : litOk st c = true) :
    argNext st c = litNext c ∨ (c = 76 ∧ argNext st c = .pctL) := by
  cases st with
  | normal => exact Or.inl rfl
  | pct =>
    have hd : isDig c = false := by simpa [litOk] using h
    by_cases hL : c = 76
    · exact Or.inr ⟨hL, by simp [argNext, hL]⟩
    · exact Or.inl (by simp [argNext, hL, hd])
  | pctL =>
    have hd : isDig c = false := by simpa [litOk] using h
    exact Or.inl (by simp [argNext, hd])
  | d1 loc d =>
    have hd : isDig c = false := by simpa [litOk] using h
    exact Or.inl (by simp [argNext, hd])

theorem argOut_of_litOk {st : ArgSt} {c : UInt16} (h : litOk st c = true) :
    argOut st c ++ pendTok (argNext st c) = pendTok st ++ [.lit c] := by
  by_cases hc : c = 37
  · cases st <;> simp [argOut, argNext, flush, litNext, pendTok, hc, isDig_pct]
  · by_cases hL : c = 76
    · cases st <;> simp [argOut, argNext, flush, litNext, pendTok, hL, isDig_L]
    · cases st with
      | normal => simp [argOut, argNext, flush, litNext, pendTok, hc]
      | _ =>
        have hd : isDig c = false := by simpa [litOk] using h
        simp [argOut, argNext, flush, litNext, pendTok, hc, hL, hd]

theorem render_argScan (st : ArgSt) (s : QStr) : render (argScan st s) = render (pendTok st) ++ s := by
  induction s generalizing st with
  | nil => rw [argScan_nil, List.append_nil]
  | cons c cs ih =>
    rw [argScan_cons, render_append, ih, ← List.append_assoc, render_step, List.append_assoc]
    rfl

theorem render_argScan_normal (s : QStr) : render (argScan .normal s) = s := render_argScan .normal s

theorem foldl_qarg_noEsc (s : QStr) (h : minEsc (argScan .normal s) = none) (caps : List QStr) :
    caps.foldl qarg s = s := by
  induction caps with
  | nil => rfl
  | cons a as ih => simp [List.foldl, qarg, h, ih]

theorem foldl_qarg_eq_render (caps : List QStr) :
    ∀ (s : QStr), Rescans (argScan .normal s) caps = true →
      caps.foldl qarg s = render (expandAll (argScan .normal s) caps) := by
  induction caps with
  | nil => intro s _; simp [expandAll, render_argScan_normal]
  | cons a as ih =>
    intro s h
    simp only [List.foldl, expandAll]
    cases hm : minEsc (argScan .normal s) with
    | none =>
      have : qarg s a = s := by simp [qarg, hm]
      rw [this, foldl_qarg_noEsc s hm]; simp [render_argScan_normal]
    | some n =>
      have hq : qarg s a = argFill n a (argScan .normal s) := by simp [qarg, hm]
      simp only [Rescans, hm, Bool.and_eq_true, Bool.or_eq_true, beq_iff_eq] at h
      rw [hq]
      cases as with
      | nil => simp [expandAll, argFill_eq_render]
      | cons b bs =>
        have hr : argScan .normal (argFill n a (argScan .normal s)) = expand n a (argScan .normal s) := by
          rcases h.1 with h1 | h1
          · simp at h1
          · exact h1
        have := ih (argFill n a (argScan .normal s)) (by rw [hr]; exact h.2)
        rw [this, hr]

theorem substituteChained_eq_render (tmpl : QStr) (caps : List QStr) (h : MarkerFree tmpl caps = true) :
    substituteChained tmpl caps = render (expandAll (argScan .normal tmpl) caps) :=
  foldl_qarg_eq_render caps tmpl h

theorem minEsc_none {toks : List ArgTok} (h : minEsc toks = none) :
    ∀ k raw, ArgTok.esc k raw ∉ toks := by
  induction toks with
  | nil => simp
  | cons t l ih =>
    cases t with
    | lit c => simp only [minEsc] at h; intro k raw; simp [ih h]
    | esc k raw => simp only [minEsc] at h; split at h <;> simp at h

theorem minEsc_some {toks : List ArgTok} {n : Nat} (h : minEsc toks = some n) :
    (∃ raw, ArgTok.esc n raw ∈ toks) ∧ ∀ k raw, ArgTok.esc k raw ∈ toks → n ≤ k := by
  induction toks generalizing n with
  | nil => simp [minEsc] at h
  | cons t l ih =>
    cases t with
    | lit c =>
      simp only [minEsc] at h
      obtain ⟨⟨raw, hr⟩, h2⟩ := ih h
      exact ⟨⟨raw, by simp [hr]⟩, by intro k raw hk; simp at hk; exact h2 k raw hk⟩
    | esc k raw =>
      simp only [minEsc] at h
      cases hl : minEsc l with
      | none =>
        simp [hl] at h; subst h
        refine ⟨⟨raw, by simp⟩, ?_⟩
        intro k' raw' hk'
        simp at hk'
        rcases hk' with ⟨rfl, _⟩ | hk'
        · exact Nat.le_refl _
        · exact absurd hk' (minEsc_none hl k' raw')
      | some m =>
        simp [hl] at h; subst h
        obtain ⟨⟨raw', hr⟩, h2⟩ := ih hl
        refine ⟨?_, ?_⟩
        · by_cases hkm : k ≤ m
          · exact ⟨raw, by simp [Nat.min_eq_left hkm]⟩
          · have : min k m = m := Nat.min_eq_right (by omega)
            exact ⟨raw', by simp [this, hr]⟩
        · intro k' raw'' hk'
          simp at hk'
          rcases hk' with ⟨rfl, _⟩ | hk'
          · exact Nat.min_le_left _ _
          · exact Nat.le_trans (Nat.min_le_right _ _) (h2 k' raw'' hk')

/-- the scanner state after reading the spelling `raw` of marker `k` from `.normal`, before a
    one-digit marker is emitted (`.d1`) or after a two-digit one was (`.normal`); `none` for a
    token that is not a marker spelling -/
def escNext (k : Nat) (raw : QStr) : Option ArgSt :=
  match raw with
  | [p, d] => if p = 37 ∧ isDig d = true ∧ k = dval d then some (.d1 false d) else none
  | [p, x, y] =>
    if p = 37 ∧ x = 76 ∧ isDig y = true ∧ k = dval y then some (.d1 true y)
    else if p = 37 ∧ isDig x = true ∧ isDig y = true ∧ k = 10 * dval x + dval y then some .normal
    else none
  | [p, l, x, y] =>
    if p = 37 ∧ l = 76 ∧ isDig x = true ∧ isDig y = true ∧ k = 10 * dval x + dval y then some .normal
    else none
  | _ => none

/-- a token list that reads back as itself and whose markers are separated: no marker is glued
    to a pending `%` / `%L`, and a one-digit marker is directly followed by another marker only
    if that one's number is not smaller.  The state is the scanner's (`.d1 _ d`: just after the
    one-digit marker `d`). -/
def sepScan : ArgSt → List ArgTok → Bool
  | _, [] => true
  | st, .lit c :: l =>
    match st with
    | .normal => sepScan (litNext c) l
    | .pct => if c = 76 then sepScan .pctL l else if isDig c then false else sepScan (litNext c) l
    | .pctL => if isDig c then false else sepScan (litNext c) l
    | .d1 _ _ => if isDig c then false else sepScan (litNext c) l
  | st, .esc k raw :: l =>
    (match st with | .normal => true | .d1 _ d => decide (dval d ≤ k) | _ => false) &&
    match escNext k raw with
    | some st' => sepScan st' l
    | none => false

def Separated (tmpl : QStr) : Bool := sepScan .normal (argScan .normal tmpl)

def argEnd : ArgSt → QStr → ArgSt
  | st, [] => st
  | .normal, c :: cs => argEnd (litNext c) cs
  | .pct, c :: cs =>
    if c = 76 then argEnd .pctL cs else if isDig c then argEnd (.d1 false c) cs else argEnd (litNext c) cs
  | .pctL, c :: cs => if isDig c then argEnd (.d1 true c) cs else argEnd (litNext c) cs
  | .d1 _ _, c :: cs => if isDig c then argEnd .normal cs else argEnd (litNext c) cs

def noEsc (toks : List ArgTok) : Bool :=
  toks.all fun t => match t with | .lit _ => true | .esc _ _ => false

/-- capture condition: read on its own the text has no place marker, and it does not end inside
    a `%` sequence (`%`, `%L`; `%<digit>` is a marker already) -/
def Plain (a : QStr) : Bool := noEsc (argScan .normal a) && argEnd .normal a == .normal

theorem argEnd_cons (st : ArgSt) (c : UInt16) (cs : QStr) : argEnd st (c :: cs) = argEnd (argNext st c) cs := by
  cases st <;> simp only [argEnd, argNext] <;> (repeat' split) <;> rfl

theorem sepScan_lit (st : ArgSt) (c : UInt16) (l : List ArgTok) :
    sepScan st (.lit c :: l) = (litOk st c && sepScan (argNext st c) l) := by
  cases st with
  | normal => rfl
  | pct =>
    by_cases hL : c = 76
    · simp [sepScan, litOk, argNext, hL, isDig_L]
    · by_cases hd : isDig c = true <;> simp [sepScan, litOk, argNext, hL, hd]
  | pctL => by_cases hd : isDig c = true <;> simp [sepScan, litOk, argNext, hd]
  | d1 loc d => by_cases hd : isDig c = true <;> simp [sepScan, litOk, argNext, hd]

theorem escNext_some {k : Nat} {raw : QStr} {st' : ArgSt} (h : escNext k raw = some st') :
    ∃ loc d, isDig d = true ∧
      ((raw = rawOf loc [d] ∧ k = dval d ∧ st' = .d1 loc d) ∨
        ∃ e, isDig e = true ∧ raw = rawOf loc [d, e] ∧ k = 10 * dval d + dval e ∧ st' = .normal) := by
  unfold escNext at h
  split at h
  · next p d =>
    split at h
    · next hc => cases h; exact ⟨false, d, hc.2.1, Or.inl ⟨by rw [hc.1]; rfl, hc.2.2, rfl⟩⟩
    · cases h
  · next p x y =>
    split at h
    · next hc => cases h; exact ⟨true, y, hc.2.2.1, Or.inl ⟨by rw [hc.1, hc.2.1]; rfl, hc.2.2.2, rfl⟩⟩
    · split at h
      · next hc => cases h; exact ⟨false, x, hc.2.1, Or.inr ⟨y, hc.2.2.1, by rw [hc.1]; rfl, hc.2.2.2, rfl⟩⟩
      · cases h
  · next p l x y =>
    split at h
    · next hc =>
      cases h
      exact ⟨true, x, hc.2.2.1, Or.inr ⟨y, hc.2.2.2.1, by rw [hc.1, hc.2.1]; rfl, hc.2.2.2.2, rfl⟩⟩
    · cases h
  · cases h

theorem argScan_rawOf {d : UInt16} (hd : isDig d = true) (loc : Bool) (rest : QStr) :
    argScan .normal (rawOf loc [d] ++ rest) = argScan (.d1 loc d) rest := by
  cases loc <;>
    simp [rawOf, argScan_cons, argOut, argNext, flush, litNext, pendTok, hd, (isDig_ne hd).2]

theorem argScan_esc {k : Nat} {raw : QStr} {st' : ArgSt} (h : escNext k raw = some st') (rest : QStr)
    (l : List ArgTok) (ih : argScan st' rest = pendTok st' ++ l) :
    argScan .normal (raw ++ rest) = .esc k raw :: l := by
  obtain ⟨loc, d, hd, ⟨rfl, rfl, rfl⟩ | ⟨e, he, rfl, rfl, rfl⟩⟩ := escNext_some h
  · rw [argScan_rawOf hd, ih]; rfl
  · have : rawOf loc [d, e] ++ rest = rawOf loc [d] ++ e :: rest := by cases loc <;> rfl
    rw [this, argScan_rawOf hd, argScan_cons]
    simp [argOut, argNext, he, ih, pendTok]

theorem escNext_head {k : Nat} {raw : QStr} {st' : ArgSt} (h : escNext k raw = some st') :
    ∃ r, raw = 37 :: r := by
  obtain ⟨loc, d, _, ⟨rfl, _⟩ | ⟨e, _, rfl, _⟩⟩ := escNext_some h <;> exact ⟨_, rfl⟩

theorem argScan_render (toks : List ArgTok) :
    ∀ st, sepScan st toks = true → argScan st (render toks) = pendTok st ++ toks := by
  induction toks with
  | nil => intro st _; rw [List.append_nil]; exact argScan_nil st
  | cons t l ih =>
    intro st h
    cases t with
    | lit c =>
      rw [sepScan_lit, Bool.and_eq_true] at h
      simp only [render]
      rw [argScan_cons, ih _ h.2, ← List.append_assoc, argOut_of_litOk h.1, List.append_assoc]
      rfl
    | esc k raw =>
      simp only [sepScan, Bool.and_eq_true] at h
      obtain ⟨hst, hn⟩ := h
      cases hx : escNext k raw with
      | none => simp [hx] at hn
      | some st' =>
        simp only [hx] at hn
        have hN : argScan .normal (render (.esc k raw :: l)) = .esc k raw :: l := by
          simp only [render]
          exact argScan_esc hx _ _ (ih _ hn)
        cases st with
        | normal => simpa [pendTok] using hN
        | pct => simp at hst
        | pctL => simp at hst
        | d1 loc d =>
          obtain ⟨r, hr⟩ := escNext_head hx
          have hN' := hN
          simp only [render, hr, List.cons_append, argScan, if_true] at hN' ⊢
          simp [digit16_pct, hN', pendTok]

theorem noEsc_d1 (loc : Bool) (d : UInt16) (s : QStr) : noEsc (argScan (.d1 loc d) s) = false := by
  cases s with
  | nil => simp [argScan, noEsc]
  | cons c cs =>
    simp only [argScan]
    split
    · simp [noEsc]
    · split <;> simp [noEsc]

theorem noEsc_append (a b : List ArgTok) : noEsc (a ++ b) = (noEsc a && noEsc b) := List.all_append

theorem litOk_of_noEsc {st : ArgSt} {c : UInt16} {cs : QStr} (h : noEsc (argScan st (c :: cs)) = true) :
    litOk st c = true := by
  cases st with
  | normal => rfl
  | d1 loc d => rw [noEsc_d1] at h; cases h
  | pct =>
    cases hd : isDig c with
    | false => simp [litOk, hd]
    | true =>
      rw [argScan_cons, noEsc_append, Bool.and_eq_true] at h
      have := h.2
      simp [argNext, (isDig_ne hd).2, hd, noEsc_d1] at this
  | pctL =>
    cases hd : isDig c with
    | false => simp [litOk, hd]
    | true =>
      rw [argScan_cons, noEsc_append, Bool.and_eq_true] at h
      have := h.2
      simp [argNext, hd, noEsc_d1] at this

theorem sepScan_lits (a : QStr) (l : List ArgTok) :
    ∀ st, noEsc (argScan st a) = true → sepScan st (a.map .lit ++ l) = sepScan (argEnd st a) l := by
  induction a with
  | nil => intro st _; simp [argEnd]
  | cons c cs ih =>
    intro st hne
    have hn := hne
    rw [argScan_cons, noEsc_append, Bool.and_eq_true] at hn
    rw [List.map_cons, List.cons_append, sepScan_lit, litOk_of_noEsc hne, Bool.true_and, argEnd_cons, ih _ hn.2]

theorem sepScan_plain {a : QStr} (h : Plain a = true) (l : List ArgTok) :
    sepScan .normal (a.map .lit ++ l) = sepScan .normal l := by
  simp only [Plain, Bool.and_eq_true, beq_iff_eq] at h
  rw [sepScan_lits a l .normal h.1, h.2]

theorem litNext_cases (c : UInt16) : litNext c = .normal ∨ litNext c = .pct := by
  unfold litNext; split <;> simp

/-- the relation between the scanner state of the old token list and of the expanded one -/
def StRel (n : Nat) (st st' : ArgSt) : Prop :=
  st' = .normal ∨ (st' = st ∧ ∀ loc d, st = .d1 loc d → n < dval d)

theorem StRel.next {n : Nat} {st st' : ArgSt} {c : UInt16} (h : litOk st c = true) (hrel : StRel n st st') :
    litOk st' c = true ∧ StRel n (argNext st c) (argNext st' c) := by
  have hnd : ∀ loc d, argNext st c ≠ .d1 loc d := by
    intro loc d e
    rcases argNext_of_litOk h with e' | ⟨_, e'⟩
    · rw [e'] at e; rcases litNext_cases c with e2 | e2 <;> rw [e2] at e <;> cases e
    · rw [e'] at e; cases e
  rcases hrel with rfl | ⟨rfl, _⟩
  · refine ⟨rfl, ?_⟩
    rcases argNext_of_litOk h with e | ⟨hL, _⟩
    · exact Or.inr ⟨e.symm, fun loc d e2 => absurd e2 (hnd loc d)⟩
    · exact Or.inl (by simp [argNext, litNext, hL])
  · exact ⟨h, Or.inr ⟨rfl, fun loc d e => absurd e (hnd loc d)⟩⟩

theorem escNext_d1 {k : Nat} {raw : QStr} {loc : Bool} {d : UInt16} (h : escNext k raw = some (.d1 loc d)) :
    k = dval d := by
  obtain ⟨loc', d', _, ⟨_, hk, hst⟩ | ⟨e, _, _, _, hst⟩⟩ := escNext_some h
  · cases hst; exact hk
  · cases hst

theorem sepScan_expand (n : Nat) {a : QStr} (ha : Plain a = true) (toks : List ArgTok) :
    ∀ st st', sepScan st toks = true → StRel n st st' →
      (∀ k raw, ArgTok.esc k raw ∈ toks → n ≤ k) → sepScan st' (expand n a toks) = true := by
  induction toks with
  | nil => intro st st' _ _ _; cases st' <;> simp [expand, sepScan]
  | cons t l ih =>
    intro st st' h hrel hmin
    have hmin' : ∀ k raw, ArgTok.esc k raw ∈ l → n ≤ k := fun k raw hk => hmin k raw (by simp [hk])
    cases t with
    | lit c =>
      rw [sepScan_lit, Bool.and_eq_true] at h
      obtain ⟨h1, h2⟩ := StRel.next (n := n) h.1 hrel
      simp only [expand]
      rw [sepScan_lit, h1, Bool.true_and]
      exact ih _ _ h.2 h2 hmin'
    | esc k raw =>
      simp only [sepScan, Bool.and_eq_true] at h
      obtain ⟨hst, hn⟩ := h
      have hnk : n ≤ k := hmin k raw (by simp)
      cases hx : escNext k raw with
      | none => simp [hx] at hn
      | some s2 =>
        simp only [hx] at hn
        by_cases hk : k = n
        · -- replaced: the new state must be `.normal`
          have hst' : st' = .normal := by
            rcases hrel with e | ⟨e, hd⟩
            · exact e
            · subst e
              cases st' with
              | normal => rfl
              | pct => simp at hst
              | pctL => simp at hst
              | d1 loc d =>
                have := hd loc d rfl
                simp at hst; omega
          subst hst'
          simp only [expand, hk, if_true]
          rw [sepScan_plain ha]
          exact ih _ _ hn (Or.inl rfl) hmin'
        · simp only [expand, hk, if_false, sepScan, hx, Bool.and_eq_true]
          refine ⟨?_, ?_⟩
          · rcases hrel with rfl | ⟨rfl, _⟩
            · rfl
            · exact hst
          · apply ih _ _ hn _ hmin'
            right; refine ⟨rfl, ?_⟩
            intro loc d e; subst e
            have := escNext_d1 hx
            omega

theorem rescans_of_sepScan (caps : List QStr) (hc : ∀ a ∈ caps, Plain a = true) :
    ∀ toks, sepScan .normal toks = true → Rescans toks caps = true := by
  induction caps with
  | nil => intro _ _; rfl
  | cons a as ih =>
    intro toks h
    simp only [Rescans]
    cases hm : minEsc toks with
    | none => rfl
    | some n =>
      have hsep : sepScan .normal (expand n a toks) = true :=
        sepScan_expand n (hc a (by simp)) toks _ _ h (Or.inl rfl) (minEsc_some hm).2
      simp only [Bool.and_eq_true, Bool.or_eq_true, beq_iff_eq]
      refine ⟨Or.inr ?_, ih (fun b hb => hc b (by simp [hb])) _ hsep⟩
      rw [argFill_eq_render]
      simpa [pendTok] using argScan_render _ _ hsep

theorem markerFree_of_separated {tmpl : QStr} {caps : List QStr} (ht : Separated tmpl = true)
    (hc : ∀ a ∈ caps, Plain a = true) : MarkerFree tmpl caps = true :=
  rescans_of_sepScan caps hc _ ht

theorem markerFree_one (tmpl a : QStr) : MarkerFree tmpl [a] = true := by
  simp only [MarkerFree, Rescans]
  cases minEsc (argScan .normal tmpl) <;> simp

theorem markerFree_nil (tmpl : QStr) : MarkerFree tmpl [] = true := rfl

theorem argEnd_snoc (a : QStr) (c : UInt16) : ∀ st, argEnd st (a ++ [c]) = argNext (argEnd st a) c := by
  induction a with
  | nil => intro st; rw [List.nil_append, argEnd_cons]; rfl
  | cons x xs ih => intro st; rw [List.cons_append, argEnd_cons, argEnd_cons, ih]

theorem argNext_pct {st : ArgSt} {c : UInt16} : argNext st c = .pct ↔ c = 37 := by
  have hd : isDig 37 = false := by decide
  constructor
  · intro h
    cases st <;> simp only [argNext, litNext] at h <;> (repeat' split at h) <;> first | assumption | cases h
  · rintro rfl
    cases st <;> simp [argNext, litNext, hd]

theorem argNext_pctL {st : ArgSt} {c : UInt16} : argNext st c = .pctL ↔ st = .pct ∧ c = 76 := by
  constructor
  · intro h
    cases st <;> simp only [argNext, litNext] at h <;> (repeat' split at h) <;>
      first | exact ⟨rfl, by assumption⟩ | cases h
  · rintro ⟨rfl, rfl⟩; simp [argNext]

theorem argEnd_normal_pct (a : QStr) : argEnd .normal a = .pct ↔ a.getLast? = some 37 := by
  rcases List.eq_nil_or_concat a with rfl | ⟨b, c, rfl⟩
  · simp [argEnd]
  · simp only [List.concat_eq_append, argEnd_snoc, argNext_pct, List.getLast?_concat, Option.some.injEq]

theorem argEnd_normal_pctL (a : QStr) : argEnd .normal a = .pctL ↔ [37, 76] <:+ a := by
  rcases List.eq_nil_or_concat a with rfl | ⟨b, c, rfl⟩
  · simp [argEnd]
  · simp only [List.concat_eq_append, argEnd_snoc, argNext_pctL, argEnd_normal_pct]
    constructor
    · rintro ⟨h, rfl⟩
      rcases List.eq_nil_or_concat b with rfl | ⟨b', c', rfl⟩
      · simp at h
      · simp only [List.concat_eq_append, List.getLast?_concat, Option.some.injEq] at h
        subst h
        exact ⟨b', by simp⟩
    · rintro ⟨t, ht⟩
      have h2 : t ++ [37] ++ [76] = b ++ [c] := by rw [← ht]; simp
      have := List.append_inj' h2 rfl
      obtain ⟨h3, h4⟩ := this
      simp only [List.cons.injEq, and_true] at h4
      subst h4
      rw [← h3]
      exact ⟨List.getLast?_concat .., rfl⟩

theorem argEnd_noEsc (a : QStr) : ∀ st, noEsc (argScan st a) = true → ∀ loc d, argEnd st a ≠ .d1 loc d := by
  induction a with
  | nil =>
    intro st h loc d e
    simp only [argEnd] at e; subst e
    cases h
  | cons c cs ih =>
    intro st h loc d
    rw [argScan_cons, noEsc_append, Bool.and_eq_true] at h
    rw [argEnd_cons]
    exact ih _ h.2 loc d

theorem plain_iff (a : QStr) :
    Plain a = true ↔ noEsc (argScan .normal a) = true ∧ a.getLast? ≠ some 37 ∧ ¬ [37, 76] <:+ a := by
  simp only [Plain, Bool.and_eq_true, beq_iff_eq]
  rw [← argEnd_normal_pctL, Ne, ← argEnd_normal_pct]
  constructor
  · rintro ⟨h1, h2⟩; rw [h2]; exact ⟨h1, by simp, by simp⟩
  · rintro ⟨h1, h2, h3⟩
    refine ⟨h1, ?_⟩
    have := argEnd_noEsc a .normal h1
    cases h : argEnd .normal a with
    | normal => rfl
    | pct => exact absurd h h2
    | pctL => exact absurd h h3
    | d1 loc d => exact absurd h (this loc d)

end Qhttp.RouteL
