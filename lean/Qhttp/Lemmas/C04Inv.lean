import Qhttp.Lemmas.C19Api
/-
  Phase 2 of C04 (`Done W s`): the library has closed the transport and finished the request; the
  history is `a ++ tc :: c` with the response `W` on the wire in `a` and only quiet observations
  in `c`.  `Done W` is closed under the frame rules of `C19Api`.
-/
namespace Qhttp.C04L
open Qhttp Qhttp.Sock

/-- `qObs`, `qOp`, `AppQ` are `C04.quietObs`, `C04.quietOp`, `C04.AppOK` stated again: the lemma
    files do not import Props/C04 -/
def qObs : Obs → Bool
  | .hp => false | .crash => false | .tc => false | .w _ => false
  | .mw _ _ => false | .rt _ _ => false | .pr _ _ => false | .slot _ _ => false
  | _ => true

def qOp : ApiOp → Bool
  | .note o => qObs o
  | _ => true

structure AppQ (app : App) : Prop where
  rr  : ∀ s, (app.onRr s).all qOp = true
  rcf : ∀ s, (app.onRcf s).all qOp = true
  bw  : ∀ s, (app.onBw s).all qOp = true
  dc  : ∀ s, (app.onDc s).all qOp = true

/-- what may precede the library's `tc`: anything but `tc`, `hp`, `crash`, routing -/
def preObs : Obs → Bool
  | .hp => false | .crash => false | .tc => false
  | .mw _ _ => false | .rt _ _ => false | .pr _ _ => false | .slot _ _ => false
  | _ => true

def LogOK (W : Bytes) (l : List Obs) : Prop :=
  ∃ a c, l = a ++ Obs.tc :: c ∧ a.all preObs = true ∧ Obs.wire a = W ∧ c.all qObs = true

theorem LogOK.append {W : Bytes} {l : List Obs} (h : LogOK W l) (r : List Obs)
    (hr : r.all qObs = true) : LogOK W (l ++ r) := by
  obtain ⟨a, c, rfl, ha, hw, hc⟩ := h
  refine ⟨a, c ++ r, by simp, ha, hw, ?_⟩
  rw [List.all_append, hc, hr]; rfl

def Done (W : Bytes) (s : Sock) : Prop :=
  s.tcp.devOpen = false ∧ s.rs = .finished ∧ LogOK W s.log

theorem Done.frame (W : Bytes) : C19L.Frame qObs (Done W) where
  res := fun o h => by cases o <;> first | rfl | cases h
  same := fun _ _ hs h => ⟨hs.o.trans h.1, hs.fin h.2.1, hs.l ▸ h.2.2⟩
  tw := fun s b h => by rw [tcpWrite_closed s b h.1]; exact h
  tcl := fun s _ h => by rw [tcpClose_closed s h.1]; exact h
  note := fun _ o ho h => ⟨h.1, h.2.1, h.2.2.append [o] (by rw [List.all_cons, ho]; rfl)⟩

theorem qOp_note {op : ApiOp} (h : qOp op = true) (o : Obs) (e : op = .note o) : qObs o = true := by
  subst e; exact h

theorem Done.emitDc_ok {W s} (h : Done W s) (env : Env) {app : App} (ha : AppQ app) :
    Done W (emitDc env app s) := by
  have h1 : Done W { s with dcFlag := false, log := s.log ++ [Obs.dc] } :=
    ⟨h.1, h.2.1, h.2.2.append [Obs.dc] rfl⟩
  have h2 := foldl_closed (P := Done W) (f := apiPrim env)
    (fun hq h => C19L.apiPrim_frame (Done.frame W) env (qOp_note hq) h)
    (app.onDc { s with dcFlag := false, log := s.log ++ [Obs.dc] }) (ha.dc _) h1
  rw [emitDc_eq]
  exact ⟨h2.1, h2.2.1, h2.2.2⟩

theorem Done.api_ok {W s} (h : Done W s) (env : Env) {app : App} (ha : AppQ app) {op : ApiOp}
    (hq : qOp op = true) : Done W (api env app s op) := by
  have h1 := C19L.apiPrim_frame (Done.frame W) env (qOp_note hq) h
  unfold Sock.api
  dsimp only
  split
  · exact h1.emitDc_ok env ha
  · exact h1

theorem Done.emit_ok {W s} (h : Done W s) (env : Env) {app : App} (ha : AppQ app) (o : Obs)
    (ho : qObs o = true) (ops : List ApiOp) (hq : ops.all qOp = true) :
    Done W (emit env app s o ops) :=
  foldl_closed (P := Done W) (f := api env app) (fun hq h => Done.api_ok h env ha hq) ops hq
    ((Done.frame W).note s o ho h)

theorem Done.stepClosed (W : Bytes) (env : Env) {app : App} (ha : AppQ app) :
    C19L.StepClosed env app (Done W) where
  same := (Done.frame W).same
  bad := fun _ h => by
    have hw := C19L.writeError_frame (Done.frame W) env 400 none h
    split
    · exact hw.emitDc_ok env ha
    · exact hw
  hp := fun _ _ _ hr _ h => by rw [h.2.1] at hr; cases hr
  rr := fun _ h => h.emit_ok env ha .rr rfl _ (ha.rr _)
  rcf := fun _ h => h.emit_ok env ha .rcf rfl _ (ha.rcf _)
  bw := fun _ b h => h.emit_ok env ha (.bw b) rfl _ (ha.bw _)
  tcp := fun _ _ ht h => ⟨ht.trans h.1, h.2.1, h.2.2⟩
  dc := fun _ h => h.emitDc_ok env ha
  del := fun _ h => ⟨h.1, h.2.1, h.2.2.append [Obs.del] rfl⟩

theorem done_turn_tail {W s} (h : Done W s) :
    Done W (if s.delPending = true
      then { s with alive := false, delPending := false, log := s.log ++ [Obs.del] } else s) := by
  split
  · exact ⟨h.1, h.2.1, h.2.2.append [Obs.del] rfl⟩
  · exact h

theorem Done.step_ok {W s} (h : Done W s) (env : Env) {app : App} (ha : AppQ app) (e : Event)
    (he : ∀ op, e = .api op → qOp op = true) : Done W (step env app s e) := by
  cases e with
  | api op =>
    unfold Sock.step
    split
    · exact h
    · exact h.api_ok env ha (he op rfl)
  | _ => exact (Done.stepClosed W env ha).step (fun op e => nomatch e) h

theorem Done.stepK_ok {W} {sk : Sock × Nat} (h : Done W sk.1) (env : Env) {app : App}
    (ha : AppQ app) (e : Event) (he : ∀ op, e = .api op → qOp op = true) :
    Done W (stepK env app sk e).1 := by
  unfold Sock.stepK
  dsimp only
  apply Done.step_ok _ env ha e he
  split
  · exact h
  · exact ⟨h.1, h.2.1, h.2.2.append [Obs.ev sk.2] rfl⟩

theorem Done.steps_ok {W} (env : Env) {app : App} (ha : AppQ app) (evs : List Event)
    (sk : Sock × Nat) (h : Done W sk.1) (he : ∀ e ∈ evs, ∀ op, e = .api op → qOp op = true) :
    Done W (evs.foldl (stepK env app) sk).1 := by
  induction evs generalizing sk with
  | nil => exact h
  | cons e evs ih =>
    exact ih _ (Done.stepK_ok h env ha e (he e List.mem_cons_self))
      fun e' he' => he e' (List.mem_cons_of_mem e he')

end Qhttp.C04L
