import Qhttp.Model.Socket
/-
  How the projections of a history (`Obs.wire`, `Obs.reads`, `Obs.countP`) behave under `++`, `::`
  and on observations that do not concern them.
-/
namespace Qhttp.Obs

theorem wire_append (a c : List Obs) : wire (a ++ c) = wire a ++ wire c := List.flatMap_append

theorem wire_cons (o : Obs) (l : List Obs) : wire (o :: l) = wire [o] ++ wire l := wire_append [o] l

theorem wire_w (b : Bytes) : wire [Obs.w b] = b := List.append_nil b

theorem wire_single {o : Obs} (h : isW o = false) : wire [o] = [] := by
  cases o <;> first | rfl | cases h

theorem wire_of_not_isW {l : List Obs} (h : ∀ o ∈ l, isW o = false) : wire l = [] := by
  induction l with
  | nil => rfl
  | cons o l ih =>
    rw [wire_cons, wire_single (h o List.mem_cons_self), ih fun x hx => h x (List.mem_cons_of_mem o hx)]
    rfl

theorem wire_append_of_not_isW (l : List Obs) {q : List Obs} (h : ∀ o ∈ q, isW o = false) :
    wire (l ++ q) = wire l := by
  rw [wire_append, wire_of_not_isW h, List.append_nil]

theorem wire_snoc_w (l : List Obs) (b : Bytes) : wire (l ++ [Obs.w b]) = wire l ++ b := by
  rw [wire_append, wire_w]

theorem reads_append (a c : List Obs) : reads (a ++ c) = reads a ++ reads c := List.flatMap_append

theorem countP_nil (p : Obs → Bool) : countP p [] = 0 := rfl

theorem countP_append (p : Obs → Bool) (a c : List Obs) : countP p (a ++ c) = countP p a + countP p c := by
  simp only [countP, List.filter_append, List.length_append]

theorem countP_cons (p : Obs → Bool) (o : Obs) (l : List Obs) :
    countP p (o :: l) = (if p o then 1 else 0) + countP p l := by
  cases h : p o <;> simp [countP, h, Nat.add_comm]

theorem countP_snoc (p : Obs → Bool) (l : List Obs) (o : Obs) :
    countP p (l ++ [o]) = countP p l + (if p o then 1 else 0) := by
  rw [countP_append, countP_cons, countP_nil, Nat.add_zero]

theorem countP_eq_zero {p : Obs → Bool} {l : List Obs} : countP p l = 0 ↔ ∀ o ∈ l, p o = false := by
  simp [countP, List.filter_eq_nil_iff]

theorem countP_pos {p : Obs → Bool} {l : List Obs} : 0 < countP p l ↔ ∃ o ∈ l, p o = true := by
  simp [countP, List.length_pos_iff_exists_mem, List.mem_filter]

theorem countP_le_append (p : Obs → Bool) (a c : List Obs) : countP p a ≤ countP p (a ++ c) := by
  rw [countP_append]; exact Nat.le_add_right _ _

end Qhttp.Obs
