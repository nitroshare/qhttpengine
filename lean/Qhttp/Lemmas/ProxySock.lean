import Qhttp.Model.Proxy
import Qhttp.Lemmas.C02Run
import Qhttp.Lemmas.SockEqns
import Qhttp.Lemmas.ObsLog
/-
  C12 — the socket under the proxy's application (`onRr = readAll`, nothing else): closed forms
  of the emissions, and what one `onReadyRead` does beyond what the C02 invariant `RInv` says
  (history grows without markers / upstream observations, the parsed request fields are the
  head's and stay, everything readable has been read).
-/
namespace Qhttp.ProxyL
open Qhttp Proxy Qhttp.C02

/-- neither an event marker nor an upstream observation -/
def quiet0 : Obs → Bool | .ev _ => false | .misc _ _ => false | _ => true

def Grow (s s' : Sock) : Prop := ∃ l, s'.log = s.log ++ l ∧ l.all quiet0 = true

theorem Grow.refl (s : Sock) : Grow s s := ⟨[], by simp, rfl⟩
theorem Grow.of_log_eq {s s' : Sock} (h : s'.log = s.log) : Grow s s' := ⟨[], by simp [h], rfl⟩
theorem Grow.trans {a b c : Sock} (h1 : Grow a b) (h2 : Grow b c) : Grow a c := by
  obtain ⟨l1, e1, q1⟩ := h1
  obtain ⟨l2, e2, q2⟩ := h2
  exact ⟨l1 ++ l2, by rw [e2, e1, List.append_assoc], by rw [List.all_append, q1, q2]; rfl⟩

/-- the parsed request fields the upstream head is built from -/
def SameReq (s s' : Sock) : Prop :=
  s'.method = s.method ∧ s'.rawPath = s.rawPath ∧ s'.reqHeaders = s.reqHeaders

theorem SameReq.refl (s : Sock) : SameReq s s := ⟨rfl, rfl, rfl⟩
theorem SameReq.trans {a b c : Sock} (h1 : SameReq a b) (h2 : SameReq b c) : SameReq a c :=
  ⟨h2.1.trans h1.1, h2.2.1.trans h1.2.1, h2.2.2.trans h1.2.2⟩

/-- everything the reader may read has been read -/
def Drained (s : Sock) : Prop := s.qio = [] ∧ s.readBuffer = []

theorem emit_hp_app (env : Env) (s : Sock) :
    Sock.emit env Proxy.app s .hp (Proxy.app.onHp s) = { s with log := s.log ++ [.hp] } := rfl

theorem emit_rcf_app (env : Env) (s : Sock) :
    Sock.emit env Proxy.app s .rcf (Proxy.app.onRcf s) = { s with log := s.log ++ [.rcf] } := rfl

theorem emit_rr_app (env : Env) (s : Sock) (ha : s.alive = true) (hio : s.ioOpen = true)
    (hrs : s.rs ≠ .headers) (hdc : s.dcFlag = false) :
    Sock.emit env Proxy.app s .rr (Proxy.app.onRr s) =
      { s with qio := [], readBuffer := [], dataRead := s.dataRead + s.readBuffer.length,
               log := s.log ++ [.rr, .rd (s.qio ++ s.readBuffer)] } := by
  have h1 : Sock.emit env Proxy.app s .rr (Proxy.app.onRr s) =
      Sock.api env Proxy.app { s with log := s.log ++ [.rr] } .readAll := rfl
  rw [h1]
  unfold Sock.api Sock.apiPrim
  simp only [ha, Bool.not_true, Bool.false_eq_true, if_false]
  rw [readAll_data _ (by exact hio) (by exact hrs)]
  simp [hdc]

structure Live (s : Sock) : Prop where
  alive : s.alive = true
  ioOpen : s.ioOpen = true
  dcFlag : s.dcFlag = false

theorem readDataSlot_app (env : Env) (s : Sock) (hl : Live s) (hrs : s.rs = .data) (hq : s.qio = []) :
    Grow s (Sock.readDataSlot env Proxy.app s) ∧ SameReq s (Sock.readDataSlot env Proxy.app s) ∧
    Drained (Sock.readDataSlot env Proxy.app s) := by
  rw [readDataSlot_eq]
  have c1 : Grow s (cutS s) ∧ SameReq s (cutS s) ∧ Live (cutS s) ∧ (cutS s).rs = .data ∧ (cutS s).qio = [] := by
    unfold cutS; split
    · exact ⟨Grow.of_log_eq rfl, ⟨rfl, rfl, rfl⟩, ⟨hl.alive, hl.ioOpen, hl.dcFlag⟩, hrs, hq⟩
    · exact ⟨Grow.refl s, SameReq.refl s, hl, hrs, hq⟩
  obtain ⟨g1, r1, l1, rs1, q1⟩ := c1
  generalize cutS s = s1 at g1 r1 l1 rs1 q1 ⊢
  have c2 : Grow s1 (rrS env Proxy.app s1) ∧ SameReq s1 (rrS env Proxy.app s1) ∧
      Drained (rrS env Proxy.app s1) := by
    unfold rrS; split
    · rw [emit_rr_app env s1 l1.alive l1.ioOpen (by rw [rs1]; simp) l1.dcFlag]
      exact ⟨⟨_, rfl, by simp [quiet0]⟩, ⟨rfl, rfl, rfl⟩, ⟨rfl, rfl⟩⟩
    · rename_i hlen
      have : s1.readBuffer = [] := by
        cases hb : s1.readBuffer with
        | nil => rfl
        | cons x xs => rw [hb] at hlen; simp at hlen
      exact ⟨Grow.refl s1, SameReq.refl s1, ⟨q1, this⟩⟩
  obtain ⟨g2, r2, d2⟩ := c2
  generalize rrS env Proxy.app s1 = s2 at g2 r2 d2 ⊢
  unfold finS; split
  · rw [emit_rcf_app]
    exact ⟨g1.trans (g2.trans ⟨_, rfl, by simp [quiet0]⟩), r1.trans (r2.trans ⟨rfl, rfl, rfl⟩), d2⟩
  · exact ⟨g1.trans g2, r1.trans r2, d2⟩

/-- the parsed head: what `C01.expect` / `C02.Acc` hide behind their existentials -/
structure Parsed (env : Env) (head : Bytes) (N : Nat) (rh : Parser.ReqHead) : Prop where
  parse : Parser.parseRequestHeaders head [] = some rh
  url : ∃ p q, env.url rh.rawPath = some (p, q)
  cl : HeaderMap.contains Sock.CONTENT_LENGTH_KEY rh.headers = true
  len : toLongLong (HeaderMap.value Sock.CONTENT_LENGTH_KEY rh.headers) = (N : Int)

theorem Parsed.acc {env : Env} {head : Bytes} {N : Nat} {rh : Parser.ReqHead} (h : Parsed env head N rh) :
    Acc env head N := by
  obtain ⟨p, q, hu⟩ := h.url
  exact ⟨⟨rh, p, q, h.parse, hu, h.cl, h.len⟩⟩

theorem head_of_prefix {fedF buf head restF h' rest : Bytes} (hfin : breakOn CRLF2 fedF = some (head, restF))
    (hpre : buf <+: fedF) (hbk : breakOn CRLF2 buf = some (h', rest)) : h' = head := by
  obtain ⟨t, _, ht⟩ := C02L.breakOn_prefix CRLF2 buf fedF h' rest hpre hbk
  rw [hfin] at ht
  simp only [Option.some.injEq, Prod.mk.injEq] at ht
  exact ht.1.symm

/-- `orr_` in lemma names = `onReadyRead`: what it does beyond `RInv` under the proxy's application
    when the request head is the accepted `head` -/
theorem orr_good (env : Env) {evs : List Event} {head : Bytes} {N hl fl : Nat} {hb B : Bytes} {s : Sock}
    {rh : Parser.ReqHead} (hp : Parsed env head N rh)
    (fedF restF fed seg : Bytes) (hfin : breakOn CRLF2 fedF = some (head, restF))
    (hpre : (fed ++ seg) <+: fedF)
    (hm : Mid evs hl N fl hb B none s) (hin : s.tcp.inbox = seg) (hrel : Rel head N fed hb B s)
    (hdr : s.rs ≠ .headers → Drained s) :
    Grow s (Sock.onReadyRead env Proxy.app s) ∧
    (s.rs ≠ .headers → SameReq s (Sock.onReadyRead env Proxy.app s)) ∧
    (s.rs = .headers → (Sock.onReadyRead env Proxy.app s).rs ≠ .headers →
      (Sock.onReadyRead env Proxy.app s).method = rh.method ∧
      (Sock.onReadyRead env Proxy.app s).rawPath = rh.rawPath ∧
      (Sock.onReadyRead env Proxy.app s).reqHeaders = rh.headers) ∧
    ((Sock.onReadyRead env Proxy.app s).rs ≠ .headers → Drained (Sock.onReadyRead env Proxy.app s)) := by
  have hlive : Live s := ⟨hm.alive, hm.ioOpen, hm.dcFlag⟩
  rw [onReadyRead_eq]
  have h3 : s.rs = .finished ∨ s.rs = .data ∨ s.rs = .headers := by cases s.rs <;> simp
  rcases h3 with hrs | hrs | hrs
  · -- finished: only the inbox is cleared
    have hne : s.rs ≠ .headers := by rw [hrs]; simp
    rw [if_pos hrs, if_pos hm.devOpen]
    exact ⟨Grow.of_log_eq rfl, fun _ => ⟨rfl, rfl, rfl⟩, fun h => absurd h hne, fun _ => hdr hne⟩
  · -- data
    have hne : s.rs ≠ .headers := by rw [hrs]; simp
    rw [if_neg (by rw [hrs]; simp)]
    have hps : (pullS s).rs = .data := by rw [pullS_rs, hrs]
    rw [orrBody_data _ _ _ hps]
    have hpl : Grow s (pullS s) ∧ SameReq s (pullS s) ∧ Live (pullS s) ∧ (pullS s).qio = [] := by
      unfold pullS; rw [if_pos hm.devOpen]
      exact ⟨Grow.of_log_eq rfl, ⟨rfl, rfl, rfl⟩, ⟨hm.alive, hm.ioOpen, hm.dcFlag⟩, (hdr hne).1⟩
    obtain ⟨g0, r0, l0, q0⟩ := hpl
    obtain ⟨g1, r1, d1⟩ := readDataSlot_app env (pullS s) l0 hps q0
    exact ⟨g0.trans g1, fun _ => r0.trans r1, fun h => absurd h hne, fun _ => d1⟩
  · -- headers
    rw [if_neg (by rw [hrs]; simp)]
    obtain ⟨g1, g2, _, g4, _, _⟩ := hm.hdr hrs
    obtain ⟨k1, _⟩ := hrel.1 hrs
    have hpl : pullS s = { s with readBuffer := s.readBuffer ++ seg, tcp := { s.tcp with inbox := [] } } := by
      unfold pullS; rw [if_pos hm.devOpen, hin]
    have hbuf : s.readBuffer ++ seg = fed ++ seg := by rw [g1, k1]
    rw [hpl]
    cases hbk : breakOn CRLF2 (s.readBuffer ++ seg) with
    | none =>
      rw [orrBody_headers_none _ _ _ (by exact hrs) (by exact hbk)]
      refine ⟨Grow.of_log_eq rfl, fun h => absurd hrs h, fun _ h => absurd ?_ h, fun h => absurd ?_ h⟩
      · exact hrs
      · exact hrs
    | some pr =>
      obtain ⟨h', rest⟩ := pr
      have hhead : h' = head := head_of_prefix hfin hpre (by rw [← hbuf]; exact hbk)
      subst hhead
      obtain ⟨p, q, hu⟩ := hp.url
      have hrs4 : (Sock.emit env Proxy.app
          (hpState { s with readBuffer := s.readBuffer ++ seg, tcp := { s.tcp with inbox := [] } } rh p q rest N) .hp
          (Proxy.app.onHp (hpState { s with readBuffer := s.readBuffer ++ seg, tcp := { s.tcp with inbox := [] } } rh p q rest N))).rs
          = .data := rfl
      rw [orrBody_headers_acc _ _ _ (by exact hrs) h' rest rh p q N (by exact hbk)
        (by show Parser.parseRequestHeaders h' s.reqHeaders = some rh; rw [g2]; exact hp.parse) hu hp.cl hp.len hrs4]
      rw [emit_hp_app]
      generalize hse : ({ hpState { s with readBuffer := s.readBuffer ++ seg, tcp := { s.tcp with inbox := [] } } rh p q rest N
        with log := (hpState { s with readBuffer := s.readBuffer ++ seg, tcp := { s.tcp with inbox := [] } } rh p q rest N).log ++ [Obs.hp] } : Sock) = se
      have e1 : se.log = s.log ++ [Obs.hp] := by rw [← hse]; rfl
      have e2 : se.method = rh.method ∧ se.rawPath = rh.rawPath ∧ se.reqHeaders = rh.headers := by
        rw [← hse]; exact ⟨rfl, rfl, rfl⟩
      have e3 : Live se := by rw [← hse]; exact ⟨hm.alive, hm.ioOpen, hm.dcFlag⟩
      have e4 : se.rs = .data := by rw [← hse]; rfl
      have e5 : se.qio = [] := by rw [← hse]; exact g4
      obtain ⟨gg, rr, dd⟩ := readDataSlot_app env se e3 e4 e5
      refine ⟨?_, fun h => absurd hrs h, fun _ _ => ?_, fun _ => dd⟩
      · have g0 : Grow s se := ⟨[Obs.hp], e1, by simp [quiet0]⟩
        exact g0.trans gg
      · obtain ⟨a1, a2, a3⟩ := rr
        exact ⟨a1.trans e2.1, a2.trans e2.2.1, a3.trans e2.2.2⟩

def relaySockEvent : Event → Bool
  | .new => true | .feed _ => true | .turn => true | _ => false

theorem relaySock_cases {e : Event} (h : relaySockEvent e = true) :
    e = .new ∨ (∃ seg, e = .feed seg) ∨ e = .turn := by
  cases e with
  | new => exact Or.inl rfl
  | feed seg => exact Or.inr (Or.inl ⟨seg, rfl⟩)
  | turn => exact Or.inr (Or.inr rfl)
  | _ => cases h

theorem okEvent_of_relay {e : Event} (h : relaySockEvent e = true) : okEvent e = true := by
  obtain rfl | ⟨seg, rfl⟩ | rfl := relaySock_cases h <;> rfl

/-- what is tracked beyond `RInv`: once the head is parsed the request fields are the head's, and
    between events everything readable has been read -/
structure Extra (rh : Parser.ReqHead) (s : Sock) : Prop where
  fields : s.rs ≠ .headers → s.method = rh.method ∧ s.rawPath = rh.rawPath ∧ s.reqHeaders = rh.headers
  drained : s.rs ≠ .headers → Drained s

/-- the socket part of `Proxy.turn` -/
def turnSock (env : Env) (s : Sock) (k : Nat) : Sock :=
  let s := { s with log := s.log ++ [Obs.ev k] }
  if s.initPending then Sock.onReadyRead env Proxy.app { s with initPending := false } else s

theorem turnSock_pos (env : Env) {s : Sock} (k : Nat) (h : s.initPending = true) :
    turnSock env s k =
      Sock.onReadyRead env Proxy.app { s with log := s.log ++ [Obs.ev k], initPending := false } := by
  unfold turnSock
  simp only []
  rw [if_pos h]

theorem turnSock_neg (env : Env) {s : Sock} (k : Nat) (h : ¬ s.initPending = true) :
    turnSock env s k = { s with log := s.log ++ [Obs.ev k] } := by
  unfold turnSock
  simp only []
  rw [if_neg h]

def reap (r : Sock) : Sock :=
  if r.delPending then { r with alive := false, delPending := false, log := r.log ++ [Obs.del] } else r

theorem reap_of_not_pending {r : Sock} (h : r.delPending = false) : reap r = r := by
  unfold reap
  rw [if_neg (by rw [h]; decide)]

theorem stepK_new (env : Env) {s : Sock} (k : Nat) (ha : s.alive = true) :
    (Sock.stepK env Proxy.app (s, k) .new).1 = { s with log := s.log ++ [Obs.ev k], initPending := true } := by
  rw [Sock.stepK_alive env Proxy.app k _ ha]
  exact Sock.step_new env Proxy.app _ ha

theorem stepK_feed (env : Env) {s : Sock} (k : Nat) (seg : Bytes) (ha : s.alive = true) :
    (Sock.stepK env Proxy.app (s, k) (.feed seg)).1 =
      Sock.onReadyRead env Proxy.app
        { s with log := s.log ++ [Obs.ev k], tcp := { s.tcp with inbox := s.tcp.inbox ++ seg } } := by
  rw [Sock.stepK_alive env Proxy.app k _ ha]
  exact Sock.step_feed env Proxy.app _ seg ha

theorem stepK_turn (env : Env) {s : Sock} (k : Nat) (ha : s.alive = true) :
    (Sock.stepK env Proxy.app (s, k) .turn).1 = reap (turnSock env s k) := by
  rw [Sock.stepK_alive env Proxy.app k _ ha]
  exact Sock.step_turn env Proxy.app _ ha

/-- a turn that leaves the socket alive deleted nothing -/
theorem stepK_turn_alive (env : Env) {s : Sock} (k : Nat) (ha : s.alive = true)
    (ha' : (Sock.stepK env Proxy.app (s, k) .turn).1.alive = true) :
    (Sock.stepK env Proxy.app (s, k) .turn).1 = turnSock env s k := by
  rw [stepK_turn env k ha] at ha' ⊢
  unfold reap at ha' ⊢
  split
  · rename_i hd; rw [if_pos hd] at ha'; cases ha'
  · rfl

theorem Grow.mark {s s' : Sock} {k : Nat} (h : Grow { s with log := s.log ++ [Obs.ev k] } s') :
    ∃ l, s'.log = s.log ++ Obs.ev k :: l ∧ l.all quiet0 = true := by
  obtain ⟨l, e1, q1⟩ := h
  exact ⟨l, by rw [e1]; simp, q1⟩

theorem Extra.of_eq {rh : Parser.ReqHead} {s s' : Sock} (h : Extra rh s) (hrs : s'.rs = s.rs)
    (hr : SameReq s s') (hq : s'.qio = s.qio) (hb : s'.readBuffer = s.readBuffer) : Extra rh s' := by
  constructor
  · intro hne
    obtain ⟨a, b, c⟩ := h.fields (by rw [← hrs]; exact hne)
    exact ⟨hr.1.trans a, hr.2.1.trans b, hr.2.2.trans c⟩
  · intro hne
    obtain ⟨a, b⟩ := h.drained (by rw [← hrs]; exact hne)
    exact ⟨hq.trans a, hb.trans b⟩

theorem Extra.orr {rh : Parser.ReqHead} {s : Sock} (env : Env) (h : Extra rh s)
    (hs : (s.rs ≠ .headers → SameReq s (Sock.onReadyRead env Proxy.app s)) ∧
      (s.rs = .headers → (Sock.onReadyRead env Proxy.app s).rs ≠ .headers →
        (Sock.onReadyRead env Proxy.app s).method = rh.method ∧
        (Sock.onReadyRead env Proxy.app s).rawPath = rh.rawPath ∧
        (Sock.onReadyRead env Proxy.app s).reqHeaders = rh.headers) ∧
      ((Sock.onReadyRead env Proxy.app s).rs ≠ .headers → Drained (Sock.onReadyRead env Proxy.app s))) :
    Extra rh (Sock.onReadyRead env Proxy.app s) := by
  obtain ⟨h1, h2, h3⟩ := hs
  constructor
  · intro hne
    by_cases hrs : s.rs = .headers
    · exact h2 hrs hne
    · obtain ⟨a, b, c⟩ := h.fields hrs
      obtain ⟨x, y, z⟩ := h1 hrs
      exact ⟨x.trans a, y.trans b, z.trans c⟩
  · exact h3

theorem stepK_good (env : Env) {evs : List Event} {head : Bytes} {N : Nat} {s : Sock}
    {rh : Parser.ReqHead} (hp : Parsed env head N rh)
    (fedF restF fed : Bytes) (hfin : breakOn CRLF2 fedF = some (head, restF))
    (e : Event) (k : Nat) (hk : evs[k]? = some e) (he : relaySockEvent e = true)
    (hpre : (fed ++ evBytesOf e) <+: fedF) (h : RInv evs head N fed s) (hx : Extra rh s) :
    RInv evs head N (fed ++ evBytesOf e) (Sock.stepK env Proxy.app (s, k) e).1 ∧
    Extra rh (Sock.stepK env Proxy.app (s, k) e).1 ∧
    (∃ l, (Sock.stepK env Proxy.app (s, k) e).1.log = s.log ++ Obs.ev k :: l ∧ l.all quiet0 = true) ∧
    (e = .turn → (Sock.stepK env Proxy.app (s, k) e).1 = turnSock env s k) := by
  have hR := (stepK_inv env Proxy.app ⟨fun _ => rfl, fun _ => rfl, fun _ => rfl, fun _ => rfl, fun _ => rfl⟩
    hp.acc fedF restF fed hfin e k hk (okEvent_of_relay he) hpre h).1
  refine ⟨hR, ?_⟩
  have hal : (Sock.stepK env Proxy.app (s, k) e).1.alive = true := by
    obtain ⟨_, _, _, m', _, _⟩ := hR
    exact m'.alive
  obtain ⟨a, hb, B, hm, hin, hrel⟩ := h
  have hm1 := hm.ev k
  rw [evLen_of k e hk, ← List.length_append] at hm1
  have hxe : Extra rh { s with log := s.log ++ [Obs.ev k] } := hx.of_eq rfl ⟨rfl, rfl, rfl⟩ rfl rfl
  obtain rfl | ⟨seg, rfl⟩ | rfl := relaySock_cases he
  · rw [stepK_new env k hm.alive]
    exact ⟨hxe.of_eq rfl ⟨rfl, rfl, rfl⟩ rfl rfl, Grow.mark (Grow.of_log_eq rfl), fun h => nomatch h⟩
  · rw [stepK_feed env k seg hm.alive]
    have hg := orr_good env hp fedF restF fed seg hfin hpre
      (hm1.setInbox (s.tcp.inbox ++ seg)) (by show s.tcp.inbox ++ seg = seg; rw [hin]; rfl)
      (hrel.of_rs rfl) (fun hne => (hxe.drained hne))
    have hxi : Extra rh { s with log := s.log ++ [Obs.ev k], tcp := { s.tcp with inbox := s.tcp.inbox ++ seg } } :=
      hxe.of_eq rfl ⟨rfl, rfl, rfl⟩ rfl rfl
    exact ⟨hxi.orr env hg.2, Grow.mark ((Grow.of_log_eq rfl).trans hg.1), fun h => nomatch h⟩
  · rw [stepK_turn_alive env k hm.alive hal]
    simp only [evBytesOf, List.append_nil] at hm1 hpre
    by_cases hip : s.initPending = true
    · rw [turnSock_pos env k hip]
      have hg := orr_good env hp fedF restF fed [] hfin (by simpa using hpre)
        (hm1.setInit false) (by exact hin) (hrel.of_rs rfl) (fun hne => (hxe.drained hne))
      have hxi : Extra rh { s with log := s.log ++ [Obs.ev k], initPending := false } :=
        hxe.of_eq rfl ⟨rfl, rfl, rfl⟩ rfl rfl
      exact ⟨hxi.orr env hg.2, Grow.mark ((Grow.of_log_eq rfl).trans hg.1), fun _ => rfl⟩
    · rw [turnSock_neg env k hip]
      exact ⟨hxe, Grow.mark (Grow.refl _), fun _ => rfl⟩

end Qhttp.ProxyL
