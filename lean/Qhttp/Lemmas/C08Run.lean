import Qhttp.Model.FsHandler
import Qhttp.Lemmas.C03Wire
import Qhttp.Lemmas.SockEqns
import Qhttp.Props.C14
import Qhttp.Lemmas.C02C01
/-
  The composed run (socket + `FilesystemHandler::process` + copier) for one request that arrives
  whole.  Every step is stated for an arbitrary socket; the harness's start socket is put in last.
  `(by exact h)` hands a hypothesis about `s` to a lemma about a record update of `s`: elaborated
  after that socket is known, it is accepted up to projection reduction instead of fixing it to `s`.
-/
namespace Qhttp
namespace C08L
open Qhttp Qhttp.Sock FsHandler

theorem api_status (env : Env) (app : App) {s : Sock} (ha : s.alive = true) (hd : s.dcFlag = false)
    (c : Int) : api env app s (.status c none) = { s with code := c, reason := statusReason c } := by
  simp [api, apiPrim, ha, setStatusCode, hd]

theorem setHeader_replace (s : Sock) (n v : Bytes) :
    setHeader s n v true =
      { s with respHeaders := HeaderMap.insert n v (HeaderMap.remove n s.respHeaders) } := by
  simp [setHeader]

theorem api_hdr (env : Env) (app : App) {s : Sock} (ha : s.alive = true) (hd : s.dcFlag = false)
    (n v : Bytes) :
    api env app s (.hdr n v true) =
      { s with respHeaders := HeaderMap.insert n v (HeaderMap.remove n s.respHeaders) } := by
  simp [api, apiPrim, ha, setHeader_replace, hd]

theorem writeHeaders_eq {s : Sock} (hdev : s.tcp.devOpen = true) (hc : s.tcp.conn = .connected) :
    writeHeaders s =
      { s with ws := .headers, hdrRemaining := (headBytes s).length,
               tcp := { s.tcp with wire := s.tcp.wire ++ headBytes s,
                                   unacked := s.tcp.unacked + (headBytes s).length },
               log := s.log ++ [Obs.w (headBytes s)] } := by
  unfold writeHeaders
  simp only []
  rw [Sock.tcpWrite_open (by exact hdev) (by exact hc) (by exact Sock.headBytes_ne_nil s)]
  rfl

theorem api_wh (env : Env) (app : App) {s : Sock} (ha : s.alive = true) (hd : s.dcFlag = false)
    (hdev : s.tcp.devOpen = true) (hc : s.tcp.conn = .connected) :
    api env app s .wh = writeHeaders s := by
  have : apiPrim env s .wh = writeHeaders s := by simp [apiPrim, ha]
  unfold api
  rw [this, writeHeaders_eq hdev hc]
  simp [hd]

theorem api_write (env : Env) (app : App) {s : Sock} (ha : s.alive = true) (hd : s.dcFlag = false)
    (hio : s.ioOpen = true) (hws : s.ws ≠ .none) (d : Bytes) :
    api env app s (.write d) = tcpWrite s d := by
  have h1 : apiPrim env s (.write d) = tcpWrite s d := by simp [apiPrim, ha, Sock.write, hio, hws]
  unfold api
  rw [h1, if_neg]
  unfold tcpWrite
  split <;> simp [hd]

/-- after a last `write body` and `close`, while earlier bytes are still unacknowledged -/
def finished (s : Sock) (body : Bytes) : Sock :=
  { s with ioOpen := false, qio := [], rs := .finished, ws := .finished, closeCalled := true,
           tcp := { s.tcp with wire := s.tcp.wire ++ body, unacked := s.tcp.unacked + body.length,
                               devOpen := false, conn := .closing },
           log := s.log ++ ((if body.isEmpty then [] else [Obs.w body]) ++ [Obs.tc]) }

theorem close_tcpWrite {s : Sock} (hdev : s.tcp.devOpen = true) (hc : s.tcp.conn = .connected)
    (hu : s.tcp.unacked ≠ 0) (body : Bytes) : Sock.close (tcpWrite s body) = finished s body := by
  by_cases hb : body.isEmpty = true
  · have : body = [] := List.isEmpty_iff.1 hb
    subst this
    rw [Sock.tcpWrite_nil]
    simp [Sock.close, tcpClose, hdev, hc, hu, finished]
  · have hne : body ≠ [] := by intro e; rw [e] at hb; exact hb rfl
    rw [Sock.tcpWrite_open hdev hc hne]
    simp [Sock.close, tcpClose, wrote, hdev, hc, hne, finished, hb]

theorem api_close (env : Env) (app : App) {s : Sock} (ha : s.alive = true) (hd : s.dcFlag = false)
    (hdev : s.tcp.devOpen = true) (hc : s.tcp.conn = .connected) (hu : s.tcp.unacked ≠ 0) (body : Bytes) :
    api env app (tcpWrite s body) .close = finished s body := by
  have ha' : (tcpWrite s body).alive = true := by unfold tcpWrite; split <;> exact ha
  have h1 : apiPrim env (tcpWrite s body) .close = Sock.close (tcpWrite s body) := by
    simp [apiPrim, ha']
  unfold api
  rw [h1, close_tcpWrite hdev hc hu, if_neg]
  show ¬ s.dcFlag = true
  simp [hd]

theorem finished_shut {s : Sock} (hd : s.dcFlag = false) (hrb : s.readBuffer = [])
    (hin : s.tcp.inbox = []) (hl : C03L.LogOpen s.log) (body : Bytes) :
    C03L.Shut (finished s body) := by
  refine ⟨⟨hd, hrb, hin, by simp [finished]⟩, rfl, rfl, ?_⟩
  show C03L.LogShut (s.log ++ ((if body.isEmpty then [] else [Obs.w body]) ++ [Obs.tc]))
  rw [← List.append_assoc]
  apply C03L.LogOpen.close
  intro o ho
  rcases List.mem_append.1 ho with ho | ho
  · exact hl o ho
  · split at ho
    · cases ho
    · rw [List.mem_singleton.1 ho]; rfl

theorem finished_chunks (s : Sock) (body : Bytes) :
    (C03L.chunks (finished s body).log).flatten = (C03L.chunks s.log).flatten ++ body := by
  show (C03L.chunks (s.log ++ ((if body.isEmpty then [] else [Obs.w body]) ++ [Obs.tc]))).flatten = _
  by_cases hb : body.isEmpty = true
  · have : body = [] := List.isEmpty_iff.1 hb
    subst this
    simp [C03L.chunks]
  · simp [hb, C03L.chunks]

/-- the calls `processFile` makes from `headersParsed` -/
def fileOps (r : Range) (size : Nat) (mime : Bytes) : List ApiOp :=
  (if r.isValid then
     [.status 206 none, .hdr Sock.CONTENT_LENGTH (intText r.length) true,
      .hdr CONTENT_RANGE (BYTES_SP ++ r.contentRange) true]
   else [.hdr Sock.CONTENT_LENGTH (natDigits size) true]) ++
  [.hdr Sock.CONTENT_TYPE mime true, .wh]

theorem hpOps_file {fe : FsEnv} {s : Sock} {loc : List Bytes} {r : Range}
    (hp : plan fe (s.path.drop 1) s.reqHeaders = .file loc r) :
    hpOps fe s = fileOps r (fe.content loc).length (fe.mime loc) := by
  unfold hpOps fileOps
  rw [hp]

theorem plan_file_range {fe : FsEnv} {path : Bytes} {hs : HeaderMap} {loc : List Bytes} {r : Range}
    (h : plan fe path hs = .file loc r) :
    r = requestedRange (HeaderMap.value RANGE hs) (fe.content loc).length := by
  unfold plan at h
  simp only [] at h
  split at h
  · cases h
  · split at h
    · cases h
    · cases h; rfl

def respHdrs (r : Range) (size : Nat) (mime : Bytes) : HeaderMap :=
  if r.isValid then
    [(Sock.CONTENT_LENGTH, intText r.length), (CONTENT_RANGE, BYTES_SP ++ r.contentRange),
     (Sock.CONTENT_TYPE, mime)]
  else [(Sock.CONTENT_LENGTH, natDigits size), (Sock.CONTENT_TYPE, mime)]

def respState (s : Sock) (r : Range) (size : Nat) (mime : Bytes) : Sock :=
  { s with code := if r.isValid then 206 else s.code,
           reason := if r.isValid then statusReason 206 else s.reason,
           respHeaders := respHdrs r size mime }

theorem hdrs_CL_CR_CT (a b c : Bytes) :
    HeaderMap.insert Sock.CONTENT_TYPE c (HeaderMap.remove Sock.CONTENT_TYPE
      (HeaderMap.insert CONTENT_RANGE b (HeaderMap.remove CONTENT_RANGE
        (HeaderMap.insert Sock.CONTENT_LENGTH a (HeaderMap.remove Sock.CONTENT_LENGTH []))))) =
      [(Sock.CONTENT_LENGTH, a), (CONTENT_RANGE, b), (Sock.CONTENT_TYPE, c)] := by
  have k1 : HeaderMap.keyLt Sock.CONTENT_LENGTH CONTENT_RANGE = true := by decide
  have k2 : HeaderMap.keyLt Sock.CONTENT_LENGTH Sock.CONTENT_TYPE = true := by decide
  have k3 : HeaderMap.keyLt CONTENT_RANGE Sock.CONTENT_TYPE = true := by decide
  have e1 : HeaderMap.keyEq Sock.CONTENT_LENGTH CONTENT_RANGE = false := by decide
  have e2 : HeaderMap.keyEq Sock.CONTENT_LENGTH Sock.CONTENT_TYPE = false := by decide
  have e3 : HeaderMap.keyEq CONTENT_RANGE Sock.CONTENT_TYPE = false := by decide
  simp [HeaderMap.insert, HeaderMap.remove, k1, k2, k3, e1, e2, e3]

theorem hdrs_CL_CT (a c : Bytes) :
    HeaderMap.insert Sock.CONTENT_TYPE c (HeaderMap.remove Sock.CONTENT_TYPE
      (HeaderMap.insert Sock.CONTENT_LENGTH a (HeaderMap.remove Sock.CONTENT_LENGTH []))) =
      [(Sock.CONTENT_LENGTH, a), (Sock.CONTENT_TYPE, c)] := by
  have k : HeaderMap.keyLt Sock.CONTENT_LENGTH Sock.CONTENT_TYPE = true := by decide
  have e : HeaderMap.keyEq Sock.CONTENT_LENGTH Sock.CONTENT_TYPE = false := by decide
  simp [HeaderMap.insert, HeaderMap.remove, k, e]

theorem apis_fileOps (env : Env) (app : App) {s : Sock} (ha : s.alive = true) (hd : s.dcFlag = false)
    (hdev : s.tcp.devOpen = true) (hc : s.tcp.conn = .connected) (hrh : s.respHeaders = [])
    (r : Range) (size : Nat) (mime : Bytes) :
    apis env app s (fileOps r size mime) = writeHeaders (respState s r size mime) := by
  unfold fileOps apis respState respHdrs
  by_cases hv : r.isValid = true
  · simp only [hv, if_true, List.cons_append, List.nil_append, List.foldl_cons, List.foldl_nil,
      api_status env app, api_hdr env app, api_wh env app, ha, hd, hdev, hc, hrh, hdrs_CL_CR_CT]
  · simp only [hv, Bool.false_eq_true, if_false, List.cons_append, List.nil_append, List.foldl_cons,
      List.foldl_nil, api_hdr env app, api_wh env app, ha, hd, hdev, hc, hrh, hdrs_CL_CT]

/-- the anonymous function by which `FsHandler.step` and `FsHandler.turn` count event markers -/
def isEv : Obs → Bool | .ev _ => true | _ => false

theorem step_turn (env : Env) (fe : FsEnv) (st : FsHandler.St) :
    FsHandler.step env fe st .turn = FsHandler.turn env fe st := rfl

theorem step_nonturn (env : Env) (fe : FsEnv) (st : FsHandler.St) (e : Event) (hne : e ≠ .turn) :
    FsHandler.step env fe st e =
      afterRoute fe (Obs.countP Obs.isHp st.sock.log)
        { st with sock := (Sock.stepK env (app fe) (st.sock, Obs.countP isEv st.sock.log) e).1 } := by
  cases e <;> first | rfl | exact absurd rfl hne

/-- the socket as a `feed` event finds it: marker recorded, segment in the transport's inbox -/
def fedIn (s : Sock) (seg : Bytes) : Sock :=
  { s with log := s.log ++ [Obs.ev (Obs.countP isEv s.log)],
           tcp := { s.tcp with inbox := s.tcp.inbox ++ seg } }

theorem step_feed (env : Env) (fe : FsEnv) (st : FsHandler.St) (seg : Bytes)
    (ha : st.sock.alive = true) :
    FsHandler.step env fe st (.feed seg) =
      afterRoute fe (Obs.countP Obs.isHp st.sock.log)
        { st with sock := onReadyRead env (app fe) (fedIn st.sock seg) } := by
  rw [step_nonturn env fe st _ (by simp), Sock.stepK_alive env (app fe) _ _ ha]
  unfold Sock.step
  rw [if_neg (by simp [ha])]
  rfl

/-- the socket in which the `headersParsed` slot runs, when the head `rh` (no Content-Length) was
    all the transport held -/
def hpSock (s : Sock) (rh : Parser.ReqHead) (p : Bytes) (q : List (Bytes × Bytes)) : Sock :=
  { s with tcp := { s.tcp with inbox := [] }, readBuffer := [], rs := .data, method := rh.method,
           rawPath := rh.rawPath, path := p,
           query := q.foldl (fun m e => Sock.qmInsert e.1 e.2 m) s.query,
           reqHeaders := rh.headers, log := s.log ++ [Obs.hp] }

/-- the socket when that slot returns -/
def hpResult (env : Env) (fe : FsEnv) (s : Sock) (rh : Parser.ReqHead) (p : Bytes)
    (q : List (Bytes × Bytes)) : Sock :=
  apis env (app fe) (hpSock s rh p q) (hpOps fe (hpSock s rh p q))

/-- `process` looks at the path and the request headers only -/
theorem plan_sock_congr (fe : FsEnv) {s s' : Sock} (hp : s.path = s'.path)
    (hh : s.reqHeaders = s'.reqHeaders) :
    hpOps fe s = hpOps fe s' ∧ copierCfg fe s = copierCfg fe s' := by
  unfold hpOps copierCfg
  rw [hp, hh]
  exact ⟨rfl, rfl⟩

theorem onReadyRead_hp (env : Env) (fe : FsEnv) {s : Sock} {head : Bytes} {rh : Parser.ReqHead}
    {p : Bytes} {q : List (Bytes × Bytes)}
    (hrs : s.rs = .headers) (hdev : s.tcp.devOpen = true)
    (hreq : breakOn CRLF2 (s.readBuffer ++ s.tcp.inbox) = some (head, []))
    (hparse : Parser.parseRequestHeaders head s.reqHeaders = some rh)
    (hurl : env.url rh.rawPath = some (p, q))
    (hcl : HeaderMap.contains Sock.CONTENT_LENGTH rh.headers = false) :
    onReadyRead env (app fe) s =
      (match (hpResult env fe s rh p q).rs with
       | .data => readDataSlot env (app fe) (hpResult env fe s rh p q)
       | .finished => { hpResult env fe s rh p q with readBuffer := [] }
       | .headers => hpResult env fe s rh p q) := by
  -- with the fixed fields replaced by their values, `simp` cannot rewrite inside `hrd`'s socket
  rcases s with ⟨⟨inbox, wire, unacked, devOpen, conn⟩, readBuffer, qio, rs, method, rawPath, path, query,
    reqHeaders, dataRead, total, ws, code, reason, respHeaders, hdrRemaining, ioOpen, initPending,
    closeCalled, dcFlag, delPending, alive, log⟩
  simp only at hrs hdev hreq hparse
  subst hrs hdev
  generalize hs : (Sock.mk ⟨inbox, wire, unacked, true, conn⟩ readBuffer qio .headers method rawPath path query
    reqHeaders dataRead total ws code reason respHeaders hdrRemaining ioOpen initPending closeCalled dcFlag
    delPending alive log) = s
  have hrd := readHeaders_ok env (app fe)
    { s with readBuffer := s.readBuffer ++ s.tcp.inbox, tcp := { s.tcp with inbox := [] } }
    (rest := []) (by rw [← hs]; exact hreq) (by rw [← hs]; exact hparse) hurl
  have hst : hpState
      { s with readBuffer := s.readBuffer ++ s.tcp.inbox, tcp := { s.tcp with inbox := [] } } rh p q [] =
      { hpSock s rh p q with log := s.log } := by
    unfold hpState
    simp only [Sock.CONTENT_LENGTH_KEY, hcl]
    rfl
  rw [hst] at hrd
  have hemit : emit env (app fe) { hpSock s rh p q with log := s.log } .hp
      ((app fe).onHp { hpSock s rh p q with log := s.log }) = hpResult env fe s rh p q := by
    unfold emit hpResult
    rw [show (app fe).onHp { hpSock s rh p q with log := s.log } = hpOps fe (hpSock s rh p q) from
      (plan_sock_congr fe rfl rfl).1]
    rfl
  rw [hemit] at hrd
  subst hs
  unfold onReadyRead
  simp only [reduceCtorEq, if_false, if_true]
  rw [hrd]
  rfl

/-- a live, open connection on which nothing has been read or answered yet -/
structure Fresh (s : Sock) : Prop where
  alive : s.alive = true
  dcFlag : s.dcFlag = false
  delPending : s.delPending = false
  rs : s.rs = .headers
  readBuffer : s.readBuffer = []
  inbox : s.tcp.inbox = []
  reqHeaders : s.reqHeaders = []
  total : s.total = -1
  ioOpen : s.ioOpen = true
  ws : s.ws = .none
  devOpen : s.tcp.devOpen = true
  conn : s.tcp.conn = .connected
  code : s.code = 200
  reason : s.reason = lit ['O','K']
  respHeaders : s.respHeaders = []
  logOpen : C03L.LogOpen s.log
  noWrite : C03L.chunks s.log = []

/-- `req` is one whole request: a head the socket accepts as `rh`, `p`, `q`, without Content-Length,
    and nothing after the blank line -/
structure Whole (env : Env) (req head : Bytes) (rh : Parser.ReqHead) (p : Bytes)
    (q : List (Bytes × Bytes)) : Prop where
  brk : breakOn CRLF2 req = some (head, [])
  parse : Parser.parseRequestHeaders head [] = some rh
  url : env.url rh.rawPath = some (p, q)
  noLength : HeaderMap.contains Sock.CONTENT_LENGTH rh.headers = false

theorem feed_fresh (env : Env) (fe : FsEnv) {st : FsHandler.St} {req head : Bytes} {rh : Parser.ReqHead}
    {p : Bytes} {q : List (Bytes × Bytes)} (h : Fresh st.sock)
    (hq : Whole env req head rh p q) :
    FsHandler.step env fe st (.feed req) =
      afterRoute fe (Obs.countP Obs.isHp st.sock.log)
        { st with sock :=
            (match (hpResult env fe (fedIn st.sock req) rh p q).rs with
             | .data => readDataSlot env (app fe) (hpResult env fe (fedIn st.sock req) rh p q)
             | .finished => { hpResult env fe (fedIn st.sock req) rh p q with readBuffer := [] }
             | .headers => hpResult env fe (fedIn st.sock req) rh p q) } := by
  rw [step_feed env fe st req h.alive, onReadyRead_hp env fe (s := fedIn st.sock req) h.rs h.devOpen
    (by show breakOn CRLF2 (st.sock.readBuffer ++ (st.sock.tcp.inbox ++ req)) = _
        rw [h.readBuffer, h.inbox]; exact hq.brk)
    (by show Parser.parseRequestHeaders head st.sock.reqHeaders = _
        rw [h.reqHeaders]; exact hq.parse) hq.url hq.noLength]

theorem hp_counted (l : List Obs) (o : Obs) (l' : List Obs) :
    Obs.countP Obs.isHp l < Obs.countP Obs.isHp (l ++ o :: Obs.hp :: l') := by
  simp only [Obs.countP, List.filter_append, List.length_append, List.filter_cons]
  have : Obs.isHp Obs.hp = true := rfl
  rw [this, if_pos rfl]
  split <;> simp only [List.length_cons] <;> omega

theorem afterRoute_some {fe : FsEnv} {n : Nat} {st : FsHandler.St} {cfg : Copier.Cfg}
    (hr : st.routed = false) (hn : n < Obs.countP Obs.isHp st.sock.log)
    (hc : copierCfg fe st.sock = some cfg) :
    afterRoute fe n st = { st with routed := true, cop := some (cfg, Copier.start cfg {}) } := by
  unfold afterRoute
  rw [if_pos (by simp [hr, hn]), hc]

theorem afterRoute_none {fe : FsEnv} {n : Nat} {st : FsHandler.St}
    (hr : st.routed = false) (hn : n < Obs.countP Obs.isHp st.sock.log)
    (hc : copierCfg fe st.sock = none) :
    afterRoute fe n st = { st with routed := true } := by
  unfold afterRoute
  rw [if_pos (by simp [hr, hn]), hc]

theorem readDataSlot_idle (env : Env) (app : App) (s : Sock) (ht : s.total = -1)
    (hrb : s.readBuffer = []) : readDataSlot env app s = s := by
  unfold readDataSlot
  simp [ht, hrb]

/-- what `processFile` sets up; 65536 is `DefaultBufferSize` of qiodevicecopier.cpp, which it leaves
    as it is (no `setBufferSize`) -/
def fileCfg (fe : FsEnv) (loc : List Bytes) (r : Range) : Copier.Cfg :=
  { src := fe.content loc, block := 65536,
    range := if r.isValid then some (r.absFrom, r.absTo) else none }

theorem copierCfg_file {fe : FsEnv} {s : Sock} {loc : List Bytes} {r : Range}
    (hp : plan fe (s.path.drop 1) s.reqHeaders = .file loc r) :
    copierCfg fe s = some (fileCfg fe loc r) := by
  unfold copierCfg fileCfg
  rw [hp]

/-- the socket after the `feed` event -/
def fedSock (s : Sock) (req : Bytes) (rh : Parser.ReqHead) (p : Bytes) (q : List (Bytes × Bytes))
    (r : Range) (size : Nat) (mime : Bytes) : Sock :=
  writeHeaders (respState (hpSock (fedIn s req) rh p q) r size mime)

def respHead (r : Range) (size : Nat) (mime : Bytes) : Bytes :=
  headBytes (respState ({} : Sock) r size mime)

theorem fedSock_eq {s : Sock} (h : Fresh s) (req : Bytes) (rh : Parser.ReqHead) (p : Bytes)
    (q : List (Bytes × Bytes)) (r : Range) (size : Nat) (mime : Bytes) :
    fedSock s req rh p q r size mime =
      { s with
          tcp := { s.tcp with inbox := [], wire := s.tcp.wire ++ respHead r size mime,
                              unacked := s.tcp.unacked + (respHead r size mime).length },
          readBuffer := [], rs := .data, method := rh.method, rawPath := rh.rawPath, path := p,
          query := q.foldl (fun m e => Sock.qmInsert e.1 e.2 m) s.query, reqHeaders := rh.headers,
          code := if r.isValid then 206 else 200,
          reason := if r.isValid then statusReason 206 else lit ['O','K'],
          respHeaders := respHdrs r size mime,
          ws := .headers, hdrRemaining := (respHead r size mime).length,
          log := s.log ++ [Obs.ev (Obs.countP isEv s.log), Obs.hp, Obs.w (respHead r size mime)] } := by
  have hH : headBytes (respState (hpSock (fedIn s req) rh p q) r size mime) = respHead r size mime := by
    unfold respHead headBytes respState
    simp only [hpSock, fedIn, h.code, h.reason]
  unfold fedSock
  rw [writeHeaders_eq (by exact h.devOpen) (by exact h.conn), hH]
  simp only [respState, hpSock, fedIn, h.code, h.reason, List.append_assoc, List.cons_append,
    List.nil_append]

theorem feed_file (env : Env) (fe : FsEnv) {st : FsHandler.St} {req head : Bytes} {rh : Parser.ReqHead}
    {p : Bytes} {q : List (Bytes × Bytes)} {loc : List Bytes} {r : Range} (h : Fresh st.sock)
    (hr : st.routed = false)
    (hq : Whole env req head rh p q)
    (hplan : plan fe (p.drop 1) rh.headers = .file loc r) :
    FsHandler.step env fe st (.feed req) =
      { st with sock := fedSock st.sock req rh p q r (fe.content loc).length (fe.mime loc),
                routed := true,
                cop := some (fileCfg fe loc r, Copier.start (fileCfg fe loc r) {}) } := by
  have hres : hpResult env fe (fedIn st.sock req) rh p q =
      fedSock st.sock req rh p q r (fe.content loc).length (fe.mime loc) := by
    unfold hpResult
    rw [hpOps_file (by exact hplan)]
    exact apis_fileOps env (app fe) (s := hpSock (fedIn st.sock req) rh p q) h.alive h.dcFlag h.devOpen
      h.conn h.respHeaders r _ _
  rw [feed_fresh env fe h hq, hres, fedSock_eq h]
  simp only []
  rw [readDataSlot_idle env _ _ (by exact h.total) rfl]
  exact afterRoute_some hr (hp_counted _ _ _) (copierCfg_file (by exact hplan))

/-- the bytes the copier is asked for -/
def bodyOf (fe : FsEnv) (loc : List Bytes) (r : Range) : Bytes :=
  if r.isValid then ((fe.content loc).drop r.absFrom.toNat).take (r.absTo.toNat - r.absFrom.toNat + 1)
  else fe.content loc

open Copier C14L in
/-- a fault-free random-access copy that fits one block ends in its first turn -/
theorem one_block_copy (c : Copier.Cfg) (hseq : c.seq = false) (hnf : anyFault c = false)
    (h0 : c.prePos = 0) (hok : rangeOK c = true) (hb : c.src.length ≤ c.block) :
    (Copier.start c {}).log = [] ∧
    (Copier.step c (Copier.start c {}) .turn).log = wr (wanted c) ++ [Copier.fin] ∧
    (Copier.step c (Copier.start c {}) .turn).pending = .none := by
  have hNF := rangeNF_of_ok c hok
  obtain ⟨hle, hw⟩ := hNF.slice
  obtain ⟨hn, hdone⟩ := block_last c hNF (f0 c) hle (by have := endPos_le c; omega)
  simp only [anyFault, Bool.or_eq_false_iff] at hnf
  obtain ⟨⟨⟨⟨h1, h2⟩, h3⟩, h4⟩, h5⟩ := hnf
  have hst : Copier.start c {} = { pos := f0 c, connected := true, pending := .nextBlock } := by
    rw [start_eq, startFails_nonseq c hseq hNF, h1, h2, h3]
    simp only [Bool.and_false, Bool.or_false, Bool.false_eq_true, if_false, hseq, seekNeeded,
      Bool.not_false, Bool.and_true, f0, firstPos, h0]
    by_cases hp : rangeFrom c > 0 <;> simp [hp]
  have hr : c.readFailAt = none := by cases h : c.readFailAt <;> simp_all
  have hwf : c.writeFailAt = none := by cases h : c.writeFailAt <;> simp_all
  have hd : nbD c (f0 c) = wanted c := by
    rw [nbD, nbData, hn, Int.toNat_natCast, List.take_take, hw, Nat.min_eq_left (by have := endPos_le c; omega)]
  have hnb : Copier.step c { pos := f0 c, connected := true, pending := .nextBlock } .turn =
      { pos := nbPos c (f0 c), connected := true, reads := 1, writes := 1,
        log := wr (wanted c) ++ [Copier.fin] } := by
    show nextBlock c { pos := f0 c, connected := true, pending := .none } = _
    rw [nextBlock_eq c _ rfl]
    have hnn : ¬ (((endPos c - f0 c : Nat) : Int) < 0) := by omega
    simp [hr, hwf, wfail, hn, hnn, hdone, hd]
  rw [hst, hnb]
  exact ⟨rfl, rfl, rfl⟩

theorem bodyOf_eq_wanted (fe : FsEnv) (loc : List Bytes) (r : Range)
    (hr : r.isValid = true → 0 ≤ r.absFrom ∧ r.absFrom ≤ r.absTo ∧ r.absTo < (fe.content loc).length) :
    C14L.rangeOK (fileCfg fe loc r) = true ∧ C14L.wanted (fileCfg fe loc r) = bodyOf fe loc r := by
  have hok := C14.rangeOK_fresh (fileCfg fe loc r) rfl
  have hw := C14.wanted_fresh (fileCfg fe loc r) rfl
  have hsrc : (fileCfg fe loc r).src = fe.content loc := rfl
  rw [hsrc] at hok hw
  unfold bodyOf
  by_cases hv : r.isValid = true
  · obtain ⟨h0, h1, h2⟩ := hr hv
    have hrange : (fileCfg fe loc r).range = some (r.absFrom, r.absTo) := by simp [fileCfg, hv]
    rw [hrange] at hok hw
    refine ⟨hok.trans (by simp; omega), hw.trans ?_⟩
    simp only []
    rw [if_neg (by omega), if_neg (by omega), if_neg (by omega), if_pos hv]
    have : r.absTo.toNat + 1 - r.absFrom.toNat = r.absTo.toNat - r.absFrom.toNat + 1 := by omega
    rw [this]
  · have hrange : (fileCfg fe loc r).range = none := by simp [fileCfg, hv]
    rw [hrange] at hok hw
    rw [if_neg hv]
    exact ⟨hok, hw⟩

theorem copier_turn (fe : FsEnv) (loc : List Bytes) (r : Range)
    (hsize : (fe.content loc).length ≤ 65536)
    (hr : r.isValid = true → 0 ≤ r.absFrom ∧ r.absFrom ≤ r.absTo ∧ r.absTo < (fe.content loc).length) :
    (Copier.start (fileCfg fe loc r) {}).log = [] ∧
    (Copier.step (fileCfg fe loc r) (Copier.start (fileCfg fe loc r) {}) .turn).log =
      (if (bodyOf fe loc r).isEmpty then [] else [Copier.wrote (bodyOf fe loc r)]) ++ [Copier.fin] ∧
    (Copier.step (fileCfg fe loc r) (Copier.start (fileCfg fe loc r) {}) .turn).pending = .none := by
  obtain ⟨hok, hw⟩ := bodyOf_eq_wanted fe loc r hr
  rw [← hw]
  exact one_block_copy (fileCfg fe loc r) rfl rfl rfl hok hsize

theorem relay_nil (env : Env) (app : App) (s : Sock) : relay env app s [] = s := rfl
theorem relay_wrote (env : Env) (app : App) (s : Sock) (d : Bytes) (rest : List Obs) :
    relay env app s (Copier.wrote d :: rest) = relay env app (api env app s (.write d)) rest := rfl
theorem relay_fin (env : Env) (app : App) (s : Sock) (rest : List Obs) :
    relay env app s (Copier.fin :: rest) = relay env app (api env app s .close) rest := rfl

theorem relay_block (env : Env) (app : App) {s : Sock} (ha : s.alive = true) (hd : s.dcFlag = false)
    (hio : s.ioOpen = true) (hws : s.ws ≠ .none) (hdev : s.tcp.devOpen = true)
    (hc : s.tcp.conn = .connected) (hu : s.tcp.unacked ≠ 0) (body : Bytes) :
    relay env app s ((if body.isEmpty then [] else [Copier.wrote body]) ++ [Copier.fin]) =
      finished s body := by
  by_cases hb : body.isEmpty = true
  · have : body = [] := List.isEmpty_iff.1 hb
    subst this
    rw [if_pos hb, List.nil_append, relay_fin, relay_nil, ← Sock.tcpWrite_nil s,
      api_close env app ha hd hdev hc hu, Sock.tcpWrite_nil]
  · rw [if_neg hb, List.cons_append, List.nil_append, relay_wrote, api_write env app ha hd hio hws,
      relay_fin, relay_nil, api_close env app ha hd hdev hc hu]

theorem onReadyRead_data_idle (env : Env) (app : App) (s : Sock) (hrs : s.rs = .data)
    (hrb : s.readBuffer = []) (hin : s.tcp.inbox = []) (ht : s.total = -1) :
    onReadyRead env app s = s := by
  -- with the fixed fields replaced by their values the `if`s of `onReadyRead` evaluate
  rcases s with ⟨⟨inbox, wire, unacked, devOpen, conn⟩, readBuffer, qio, rs, method, rawPath, path, query,
    reqHeaders, dataRead, total, ws, code, reason, respHeaders, hdrRemaining, ioOpen, initPending,
    closeCalled, dcFlag, delPending, alive, log⟩
  simp only at hrs hrb hin ht
  subst hrs hrb hin ht
  cases devOpen <;> simp [onReadyRead, readDataSlot]

/-- the socket at the start of a turn: marker recorded, the queued initial read (idle) done -/
def turnSock (s : Sock) : Sock :=
  { s with initPending := false, log := s.log ++ [Obs.ev (Obs.countP isEv s.log)] }

/-- deferred deletion -/
def delStep (s : Sock) : Sock := { s with alive := false, delPending := false, log := s.log ++ [Obs.del] }

/-- a turn once the request is routed and the queued read is idle: the copier's turn is relayed,
    then deferred deletion -/
theorem turn_eq (env : Env) (fe : FsEnv) (sock : Sock) (cop : Option (Copier.Cfg × Copier.St))
    (ha : sock.alive = true)
    (hidle : onReadyRead env (app fe) (turnSock sock) = turnSock sock) :
    FsHandler.turn env fe { sock := sock, cop := cop, routed := true } =
      (match cop with
       | some (cfg, cs) =>
         let s2 := relay env (app fe) (turnSock sock) ((Copier.step cfg cs .turn).log.drop cs.log.length)
         { sock := if s2.delPending then delStep s2 else s2,
           cop := some (cfg, Copier.step cfg cs .turn), routed := true }
       | none =>
         { sock := if (turnSock sock).delPending then delStep (turnSock sock) else turnSock sock,
           cop := none, routed := true }) := by
  unfold FsHandler.turn
  simp only []
  rw [if_neg (by simp [ha])]
  simp only [Bool.not_true, Bool.false_eq_true, if_false, afterRoute, Bool.false_and]
  generalize hk : Obs.countP _ sock.log = k
  have hk' : k = Obs.countP isEv sock.log := by rw [← hk]; rfl
  subst hk'
  have e : (if sock.initPending = true then
        onReadyRead env (app fe)
          { sock with log := sock.log ++ [Obs.ev (Obs.countP isEv sock.log)], initPending := false }
      else { sock with log := sock.log ++ [Obs.ev (Obs.countP isEv sock.log)] }) = turnSock sock := by
    by_cases hi : sock.initPending = true
    · rw [if_pos hi]; exact hidle
    · rw [if_neg hi]
      have : sock.initPending = false := by simpa using hi
      unfold turnSock
      rw [← this]
  rw [e]
  cases cop with
  | none => rfl
  | some cc => rfl

theorem respHead_ne_nil (r : Range) (size : Nat) (mime : Bytes) : respHead r size mime ≠ [] :=
  Sock.headBytes_ne_nil _

theorem turn_file (env : Env) (fe : FsEnv) {s : Sock} (h : Fresh s) (req : Bytes) (rh : Parser.ReqHead)
    (p : Bytes) (q : List (Bytes × Bytes)) (r : Range) (size : Nat) (mime body : Bytes)
    (cfg : Copier.Cfg) (cs0 : Copier.St) (hl0 : cs0.log = [])
    (hl1 : (Copier.step cfg cs0 .turn).log =
      (if body.isEmpty then [] else [Copier.wrote body]) ++ [Copier.fin]) :
    FsHandler.turn env fe { sock := fedSock s req rh p q r size mime, cop := some (cfg, cs0), routed := true } =
      { sock := finished (turnSock (fedSock s req rh p q r size mime)) body,
        cop := some (cfg, Copier.step cfg cs0 .turn), routed := true } := by
  have hu : s.tcp.unacked + (respHead r size mime).length ≠ 0 := by
    have := respHead_ne_nil r size mime
    cases hH : respHead r size mime with
    | nil => exact absurd hH this
    | cons x l => simp
  rw [fedSock_eq h, turn_eq env fe _ _ (by exact h.alive)
    (onReadyRead_data_idle env _ _ rfl rfl rfl (by exact h.total))]
  simp only [hl0, hl1, List.length_nil, List.drop_zero]
  rw [relay_block env (app fe) (by exact h.alive) (by exact h.dcFlag) (by exact h.ioOpen)
    (by intro e; cases e) (by exact h.devOpen) (by exact h.conn) (by exact hu) body,
    if_neg (by show ¬ s.delPending = true; simp [h.delPending])]

theorem headLog {l : List Obs} (hl : C03L.LogOpen l) (hn : C03L.chunks l = []) (k : Nat) (H : Bytes) :
    C03L.LogOpen (l ++ [Obs.ev k, Obs.hp, Obs.w H]) ∧
    (C03L.chunks (l ++ [Obs.ev k, Obs.hp, Obs.w H])).flatten = H := by
  constructor
  · intro o ho
    simp only [List.mem_append, List.mem_cons, List.not_mem_nil, or_false] at ho
    rcases ho with ho | rfl | rfl | rfl
    · exact hl o ho
    all_goals rfl
  · rw [C03L.chunks_append, hn]
    simp [C03L.chunks]

theorem fedSock_finished {s : Sock} (h : Fresh s) (req : Bytes) (rh : Parser.ReqHead)
    (p : Bytes) (q : List (Bytes × Bytes)) (r : Range) (size : Nat) (mime body : Bytes) :
    C03L.Shut (finished (turnSock (fedSock s req rh p q r size mime)) body) ∧
    (C03L.chunks (finished (turnSock (fedSock s req rh p q r size mime)) body).log).flatten =
      respHead r size mime ++ body := by
  obtain ⟨hlo, hch⟩ := headLog h.logOpen h.noWrite (Obs.countP isEv s.log) (respHead r size mime)
  rw [finished_chunks, fedSock_eq h]
  constructor
  · exact finished_shut (by exact h.dcFlag) rfl rfl (hlo.snoc rfl) body
  · show (C03L.chunks ((s.log ++ [_, _, _]) ++ [_])).flatten ++ body = _
    rw [C03L.chunks_ev, hch]

structure TInv (W : List Bytes) (st : FsHandler.St) : Prop where
  shut : C03L.Shut st.sock
  routed : st.routed = true
  cop : ∀ cfg cs, st.cop = some (cfg, cs) → cs.pending = .none
  chunks : C03L.chunks st.sock.log = W

theorem quietApp_fs (fe : FsEnv) : C03L.QuietApp (app fe) :=
  C03L.quietApp_of_nil fun _ => ⟨rfl, rfl⟩

theorem turn_dead (env : Env) (fe : FsEnv) (st : FsHandler.St) (ha : st.sock.alive = false) :
    FsHandler.turn env fe st = st := by
  unfold FsHandler.turn
  simp only []
  rw [if_pos (by simp [ha])]

theorem copier_idle (cfg : Copier.Cfg) (cs : Copier.St) (h : cs.pending = .none) :
    Copier.step cfg cs .turn = cs := by
  simp [Copier.step, h]

theorem tinv_step (env : Env) (fe : FsEnv) {W : List Bytes} {st : FsHandler.St} (h : TInv W st)
    {e : Event} (he : C03L.allowedEv e = true) : TInv W (FsHandler.step env fe st e) := by
  obtain ⟨sock, cop, routed⟩ := st
  obtain ⟨hs, hr, hcop, hw⟩ := h
  simp only at hs hr hcop hw
  subst hr
  by_cases hturn : e = .turn
  · subst hturn
    rw [step_turn]
    by_cases ha : sock.alive = true
    · have hidle : onReadyRead env (app fe) (turnSock sock) = turnSock sock :=
        C03L.onReadyRead_idle env (app fe) _ hs.rb hs.inbox hs.rs
      have hs1 : C03L.Shut (turnSock sock) :=
        hs.of_eq rfl hs.rs (hs.logShut.snoc rfl)
      have hw1 : C03L.chunks (turnSock sock).log = W := by
        show C03L.chunks (sock.log ++ [Obs.ev _]) = W
        rw [C03L.chunks_ev]; exact hw
      -- whether or not the deferred deletion runs
      have hdel : C03L.Shut (if (turnSock sock).delPending then delStep (turnSock sock) else turnSock sock) ∧
          C03L.chunks (if (turnSock sock).delPending then delStep (turnSock sock) else turnSock sock).log = W := by
        split
        · refine ⟨hs1.of_eq rfl hs1.rs (hs1.logShut.snoc rfl), ?_⟩
          show C03L.chunks ((turnSock sock).log ++ [Obs.del]) = W
          rw [C03L.chunks_append, hw1]; simp [C03L.chunks]
        · exact ⟨hs1, hw1⟩
      rw [turn_eq env fe sock cop ha hidle]
      cases cop with
      | none => exact ⟨hdel.1, rfl, fun _ _ h => (by cases h), hdel.2⟩
      | some cc =>
        obtain ⟨cfg, cs⟩ := cc
        simp only [copier_idle cfg cs (hcop cfg cs rfl), List.drop_length, relay_nil]
        exact ⟨hdel.1, rfl, hcop, hdel.2⟩
    · have ha' : sock.alive = false := by simpa using ha
      rw [turn_dead env fe _ ha']
      exact ⟨hs, rfl, hcop, hw⟩
  · rw [step_nonturn env fe _ e hturn]
    obtain ⟨h1, h2, _⟩ := C03L.shut_stepK (quietApp_fs fe) env (Obs.countP isEv sock.log) hs he
    unfold afterRoute
    simp only [Bool.not_true, Bool.false_and, Bool.false_eq_true, if_false]
    exact ⟨h1, rfl, hcop, by rw [h2]; exact hw⟩

theorem tinv_foldl (env : Env) (fe : FsEnv) {W : List Bytes} (tail : List Event)
    (ht : tail.all C03L.allowedEv = true) :
    ∀ {st : FsHandler.St}, TInv W st → TInv W (tail.foldl (FsHandler.step env fe) st) := by
  induction tail with
  | nil => intro st h; exact h
  | cons e tail ih =>
    intro st h
    rw [List.all_cons, Bool.and_eq_true] at ht
    exact ih ht.2 (tinv_step env fe h ht.1)

/-- after the transport was closed nothing more reaches the wire -/
theorem wire_of_shut (env : Env) (fe : FsEnv) {st : FsHandler.St} {w : Bytes} (tail : List Event)
    (ht : tail.all C03L.allowedEv = true) (hs : C03L.Shut st.sock) (hr : st.routed = true)
    (hcop : ∀ cfg cs, st.cop = some (cfg, cs) → cs.pending = .none)
    (hw : (C03L.chunks st.sock.log).flatten = w) :
    Obs.wire (tail.foldl (FsHandler.step env fe) st).sock.log = w := by
  rw [C03L.wire_eq_chunks, (tinv_foldl env fe tail ht ⟨hs, hr, hcop, rfl⟩).chunks, hw]

/-- the state of the harness after `new` -/
def s0 : FsHandler.St := { sock := { ({} : Sock) with log := [Obs.ev 0], initPending := true } }

theorem step_new (env : Env) (fe : FsEnv) : FsHandler.step env fe {} .new = s0 := rfl

theorem fresh_s0 : Fresh s0.sock :=
  ⟨rfl, rfl, rfl, rfl, rfl, rfl, rfl, rfl, rfl, rfl, rfl, rfl, rfl, rfl, rfl,
    fun o ho => by rw [List.mem_singleton.1 ho]; rfl, rfl⟩

/-- a whole request for a file of at most one copier block, a turn, then any acknowledgements and
    turns: the wire carries the head and exactly the requested bytes -/
theorem run_wire (env : Env) (fe : FsEnv) (req head : Bytes) (rh : Parser.ReqHead)
    (p : Bytes) (q : List (Bytes × Bytes)) (loc : List Bytes) (r : Range) (tail : List Event)
    (hq : Whole env req head rh p q)
    (hplan : plan fe (p.drop 1) rh.headers = .file loc r)
    (hsize : (fe.content loc).length ≤ 65536)
    (hr : r.isValid = true → 0 ≤ r.absFrom ∧ r.absFrom ≤ r.absTo ∧ r.absTo < (fe.content loc).length)
    (ht : tail.all C03L.allowedEv = true) :
    Obs.wire (FsHandler.run env fe (.new :: .feed req :: .turn :: tail)).sock.log =
      respHead r (fe.content loc).length (fe.mime loc) ++ bodyOf fe loc r := by
  obtain ⟨hl0, hl1, hpend⟩ := copier_turn fe loc r hsize hr
  obtain ⟨hshut, hw⟩ := fedSock_finished fresh_s0 req rh p q r (fe.content loc).length (fe.mime loc)
    (bodyOf fe loc r)
  unfold FsHandler.run
  rw [List.foldl_cons, step_new, List.foldl_cons,
    feed_file env fe fresh_s0 rfl hq hplan, List.foldl_cons]
  rw [step_turn, turn_file env fe fresh_s0 req rh p q r _ _ (bodyOf fe loc r) _ _ hl0 hl1]
  exact wire_of_shut env fe tail ht hshut rfl (fun _ _ h => by cases h; exact hpend) hw

end C08L
end Qhttp
