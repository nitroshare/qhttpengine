import Qhttp.Model.FsHandler
import Qhttp.Props.C16
import Qhttp.Lemmas.SplitChar
/-
  C08 helper lemmas: the first element of `split(',')`, the absolute bounds of a valid range in
  natural numbers, `intText` of a natural number.
-/
namespace Qhttp
namespace C08L

/-- the first element of `QByteArray::split(c)`: everything before the first `c` -/
def firstElem (c : UInt8) (x : Bytes) : Bytes :=
  match breakOn [c] x with | some (a, _) => a | none => x

theorem splitChar_first (c : UInt8) (x : Bytes) : ∃ rest, splitChar c x = firstElem c x :: rest := by
  rw [splitChar_eq]
  unfold firstElem
  cases breakOn [c] x with
  | none => exact ⟨[], rfl⟩
  | some p => exact ⟨_, rfl⟩

/-- the property's reading of a valid range with raw bounds in one of the three forms is its pair
    of absolute bounds -/
theorem spec_of_valid (f t : Int) (size : Nat) (ht : t ≥ -1) (hv : C16.specValid f t size = true) :
    (if f < 0 then some (((size : Int) + f).toNat, size - 1)
     else if t < 0 then some (f.toNat, size - 1) else some (f.toNat, t.toNat)) =
      some ((⟨f, t, size⟩ : Range).absFrom.toNat, (⟨f, t, size⟩ : Range).absTo.toNat) := by
  -- linear arithmetic after the case split on `f < 0`, `t < 0` (= `-1`), with `size ≥ 0` known
  simp only [C16.specValid] at hv
  simp only [Range.absFrom, Range.absTo]
  grind

theorem intText_nat (n : Nat) : intText (n : Int) = natDigits n := by
  unfold intText
  rw [if_neg (by omega)]
  simp

theorem intText_of_nonneg {i : Int} (h : 0 ≤ i) : intText i = natDigits i.toNat := by
  have : i = ((i.toNat : Nat) : Int) := by omega
  conv => lhs; rw [this]
  exact intText_nat _

end C08L
end Qhttp
