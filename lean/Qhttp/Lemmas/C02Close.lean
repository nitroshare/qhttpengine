import Qhttp.Lemmas.C02Run
/-
  C02 — the client leaves (`Event.peerClose`: the transport reports `readChannelFinished` and
  `disconnected`) before, at, or after the end of the declared body.

  `NoCl` holds along every run of a reader, whatever the head is; the step `peerClose` preserves
  `RInv` once the head has been parsed (`total ≠ -1`: the transport's `readChannelFinished` is not
  forwarded), which gives the invariant at every point of a run of the closing shape (`closing_inv`).
-/
namespace Qhttp.C02
open Qhttp

/-- `closeCalled` is set only by `Socket::close`, which also closes the device for good.  Needed
    where the peer leaves: `emitDc` does `delPending ||= closeCalled`, and `Mid` wants `delPending` down. -/
def NoCl (s : Sock) : Prop := s.ioOpen = true → s.closeCalled = false

theorem NoCl.of_closed {s' : Sock} (h : s'.ioOpen = false) : NoCl s' := by
  intro h'; rw [h] at h'; exact absurd h' (by simp)

def SameCl (s s' : Sock) : Prop := s'.closeCalled = s.closeCalled ∧ s'.ioOpen = s.ioOpen

theorem SameCl.refl (s : Sock) : SameCl s s := ⟨rfl, rfl⟩
theorem SameCl.trans {s1 s2 s3 : Sock} (h1 : SameCl s1 s2) (h2 : SameCl s2 s3) : SameCl s1 s3 :=
  ⟨h2.1.trans h1.1, h2.2.trans h1.2⟩
theorem NoCl.same {s s' : Sock} (h : NoCl s) (c : SameCl s s') : NoCl s' := by
  unfold NoCl at *; rw [c.1, c.2]; exact h

theorem apiPrim_sameCl (env : Env) (s : Sock) (op : ApiOp) (hop : readerOp op = true) :
    SameCl s (Sock.apiPrim env s op) := by
  obtain ⟨q, b, d, l, e⟩ := apiPrim_reader env s op hop
  rw [e]; exact ⟨rfl, rfl⟩

theorem foldl_sameCl {f : Sock → ApiOp → Sock} (hf : ∀ s op, readerOp op = true → SameCl s (f s op))
    {ops : List ApiOp} (hops : ReaderOps ops) (s : Sock) : SameCl s (ops.foldl f s) :=
  Sock.foldl_closed (P := SameCl s) (f := f) (fun hop h => h.trans (hf _ _ hop)) ops
    (List.all_eq_true.mpr (readerOp_of_ops hops)) (SameCl.refl s)

theorem emitDc_sameCl (env : Env) (app : App) (happ : ReaderApp app) (s : Sock) :
    SameCl s (Sock.emitDc env app s) := by
  rw [Sock.emitDc_eq]
  exact foldl_sameCl (apiPrim_sameCl env) (happ.dc _) { s with dcFlag := false, log := s.log ++ [Obs.dc] }

theorem api_sameCl (env : Env) (app : App) (happ : ReaderApp app) (s : Sock) (op : ApiOp)
    (hop : readerOp op = true) : SameCl s (Sock.api env app s op) := by
  unfold Sock.api
  have h1 := apiPrim_sameCl env s op hop
  simp only []
  split
  · exact h1.trans (emitDc_sameCl env app happ _)
  · exact h1

theorem emit_sameCl (env : Env) (app : App) (happ : ReaderApp app) (s : Sock) (o : Obs)
    (ops : List ApiOp) (hops : ReaderOps ops) : SameCl s (Sock.emit env app s o ops) :=
  foldl_sameCl (api_sameCl env app happ) hops { s with log := s.log ++ [o] }

theorem readDataSlot_sameCl (env : Env) (app : App) (happ : ReaderApp app) (s : Sock) :
    SameCl s (Sock.readDataSlot env app s) := by
  rw [readDataSlot_eq]
  have c1 : SameCl s (cutS s) := by unfold cutS; split <;> exact ⟨rfl, rfl⟩
  have c2 : SameCl (cutS s) (rrS env app (cutS s)) := by
    unfold rrS; split
    · exact emit_sameCl env app happ _ _ _ (happ.rr _)
    · exact SameCl.refl _
  have c3 : SameCl (rrS env app (cutS s)) (finS env app (rrS env app (cutS s))) := by
    unfold finS; split
    · have := emit_sameCl env app happ { rrS env app (cutS s) with rs := .finished } .rcf
        (app.onRcf { rrS env app (cutS s) with rs := .finished }) (happ.rcf _)
      exact ⟨this.1, this.2⟩
    · exact SameCl.refl _
  exact (c1.trans c2).trans c3

theorem writeError_ioOpen (env : Env) (s : Sock) (c : Int) (r : Option Bytes) :
    (Sock.writeError env s c r).ioOpen = false := by
  unfold Sock.writeError Sock.close
  exact Sock.tcpClose_cases (P := fun s' => s'.ioOpen = false) _ (fun _ => rfl) (fun _ _ _ => rfl)
    (fun _ _ _ => rfl) (fun _ _ => rfl)

theorem readHeaders_noCl (env : Env) (app : App) (happ : ReaderApp app) (s : Sock) (h : NoCl s) :
    NoCl (Sock.readHeaders env app s).1 := by
  have bad : NoCl (if (Sock.writeError env s 400 none).dcFlag
      then Sock.emitDc env app (Sock.writeError env s 400 none) else Sock.writeError env s 400 none) := by
    split
    · exact NoCl.of_closed (by rw [(emitDc_sameCl env app happ _).2]; exact writeError_ioOpen env s 400 none)
    · exact NoCl.of_closed (writeError_ioOpen env s 400 none)
  unfold Sock.readHeaders
  split
  · exact h
  · simp only []
    split
    · exact bad
    · split
      · exact bad
      · refine h.same (SameCl.trans ?_ (emit_sameCl env app happ _ .hp _ (happ.hp _)))
        split <;> exact ⟨rfl, rfl⟩

theorem onReadyRead_noCl (env : Env) (app : App) (happ : ReaderApp app) (s : Sock) (h : NoCl s) :
    NoCl (Sock.onReadyRead env app s) := by
  rw [onReadyRead_eq]
  split
  · split
    · exact h.same ⟨rfl, rfl⟩
    · exact h
  · have h1 : NoCl (pullS s) := by unfold pullS; split; exact h.same ⟨rfl, rfl⟩; exact h
    generalize pullS s = s1 at h1
    unfold orrBody
    have h2 : NoCl (if s1.rs = .headers then Sock.readHeaders env app s1 else (s1, true)).1 := by
      split
      · exact readHeaders_noCl env app happ s1 h1
      · exact h1
    generalize (if s1.rs = .headers then Sock.readHeaders env app s1 else (s1, true)) = r at h2
    simp only []
    split
    · exact h2
    · split
      · exact h2.same (readDataSlot_sameCl env app happ _)
      · exact h2.same ⟨rfl, rfl⟩
      · exact h2

def clEvent (e : Event) : Bool := okEvent e || (match e with | .peerClose => true | _ => false)

theorem step_noCl (env : Env) (app : App) (happ : ReaderApp app) (s : Sock) (e : Event)
    (he : clEvent e = true) (h : NoCl s) : NoCl (Sock.step env app s e) := by
  rcases Bool.eq_false_or_eq_true s.alive with ha | ha
  case inr => rw [Sock.step_dead env app e ha]; exact h
  cases e with
  | new => rw [Sock.step_new env app s ha]; exact h.same ⟨rfl, rfl⟩
  | feed seg => rw [Sock.step_feed env app s seg ha]; exact onReadyRead_noCl env app happ _ (h.same ⟨rfl, rfl⟩)
  | peerClose =>
    rw [Sock.step_peerClose env app s ha]
    split
    · exact h
    · refine NoCl.same ?_ (emitDc_sameCl env app happ _)
      unfold Sock.onReadChannelFinished
      split
      · exact (h.same ⟨rfl, rfl⟩).same (emit_sameCl env app happ _ .rcf _ (happ.rcf _))
      · exact h.same ⟨rfl, rfl⟩
  | turn =>
    rw [Sock.step_turn env app s ha]
    have h1 : NoCl (if s.initPending then Sock.onReadyRead env app { s with initPending := false } else s) := by
      split
      · exact onReadyRead_noCl env app happ _ (h.same ⟨rfl, rfl⟩)
      · exact h
    generalize (if s.initPending then Sock.onReadyRead env app { s with initPending := false } else s) = s1 at h1
    show NoCl (if _ then _ else _)
    split
    · exact h1.same ⟨rfl, rfl⟩
    · exact h1
  | api op =>
    rw [Sock.step_api env app op ha]
    exact h.same (api_sameCl env app happ s op ((Bool.or_false _).symm.trans ((Bool.or_false _).symm.trans he)))
  | _ => exact absurd he Bool.false_ne_true

theorem stepK_noCl (env : Env) (app : App) (happ : ReaderApp app) (sk : Sock × Nat) (e : Event)
    (he : clEvent e = true) (h : NoCl sk.1) : NoCl (Sock.stepK env app sk e).1 := by
  unfold Sock.stepK
  simp only []
  refine step_noCl env app happ _ e he ?_
  split
  · exact h
  · exact h.same ⟨rfl, rfl⟩

theorem run_noCl (env : Env) (app : App) (happ : ReaderApp app) (l : List Event)
    (hl : ∀ e ∈ l, clEvent e = true) : NoCl (Sock.run env app l) :=
  run_prefix_induct env app l (fun _ s => NoCl s) (fun _ => rfl) fun pre e post s hevs h =>
    stepK_noCl env app happ (s, pre.length) e (hl e (by rw [hevs]; simp)) h

variable {evs : List Event} {hl N fedLen : Nat} {head hb B : Bytes} {a : Option Nat} {s : Sock}

/-- `Mid` does not mention the connection state; `d1`, `d2` come with a proof so that any expression will do -/
theorem Mid.setConn (h : Mid evs hl N fedLen hb B a s) (c : Conn) (d1 d2 : Bool)
    (h1 : d1 = false) (h2 : d2 = false) :
    Mid evs hl N fedLen hb B a { s with tcp := { s.tcp with conn := c }, dcFlag := d1, delPending := d2 } :=
  { alive := h.alive, ioOpen := h.ioOpen, devOpen := h.devOpen,
    dcFlag := h1, delPending := h2,
    walk := h.walk, wst := h.wst, hp := h.hp, rcf := h.rcf, tc := h.tc, hdr := h.hdr, dat := h.dat }

theorem Mid.dc (h : Mid evs hl N fedLen hb B a s) :
    Mid evs hl N fedLen hb B none { s with log := s.log ++ [Obs.dc] } :=
  h.push_log Obs.dc rfl rfl (Nat.le_refl _) rfl rfl rfl rfl

theorem Mid.prims (env : Env) (ops : List ApiOp) (hops : ReaderOps ops) :
    ∀ s, Mid evs hl N fedLen hb B none s →
      Mid evs hl N fedLen hb B none (ops.foldl (Sock.apiPrim env) s) ∧
        SameCtl s (ops.foldl (Sock.apiPrim env) s) :=
  Mid.fold env (Sock.apiPrim env) (fun _ _ _ => rfl) ops hops

theorem Mid.emitDc (env : Env) (app : App) (happ : ReaderApp app) (h : Mid evs hl N fedLen hb B a s)
    (hcc : s.closeCalled = false) :
    Mid evs hl N fedLen hb B none (Sock.emitDc env app s) ∧ SameCtl s (Sock.emitDc env app s) := by
  have h1 : Mid evs hl N fedLen hb B none { s with dcFlag := false, log := s.log ++ [Obs.dc] } :=
    h.dc.setConn s.tcp.conn false s.delPending rfl h.delPending
  obtain ⟨h2, c2⟩ := Mid.prims env (app.onDc { s with dcFlag := false, log := s.log ++ [Obs.dc] })
    (happ.dc _) _ h1
  rw [Sock.emitDc_eq]
  generalize (app.onDc { s with dcFlag := false, log := s.log ++ [Obs.dc] }).foldl (Sock.apiPrim env)
    { s with dcFlag := false, log := s.log ++ [Obs.dc] } = s2 at h2 c2
  exact ⟨h2.setConn s2.tcp.conn false _ rfl (by rw [h2.delPending, hcc]; rfl), c2⟩

/-- the client leaves after the head has been parsed: `requestDataTotal` is not -1, so the transport's
    `readChannelFinished` is not forwarded; `disconnected` is, and the reaction to it can still read -/
theorem step_peerClose_inv (env : Env) (app : App) (happ : ReaderApp app) {fed : Bytes} (s1 : Sock)
    (hm1 : Mid evs (head.length + 4) N fed.length hb B none s1) (hin1 : s1.tcp.inbox = [])
    (hrel1 : Rel head N fed hb B s1) (hrs : s1.rs ≠ .headers) (hcc : s1.closeCalled = false) :
    RInv evs head N fed (Sock.step env app s1 .peerClose) := by
  rw [Sock.step_peerClose env app s1 hm1.alive]
  split
  · exact ⟨none, hb, B, hm1, hin1, hrel1⟩
  · have htot : s1.total ≠ -1 := by rw [(hm1.dat hrs).2.2.1]; omega
    have h2 : Mid evs (head.length + 4) N fed.length hb B none
        { s1 with tcp := { s1.tcp with conn := .unconnected } } := by
      have := hm1.setConn .unconnected s1.dcFlag s1.delPending hm1.dcFlag hm1.delPending
      exact this
    have e : Sock.onReadChannelFinished env app { s1 with tcp := { s1.tcp with conn := .unconnected } } =
        { s1 with tcp := { s1.tcp with conn := .unconnected } } := by
      unfold Sock.onReadChannelFinished
      rw [if_neg (by exact htot)]
    rw [e]
    obtain ⟨h3, c3⟩ := h2.emitDc env app happ (by exact hcc)
    refine ⟨none, hb, B, h3, ?_, hrel1.of_rs c3.1⟩
    rw [c3.2.1]; exact hin1

theorem stepK_peerClose_inv (env : Env) (app : App) (happ : ReaderApp app) {fed : Bytes} (k : Nat)
    (hk : evs[k]? = some .peerClose) (h : RInv evs head N fed s) (hrs : s.rs ≠ .headers)
    (hcc : s.closeCalled = false) :
    RInv evs head N fed (Sock.stepK env app (s, k) .peerClose).1 := by
  obtain ⟨a, hb, B, hm, hin, hrel⟩ := h
  have hm1 := hm.ev k
  rw [evLen_of k _ hk] at hm1
  rw [Sock.stepK_alive env app k _ hm.alive]
  exact step_peerClose_inv env app happ _ (by simpa [evBytesOf] using hm1) hin (hrel.of_rs rfl)
    (by exact hrs) (by exact hcc)

def idleEvent : Event → Bool
  | .turn => true | .api op => readerOp op | _ => false

def closingTail : List Event → Bool
  | [] => false
  | .peerClose :: post => post.all idleEvent
  | e :: rest => readerEvent e && closingTail rest

/-- the shape "the client leaves": `new :: pre ++ peerClose :: post` (`closingEvents_iff`) -/
def closingEvents : List Event → Bool
  | .new :: rest => closingTail rest
  | _ => false

theorem closingTail_cons {e : Event} (hpc : e ≠ .peerClose) (l : List Event) :
    closingTail (e :: l) = (readerEvent e && closingTail l) := by
  cases e <;> first | rfl | exact absurd rfl hpc

theorem closingTail_split {l : List Event} (h : closingTail l = true) :
    ∃ pre post, l = pre ++ .peerClose :: post ∧ (∀ e ∈ pre, readerEvent e = true) ∧
      (∀ e ∈ post, idleEvent e = true) := by
  induction l with
  | nil => exact absurd h Bool.false_ne_true
  | cons e l ih =>
    by_cases hpc : e = .peerClose
    · subst hpc
      exact ⟨[], l, rfl, fun _ hx => absurd hx List.not_mem_nil, List.all_eq_true.mp h⟩
    · rw [closingTail_cons hpc, Bool.and_eq_true] at h
      obtain ⟨pre, post, e1, e2, e3⟩ := ih h.2
      exact ⟨e :: pre, post, by rw [e1]; rfl, List.forall_mem_cons.mpr ⟨h.1, e2⟩, e3⟩

theorem closingTail_idle_after (pre post : List Event) (h : closingTail (pre ++ .peerClose :: post) = true) :
    ∀ e ∈ post, idleEvent e = true := by
  induction pre with
  | nil => exact List.all_eq_true.mp h
  | cons e pre ih =>
    by_cases hpc : e = .peerClose
    · -- nothing of the closing shape has a second `peerClose`
      subst hpc
      exact absurd (List.all_eq_true.mp h .peerClose (List.mem_append_right _ List.mem_cons_self))
        Bool.false_ne_true
    · rw [List.cons_append, closingTail_cons hpc, Bool.and_eq_true] at h
      exact ih h.2

theorem closingTail_of_split (pre post : List Event) (h1 : ∀ e ∈ pre, readerEvent e = true)
    (h2 : ∀ e ∈ post, idleEvent e = true) : closingTail (pre ++ .peerClose :: post) = true := by
  induction pre with
  | nil => exact List.all_eq_true.mpr h2
  | cons e pre ih =>
    obtain ⟨he, hr⟩ := List.forall_mem_cons.mp h1
    have hpc : e ≠ .peerClose := fun hc => by rw [hc] at he; exact Bool.false_ne_true he
    rw [List.cons_append, closingTail_cons hpc, he, ih hr]; rfl

theorem closingEvents_iff (evs : List Event) :
    closingEvents evs = true ↔
      ∃ pre post, evs = .new :: pre ++ .peerClose :: post ∧ (∀ e ∈ pre, readerEvent e = true) ∧
        (∀ e ∈ post, idleEvent e = true) := by
  constructor
  · intro h
    unfold closingEvents at h
    split at h
    · rename_i rest
      obtain ⟨pre, post, e1, e2, e3⟩ := closingTail_split h
      exact ⟨pre, post, by rw [e1]; rfl, e2, e3⟩
    · exact absurd h (by simp)
  · rintro ⟨pre, post, rfl, h1, h2⟩
    exact closingTail_of_split pre post h1 h2

theorem okEvent_of_idle {e : Event} (h : idleEvent e = true) : okEvent e = true := by
  cases e <;> simp [idleEvent] at h <;> simp [okEvent, readerEvent, h]

theorem fed_idle (l : List Event) (h : ∀ e ∈ l, idleEvent e = true) : Scenario.fed l = [] := by
  induction l with
  | nil => rfl
  | cons e l ih =>
    have he := h e (by simp)
    have : Scenario.fed (e :: l) = evBytesOf e ++ Scenario.fed l := by simp [fed_eq]
    rw [this, ih (fun x hx => h x (by simp [hx]))]
    cases e <;> simp [idleEvent] at he <;> rfl

theorem fed_peerClose (post : List Event) (h : ∀ e ∈ post, idleEvent e = true) :
    Scenario.fed (.peerClose :: post) = [] := by
  have : Scenario.fed (.peerClose :: post) = evBytesOf .peerClose ++ Scenario.fed post := by simp [fed_eq]
  rw [this, fed_idle post h]; rfl

theorem run_eq_fold (env : Env) (app : App) (l : List Event) :
    l.foldl (Sock.stepK env app) ({}, 0) = (Sock.run env app l, l.length) :=
  run_prefix_induct env app l (fun pre s => pre.foldl (Sock.stepK env app) ({}, 0) = (s, pre.length)) rfl
    fun pre e post s _ h => by rw [List.foldl_append, h, List.length_append]; rfl

theorem run_append (env : Env) (app : App) (l1 l2 : List Event) :
    Sock.run env app (l1 ++ l2) = (l2.foldl (Sock.stepK env app) (Sock.run env app l1, l1.length)).1 := by
  rw [Sock.run, List.foldl_append, run_eq_fold]

theorem run_snoc (env : Env) (app : App) (pre : List Event) (e : Event) :
    Sock.run env app (pre ++ [e]) = (Sock.stepK env app (Sock.run env app pre, pre.length) e).1 :=
  run_append env app pre [e]

/-- the invariant at every point `p` of a run in which the client leaves -/
theorem closing_inv (env : Env) (app : App) (happ : ReaderApp app) {head : Bytes} {N : Nat}
    {evs : List Event} (acc : Acc env head N) (restF : Bytes)
    (hfin : breakOn CRLF2 (Scenario.fed evs) = some (head, restF))
    (pre post : List Event) (hevs : evs = .new :: pre ++ .peerClose :: post)
    (hpre : ∀ e ∈ pre, readerEvent e = true) (hpost : ∀ e ∈ post, idleEvent e = true)
    (p q : List Event) (hpq : evs = p ++ q) :
    RInv evs head N (Scenario.fed p) (Sock.run env app p) := by
  have hoka : ∀ e ∈ Event.new :: pre, okEvent e = true := by
    intro e he
    rcases List.mem_cons.mp he with rfl | he
    · rfl
    · simp [okEvent, hpre e he]
  have hsplit : p ++ q = (Event.new :: pre) ++ (.peerClose :: post) := by rw [← hpq, hevs]
  rcases List.append_eq_append_iff.mp hsplit with ⟨a', e1, e2⟩ | ⟨b', e1, e2⟩
  · -- `p` ends before the client leaves
    refine run_inv env app happ acc restF hfin p q hpq ?_
    intro e he; exact hoka e (by rw [e1]; simp [he])
  · cases b' with
    | nil =>
      refine run_inv env app happ acc restF hfin p q hpq ?_
      intro e he; exact hoka e (by simpa [e1] using he)
    | cons x post1 =>
      -- `p = new :: pre ++ peerClose :: post1`, `post = post1 ++ q`
      have hx : x = .peerClose ∧ post = post1 ++ q := by
        have : Event.peerClose :: post = x :: (post1 ++ q) := e2
        simp only [List.cons.injEq] at this
        exact ⟨this.1.symm, this.2⟩
      obtain ⟨rfl, hpost1⟩ := hx
      have hevs' : evs = (Event.new :: pre) ++ (.peerClose :: post) := by rw [hevs]
      -- up to the moment the client leaves
      have hRa := run_inv env app happ acc restF hfin (.new :: pre) (.peerClose :: post) hevs' hoka
      have hfa : Scenario.fed (.new :: pre) = Scenario.fed evs := by
        rw [hevs', fed_append, fed_peerClose post hpost, List.append_nil]
      have hrs : (Sock.run env app (.new :: pre)).rs ≠ .headers := by
        intro hc
        obtain ⟨a, hb, B, hm, _, hrel⟩ := hRa
        have := (hrel.1 hc).2
        rw [hfa, hfin] at this; exact absurd this (by simp)
      have hcc : (Sock.run env app (.new :: pre)).closeCalled = false := by
        have hn := run_noCl env app happ (.new :: pre) (fun e he => by unfold clEvent; rw [hoka e he]; rfl)
        obtain ⟨a, hb, B, hm, _, _⟩ := hRa
        exact hn hm.ioOpen
      -- the client leaves
      have hk : evs[(Event.new :: pre).length]? = some .peerClose := by rw [hevs']; simp
      have hRb := stepK_peerClose_inv env app happ (Event.new :: pre).length hk hRa hrs hcc
      rw [← run_snoc] at hRb
      -- afterwards
      have hfb : Scenario.fed ((Event.new :: pre) ++ [Event.peerClose]) = Scenario.fed (.new :: pre) := by
        rw [fed_append, fed_single]; exact List.append_nil _
      have hpost1ok : ∀ e ∈ post1, okEvent e = true := fun e he =>
        okEvent_of_idle (hpost e (by rw [hpost1]; exact List.mem_append_left _ he))
      have hR := fold_inv env app happ acc restF hfin post1 ((Event.new :: pre) ++ [Event.peerClose]) q _
        (by rw [hevs, hpost1]; simp) hpost1ok (by rw [hfb]; exact hRb)
      have hp : p = ((Event.new :: pre) ++ [Event.peerClose]) ++ post1 := by rw [e1]; simp
      rw [hp, run_append]
      exact hR

/-- the bytes the client had sent when the history `l` was complete: every external event leaves its
    marker `ev k` before anything it causes, so these are the bytes of the events marked in `l` -/
def arrivedAt (evs : List Event) (l : List Obs) : Nat :=
  (l.map fun o => match o with | .ev k => evLen evs k | _ => 0).sum

theorem wst_fst (evs : List Event) (l : List Obs) :
    ∀ f h a, (wst evs l f h a).1 = f + arrivedAt evs l := by
  induction l with
  | nil => intro f h a; rfl
  | cons o l ih =>
    intro f h a
    cases o with
    | ev k => exact (ih _ _ _).trans (Nat.add_assoc _ _ _)
    | _ => exact (ih _ _ _).trans (congrArg (f + ·) (Nat.zero_add _).symm)

theorem walkL_rcf (evs : List Event) (hl n : Nat) (l1 l2 : List Obs)
    (h : walkL evs hl n (l1 ++ Obs.rcf :: l2) 0 false none = true) : hl + n ≤ arrivedAt evs l1 := by
  rw [walkL_append, wst_fst] at h
  simp only [walkL, Bool.and_eq_true, decide_eq_true_eq] at h
  have := h.2.1
  omega

theorem RInv.arrivedAt_eq {evs : List Event} {head : Bytes} {N : Nat} {fed : Bytes} {s : Sock}
    (h : RInv evs head N fed s) : arrivedAt evs s.log = fed.length := by
  obtain ⟨a, hb, B, hm, _, _⟩ := h
  have := congrArg Prod.fst hm.wst
  rw [wst_fst] at this
  simpa using this

end Qhttp.C02
