import Qhttp.Lemmas.C10Life
import Qhttp.Lemmas.C19After
/-
  C10: `disconnected` is reported at most once, for the composed models.  The counting invariant
  `D` is the first clause of C19's `K`; C19's frame rules carry it through the socket model, and it
  is carried through the filesystem handler's turn (copier relay) and the Server glue here.
-/
namespace Qhttp.C10L
open Qhttp Qhttp.Obs Qhttp.Sock Qhttp.C19L

/-- `n` = `dc` in the history, `d` = `dc` the caller still owes (the transport was disconnected from
    outside, `emitDc` has not run), `f` = one more is due (`dcFlag`): together 1 when the transport is
    unconnected, else 0 -/
def Dn (n d : Nat) (f : Bool) (c : Conn) : Prop :=
  n + d + (if f = true then 1 else 0) = (if c = .unconnected then 1 else 0)

section arith
variable {n d : Nat} {f : Bool} {c : Conn}

theorem Dn.le (h : Dn n d f c) : n + d + (if f = true then 1 else 0) ≤ 1 := by
  unfold Dn at h
  rw [h]
  split <;> omega

theorem Dn.report (h : Dn n d f c) (hd : d + (if f = true then 1 else 0) = 1) :
    Dn (n + 1) 0 false c := by
  have := h.le
  unfold Dn at *
  simp only [Bool.false_eq_true, if_false]
  omega

theorem Dn.flag (h : Dn n 0 f c) (hn : 1 ≤ n) : f = false := by
  have := h.le
  cases f
  · rfl
  · simp only [if_true] at this
    omega

theorem Dn.due (h : Dn n d true c) : d = 0 := by
  have := h.le
  simp only [if_true] at this
  omega

theorem Dn.disc (h : Dn n d f .connected) : Dn n d true .unconnected := by
  have := h.le
  unfold Dn at *
  simp only [reduceCtorEq, if_false, if_true] at h ⊢
  omega

theorem Dn.closing (h : Dn n d f .connected) : Dn n d f .closing := h

theorem Dn.lost (h : Dn n 0 false c) (hc : c ≠ .unconnected) : Dn n 1 false .unconnected := by
  unfold Dn at *
  rw [if_neg hc] at h
  rw [if_pos rfl]
  omega

end arith

/-- `Dn` of a socket (the first clause of C19's `K`) -/
def D (d : Nat) (s : Sock) : Prop := Dn (countP isDc s.log) d s.dcFlag s.tcp.conn

theorem D_of_eq {d : Nat} {s s' : Sock} (h : D d s) (hc : s'.tcp.conn = s.tcp.conn)
    (hf : s'.dcFlag = s.dcFlag) (hl : s'.log = s.log) : D d s' := by
  unfold D at *; rw [hc, hf, hl]; exact h

theorem D_step {d : Nat} {s s' : Sock} {o : Obs} (h : D d s) (ho : isDc o = false)
    (hl : s'.log = s.log ++ [o])
    (hk : ∀ n, Dn n d s.dcFlag s.tcp.conn → Dn n d s'.dcFlag s'.tcp.conn) : D d s' := by
  unfold D at *
  rw [hl, countP_snoc_false _ ho]
  exact hk _ h

theorem D_snoc {d : Nat} {s s' : Sock} {o : Obs} (h : D d s) (ho : isDc o = false)
    (hc : s'.tcp.conn = s.tcp.conn) (hf : s'.dcFlag = s.dcFlag)
    (hl : s'.log = s.log ++ [o]) : D d s' :=
  D_step h ho hl fun n hn => by rw [hc, hf]; exact hn

theorem D_frame (d : Nat) : Frame quiet (D d) where
  res := fun o h => by cases o <;> first | rfl | cases h
  same := fun _ _ hs h => D_of_eq h hs.c hs.f hs.l
  tw := fun s b h => by
    rcases tcpWrite_cases s b with e | ⟨_, _, _, e⟩
    · rw [e]; exact h
    · rw [e]; exact D_snoc (o := .w b) h rfl rfl rfl rfl
  tcl := fun s _ h => by
    refine tcpClose_cases s (P := D d) (fun _ => h) (fun _ hc _ => ?_) (fun _ hc _ => ?_)
      (fun _ _ => D_snoc (o := .tc) h rfl rfl rfl rfl)
    · exact D_step (o := .tc) h rfl rfl fun n hn => by rw [hc] at hn; exact hn.disc
    · exact D_step (o := .tc) h rfl rfl fun n hn => by rw [hc] at hn; exact hn.closing
  note := fun s o ho h => D_snoc h (quiet_facts ho).2.2.2.2.1 rfl rfl rfl

/-- `D` between two API calls: no `disconnected` is due -/
def DS (d : Nat) (s : Sock) : Prop := D d s ∧ s.dcFlag = false

variable {env : Env} {app : App} {d : Nat} {s : Sock}

/-- `C19L.AppQ` for the `headersParsed` slot, which is apart there because C19 lets it record one
    routing observation -/
def HpQ (app : App) : Prop := ∀ s, (app.onHp s).all qOp = true

theorem emitDc_D (happ : AppQ app) (h : D d s)
    (hd : d + (if s.dcFlag = true then 1 else 0) = 1) : DS 0 (emitDc env app s) := by
  unfold emitDc
  dsimp only
  have h1 : D 0 { s with dcFlag := false, log := s.log ++ [.dc] } := by
    show Dn (countP isDc (s.log ++ [.dc])) 0 false s.tcp.conn
    rw [Obs.countP_snoc]
    exact h.report hd
  have h2 := foldl_apiPrim_frame (D_frame 0) env
    (app.onDc { s with dcFlag := false, log := s.log ++ [.dc] }) (happ.dc _) h1
  -- the reaction only appends to the history: the `dc` just recorded is still there
  have h3 := (foldl_apiPrim_ext env (app.onDc { s with dcFlag := false, log := s.log ++ [.dc] })
    { s with dcFlag := false, log := s.log ++ [.dc] }).mem (o := .dc) (List.mem_append_right _ (.head _))
  generalize List.foldl (apiPrim env) _ _ = s2 at h2 h3 ⊢
  have hf : s2.dcFlag = false := h2.flag (Obs.countP_pos.mpr ⟨_, h3, rfl⟩)
  exact ⟨D_of_eq h2 rfl hf.symm rfl, rfl⟩

theorem fin_D (happ : AppQ app) (h : D d s) : DS d (fin env app s) := by
  unfold fin
  split
  · rename_i hf
    have h0 := h
    unfold D at h0
    rw [hf] at h0
    have hd := h0.due
    subst hd
    exact emitDc_D happ h (by rw [hf]; rfl)
  · rename_i hf
    exact ⟨h, by simpa using hf⟩

theorem api_D (happ : AppQ app) {op : ApiOp} (hq : qOp op = true) (h : D d s) :
    DS d (api env app s op) :=
  fin_D happ (apiPrim_frame (D_frame d) env (qOp_note hq) h)

theorem apis_D (happ : AppQ app) (ops : List ApiOp) (hq : ops.all qOp = true) (h : DS d s) :
    DS d (apis env app s ops) := by
  unfold apis
  induction ops generalizing s with
  | nil => exact h
  | cons op ops ih =>
    simp only [List.all_cons, Bool.and_eq_true] at hq
    exact ih hq.2 (api_D happ hq.1 h.1)

theorem emit_D (happ : AppQ app) {o : Obs} (ho : isDc o = false) (ops : List ApiOp)
    (hq : ops.all qOp = true) (h : DS d s) : DS d (emit env app s o ops) := by
  unfold emit
  exact apis_D happ ops hq ⟨D_snoc h.1 ho rfl rfl rfl, h.2⟩

theorem DS_of_eq {s s' : Sock} (h : DS d s) (hc : s'.tcp.conn = s.tcp.conn)
    (hf : s'.dcFlag = s.dcFlag) (hl : s'.log = s.log) : DS d s' :=
  ⟨D_of_eq h.1 hc hf hl, by rw [hf]; exact h.2⟩

theorem DS_snoc {s s' : Sock} {o : Obs} (h : DS d s) (ho : isDc o = false)
    (hc : s'.tcp.conn = s.tcp.conn) (hf : s'.dcFlag = s.dcFlag)
    (hl : s'.log = s.log ++ [o]) : DS d s' :=
  ⟨D_snoc h.1 ho hc hf hl, by rw [hf]; exact h.2⟩

theorem DS_slots (happ : AppQ app) (hhp : HpQ app) (d : Nat) : SlotClosed env app (DS d) where
  same := fun _ _ hs h => DS_of_eq h hs.c hs.f hs.l
  bad := fun _ h => fin_D happ (writeError_frame (D_frame d) env _ _ h.1)
  hp := fun _ _ hs _ _ h => emit_D happ rfl _ (hhp _) (DS_of_eq h hs.c hs.f hs.l)
  rr := fun _ h => emit_D happ rfl _ (happ.rr _) h
  rcf := fun _ h => emit_D happ rfl _ (happ.rcf _) h
  bw := fun _ _ h => emit_D happ rfl _ (happ.bw _) h

theorem DS_unconn (h : DS 0 s) (hc : s.tcp.conn ≠ .unconnected) :
    DS 1 { s with tcp := { s.tcp with conn := .unconnected } } := by
  obtain ⟨h1, hf⟩ := h
  unfold D at h1
  rw [hf] at h1
  refine ⟨?_, hf⟩
  show Dn (countP isDc s.log) 1 s.dcFlag .unconnected
  rw [hf]
  exact h1.lost hc

theorem emitDc_owed_D (happ : AppQ app) (h : DS 1 s) : DS 0 (emitDc env app s) :=
  emitDc_D happ h.1 (by rw [h.2]; rfl)

theorem ackN_D (happ : AppQ app) (hhp : HpQ app) (n : Nat) (h : DS 0 s) : DS 0 (ackN env app s n) := by
  unfold ackN
  dsimp only
  split
  · exact h
  · have h1 : DS 0 (onBytesWritten env app
        { s with tcp := { s.tcp with unacked := s.tcp.unacked - min n s.tcp.unacked } }
        (min n s.tcp.unacked : Nat)) :=
      (DS_slots happ hhp 0).onBytesWritten _ (DS_of_eq h rfl rfl rfl)
    generalize (onBytesWritten env app
        { s with tcp := { s.tcp with unacked := s.tcp.unacked - min n s.tcp.unacked } }
        (min n s.tcp.unacked : Nat)) = s1 at h1 ⊢
    split
    · rename_i hc
      simp only [Bool.and_eq_true, beq_iff_eq, decide_eq_true_eq] at hc
      exact emitDc_owed_D happ (DS_unconn h1 (by rw [hc.1]; simp))
    · exact h1

theorem step_D (happ : AppQ app) (hhp : HpQ app) (e : Event) (he : evOK e = true) (ht : e ≠ .turn) (h : DS 0 s) :
    DS 0 (step env app s e) := by
  unfold step
  split
  · exact h
  · cases e with
    | prebuf bs => exact DS_of_eq h rfl rfl rfl
    | new => exact DS_of_eq h rfl rfl rfl
    | feed seg => exact (DS_slots happ hhp 0).onReadyRead (DS_of_eq h rfl rfl rfl)
    | ack n => exact ackN_D happ hhp n h
    | ackAll => exact ackN_D happ hhp _ h
    | peerClose =>
      dsimp only
      split
      · exact h
      · rename_i hc
        exact emitDc_owed_D happ
          ((DS_slots happ hhp 1).onReadChannelFinished (DS_unconn h (by simpa using hc)))
    | turn => exact absurd rfl ht
    | api op => exact api_D happ he h.1

theorem stepK_D (happ : AppQ app) (hhp : HpQ app) (k : Nat) (e : Event) (he : evOK e = true) (ht : e ≠ .turn)
    (h : DS 0 s) : DS 0 (stepK env app (s, k) e).1 := by
  unfold stepK
  dsimp only
  split
  · exact step_D happ hhp e he ht h
  · exact step_D happ hhp e he ht (DS_snoc (o := .ev k) h rfl rfl rfl rfl)

theorem DS_final (h : DS 0 s) : countP isDc s.log ≤ 1 := by
  have := h.1.le
  omega

theorem DS_init : DS 0 ({} : Sock) := ⟨rfl, rfl⟩

theorem relay_D (happ : AppQ app) (l : List Obs) (h : DS 0 s) :
    DS 0 (FsHandler.relay env app s l) := by
  fun_induction FsHandler.relay env app s l with
  | case1 s => exact h
  | case2 s b rest ih => exact ih (api_D happ rfl h.1)
  | case3 s x rest ih => exact ih (api_D happ rfl h.1)
  | case4 s o rest h1 h2 ih => exact ih h

theorem fsApp_Q (fe : FsHandler.FsEnv) : AppQ (FsHandler.app fe) :=
  ⟨fun _ => rfl, fun _ => rfl, fun _ => rfl, fun _ => rfl⟩

theorem fsApp_hp (fe : FsHandler.FsEnv) : HpQ (FsHandler.app fe) := by
  intro s
  show (FsHandler.hpOps fe s).all qOp = true
  unfold FsHandler.hpOps
  split
  · rfl
  · rfl
  · dsimp only
    split <;> rfl

theorem reap_D (h : DS 0 s) : DS 0 (reap s) := by
  unfold reap
  split
  · exact DS_snoc (o := .del) h rfl rfl rfl rfl
  · exact h

theorem fsStep_D (env : Env) (fe : FsHandler.FsEnv) (st : FsHandler.St) (e : Event)
    (he : evOK e = true) (h : DS 0 st.sock) : DS 0 (FsHandler.step env fe st e).sock := by
  by_cases ht : e = .turn
  · subst ht
    cases ha : st.sock.alive
    · rw [fsStep_dead env fe st _ ha]; exact h
    · show DS 0 (FsHandler.turn env fe st).sock
      rw [fsTurn_eq env fe st ha]
      apply reap_D
      have h1 : DS 0 (initRead env (FsHandler.app fe)
          { st.sock with log := st.sock.log ++ [Obs.ev (evCount st.sock)] }) := by
        have h0 : DS 0 { st.sock with log := st.sock.log ++ [Obs.ev (evCount st.sock)] } :=
          DS_snoc (o := .ev _) h rfl rfl rfl rfl
        unfold initRead
        split
        · exact (DS_slots (fsApp_Q fe) (fsApp_hp fe) 0).onReadyRead (DS_of_eq h0 rfl rfl rfl)
        · exact h0
      unfold turnWork turnCop
      split
      · apply relay_D (fsApp_Q fe)
        rw [afterRoute_sock]
        exact h1
      · rw [afterRoute_sock]
        exact h1
  · rw [fsStep_eq env fe st e ht, afterRoute_sock]
    exact stepK_D (fsApp_Q fe) (fsApp_hp fe) _ e he ht h

theorem afterEvent_D (env : Env) (fe : FsHandler.FsEnv) (n : Nat) (st : Life.St)
    (h : DS 0 st.fs.sock) : DS 0 (Life.afterEvent env fe n st).fs.sock := by
  have h1 : DS 0 (setDel st.fs.sock) := DS_of_eq h rfl rfl rfl
  refine afterEvent_cases env fe n st (P := fun r => DS 0 r.fs.sock) (fun _ => h) (fun _ _ => h1)
    (fun _ _ _ _ _ _ _ => ?_)
  exact api_D (fsApp_Q fe) rfl h1.1

/-- `C19L.evOK` for the composed model -/
def lifeEvOK : Life.LEv → Bool
  | .ev e => evOK e
  | .killServer => true

theorem lifeStep_D (env : Env) (fe : FsHandler.FsEnv) (st : Life.St) (ev : Life.LEv)
    (he : lifeEvOK ev = true) (h : DS 0 st.fs.sock) : DS 0 (Life.step env fe st ev).fs.sock := by
  cases hd : st.deadSrv
  · cases ev with
    | ev e =>
      rw [lifeStep_ev env fe st e hd]
      apply afterEvent_D
      exact fsStep_D env fe st.fs e he h
    | killServer =>
      simp only [Life.step, hd, Bool.false_eq_true, if_false]
      exact DS_snoc (o := .ev _) h rfl rfl rfl rfl
  · rw [lifeStep_deadSrv env fe st ev hd]; exact h

theorem run_D (env : Env) (fe : FsHandler.FsEnv) (evs : List Life.LEv)
    (he : evs.all lifeEvOK = true) : DS 0 (Life.run env fe evs).fs.sock := by
  refine List.foldlRecOn (motive := fun st : Life.St => DS 0 st.fs.sock) evs _ DS_init
    fun st h ev hev => ?_
  exact lifeStep_D env fe st ev (List.all_eq_true.mp he ev hev) h

end Qhttp.C10L
