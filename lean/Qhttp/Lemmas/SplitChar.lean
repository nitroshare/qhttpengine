import Qhttp.Lemmas.BytesLemmas
/-
  Splitting at one byte: `QByteArray::split(c)` (`splitChar`) and `Parser::split(d, 1)` in terms of
  `breakOn` and `containsByte`.
-/
namespace Qhttp

/-- fuel-free unfolding of `splitChar` -/
theorem splitChar_eq (c : UInt8) (xs : Bytes) :
    splitChar c xs =
      match breakOn [c] xs with
      | none => [xs]
      | some (a, r) => a :: splitChar c r := by
  unfold splitChar
  rw [splitF_eq (by simp) (Nat.lt_succ_self _), if_neg (by simp)]
  rfl

theorem containsByte_iff {c : UInt8} {xs : Bytes} : containsByte c xs = true ↔ c ∈ xs := by
  unfold containsByte
  rw [List.any_eq_true]
  constructor
  · rintro ⟨x, hx, he⟩
    have : x = c := by simpa using he
    exact this ▸ hx
  · intro h; exact ⟨c, h, by simp⟩

theorem containsByte_eq_false_iff {c : UInt8} {xs : Bytes} : containsByte c xs = false ↔ c ∉ xs := by
  rw [← containsByte_iff]; simp

theorem breakOn_singleton_eq_none_iff {c : UInt8} {xs : Bytes} : breakOn [c] xs = none ↔ c ∉ xs := by
  rw [breakOn_eq_none_iff, singleton_infix_iff]

/-- exact characterisation of `breakOn` for a one-byte delimiter -/
theorem breakOn_singleton_eq_some_iff {c : UInt8} {xs a r : Bytes} :
    breakOn [c] xs = some (a, r) ↔ xs = a ++ [c] ++ r ∧ c ∉ a := by
  constructor
  · intro h; exact ⟨breakOn_some h, breakOn_singleton_not_mem h⟩
  · rintro ⟨rfl, h⟩; exact breakOn_singleton r h

/-- `QByteArray::split(c)` gives exactly two parts iff the byte occurs exactly once -/
theorem splitChar_eq_pair_iff {c : UInt8} {xs a r : Bytes} :
    splitChar c xs = [a, r] ↔ breakOn [c] xs = some (a, r) ∧ c ∉ r := by
  rw [splitChar_eq]
  cases hb : breakOn [c] xs with
  | none => simp
  | some p =>
    obtain ⟨a0, r0⟩ := p
    simp only [List.cons.injEq, Option.some.injEq, Prod.mk.injEq]
    rw [splitChar_eq]
    cases hb2 : breakOn [c] r0 with
    | none =>
      have := breakOn_singleton_eq_none_iff.1 hb2
      simp only [List.cons.injEq, and_true]
      constructor
      · rintro ⟨rfl, rfl⟩; exact ⟨⟨rfl, rfl⟩, this⟩
      · rintro ⟨⟨rfl, rfl⟩, _⟩; exact ⟨rfl, rfl⟩
    | some q =>
      obtain ⟨a1, r1⟩ := q
      have hm : c ∈ r0 := by
        rw [breakOn_some hb2]; simp
      have hne := splitChar_ne_nil c r1
      simp only [List.cons.injEq]
      constructor
      · rintro ⟨_, _, h⟩; exact absurd h hne
      · rintro ⟨⟨_, rfl⟩, h⟩; exact absurd hm h

/-- the shape of `splitChar`: either one part (no delimiter), two parts, or more than two -/
theorem splitChar_cases (c : UInt8) (xs : Bytes) :
    (breakOn [c] xs = none ∧ splitChar c xs = [xs]) ∨
    (∃ a r, breakOn [c] xs = some (a, r) ∧ c ∉ r ∧ splitChar c xs = [a, r]) ∨
    (∃ a r x y l, breakOn [c] xs = some (a, r) ∧ c ∈ r ∧ splitChar c xs = a :: x :: y :: l) := by
  cases hb : breakOn [c] xs with
  | none => left; exact ⟨rfl, by rw [splitChar_eq, hb]⟩
  | some p =>
    obtain ⟨a, r⟩ := p
    right
    by_cases hm : c ∈ r
    · right
      have h1 : splitChar c xs = a :: splitChar c r := by rw [splitChar_eq, hb]
      cases hb2 : breakOn [c] r with
      | none => exact absurd hm (breakOn_singleton_eq_none_iff.1 hb2)
      | some q =>
        obtain ⟨a1, r1⟩ := q
        have h2 : splitChar c r = a1 :: splitChar c r1 := by rw [splitChar_eq, hb2]
        cases h3 : splitChar c r1 with
        | nil => exact absurd h3 (splitChar_ne_nil _ _)
        | cons y l => exact ⟨a, r, a1, y, l, rfl, hm, by rw [h1, h2, h3]⟩
    · left
      exact ⟨a, r, rfl, hm, splitChar_eq_pair_iff.2 ⟨hb, hm⟩⟩

/-- `Parser::split(x, d, 1)`: one cut at the first occurrence -/
theorem split_one_eq {d : Bytes} (hd : d ≠ []) (xs : Bytes) :
    split d 1 xs =
      match breakOn d xs with
      | none => [xs]
      | some (a, r) => [a, r] := by
  rw [split_succ_eq hd 0 xs]
  cases breakOn d xs with
  | none => rfl
  | some p => rfl

theorem split_one_eq_pair_iff {d : Bytes} (hd : d ≠ []) {xs a r : Bytes} :
    split d 1 xs = [a, r] ↔ breakOn d xs = some (a, r) := by
  rw [split_one_eq hd]
  cases breakOn d xs with
  | none => simp
  | some p => obtain ⟨a0, r0⟩ := p; simp

end Qhttp
