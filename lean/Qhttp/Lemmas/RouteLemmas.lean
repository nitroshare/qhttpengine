import Qhttp.Model.Handler
/-
  The structure of `route`: the middleware of the handlers on the route in attachment order up
  to and including the first refusal, followed — only if none refused — by exactly one terminal
  action.
-/
namespace Qhttp.RouteL
open Qhttp

def isTerminalAct : Act → Bool
  | .mw _ _ => false
  | .redirect _ _ => true
  | .process _ _ => true

def mwAct (e : Nat × Bool) : Act := .mw e.1 e.2

/-- a list of verdicts cut after the first refusal -/
def takeThroughFirstRefusal : List (Nat × Bool) → List (Nat × Bool)
  | [] => []
  | (i, ok) :: l => if ok then (i, true) :: takeThroughFirstRefusal l else [(i, false)]

def allAccept (l : List (Nat × Bool)) : Bool := l.all (·.2)

def redirectFires (m : Matcher) (path : QStr) (reds : List (Nat × QStr)) : Bool :=
  reds.any fun r => (m r.1 path).isSome

mutual
  /-- the middleware of every handler on the route the request takes if all accept: the node's
      own list, then — unless one of its redirects fires — that of the first sub-handler whose
      pattern matches, recursively -/
  def chain (m : Matcher) : Node → QStr → List (Nat × Bool)
    | .mk _ mws reds subs _, path =>
      mws ++ (if redirectFires m path reds then [] else chainSubs m subs path)
  def chainSubs (m : Matcher) : Subs → QStr → List (Nat × Bool)
    | .nil, _ => []
    | .cons pat child rest, path =>
      match m pat path with
      | some mt => chain m child (path.drop mt.len)
      | none => chainSubs m rest path
end

mutual
  /-- the terminal action of the route when all middleware accept -/
  def termOf (m : Matcher) : Node → QStr → Act
    | .mk id _ reds subs _, path =>
      match firstRedirect m path reds with
      | some loc => .redirect id loc
      | none =>
        match termSubs m subs path with
        | some t => t
        | none => .process id path
  def termSubs (m : Matcher) : Subs → QStr → Option Act
    | .nil, _ => none
    | .cons pat child rest, path =>
      match m pat path with
      | some mt => some (termOf m child (path.drop mt.len))
      | none => termSubs m rest path
end

theorem runMws_fst (mws : List (Nat × Bool)) :
    (runMws mws).1 = (takeThroughFirstRefusal mws).map mwAct := by
  induction mws with
  | nil => rfl
  | cons e l ih =>
    obtain ⟨i, ok⟩ := e
    cases ok <;> simp [runMws, takeThroughFirstRefusal, mwAct, ih]

theorem runMws_snd (mws : List (Nat × Bool)) : (runMws mws).2 = allAccept mws := by
  induction mws with
  | nil => rfl
  | cons e l ih =>
    obtain ⟨i, ok⟩ := e
    cases ok <;> simp [runMws, allAccept, ih] <;> simp [allAccept] at ih ⊢ <;> exact ih

theorem ttfr_append_of_accept {a b : List (Nat × Bool)} (h : allAccept a = true) :
    takeThroughFirstRefusal (a ++ b) = a ++ takeThroughFirstRefusal b := by
  induction a with
  | nil => rfl
  | cons e l ih =>
    obtain ⟨i, ok⟩ := e
    simp only [allAccept, List.all_cons, Bool.and_eq_true] at h
    obtain ⟨h1, h2⟩ := h
    have h1 : ok = true := h1
    subst h1
    simp [takeThroughFirstRefusal, ih h2]

theorem ttfr_append_of_refuse {a : List (Nat × Bool)} (b : List (Nat × Bool)) (h : allAccept a = false) :
    takeThroughFirstRefusal (a ++ b) = takeThroughFirstRefusal a := by
  induction a with
  | nil => simp [allAccept] at h
  | cons e l ih =>
    obtain ⟨i, ok⟩ := e
    cases ok with
    | false => simp [takeThroughFirstRefusal]
    | true =>
      have : allAccept l = false := by simpa [allAccept] using h
      simp [takeThroughFirstRefusal, ih this]

theorem ttfr_of_accept {a : List (Nat × Bool)} (h : allAccept a = true) : takeThroughFirstRefusal a = a := by
  simpa [takeThroughFirstRefusal] using ttfr_append_of_accept (b := []) h

theorem allAccept_append (a b : List (Nat × Bool)) : allAccept (a ++ b) = (allAccept a && allAccept b) := by
  simp [allAccept]

theorem firstRedirect_isSome (m : Matcher) (path : QStr) (reds : List (Nat × QStr)) :
    (firstRedirect m path reds).isSome = redirectFires m path reds := by
  induction reds with
  | nil => rfl
  | cons r l ih =>
    obtain ⟨pat, tmpl⟩ := r
    simp only [firstRedirect, redirectFires, List.any_cons]
    cases h : m pat path with
    | none => simpa [redirectFires] using ih
    | some mt => simp

/-- what follows the middleware: the terminal action, only if nobody refused -/
def tailOf (m : Matcher) (n : Node) (path : QStr) : List Act :=
  if allAccept (chain m n path) then [termOf m n path] else []

mutual
  theorem route_struct (m : Matcher) : ∀ (n : Node) (path : QStr),
      route m n path = (takeThroughFirstRefusal (chain m n path)).map mwAct ++ tailOf m n path
    | .mk id mws reds subs own, path => by
      have h1 := runMws_fst mws
      have h2 := runMws_snd mws
      rw [route, chain, tailOf, chain, termOf]
      generalize runMws mws = r at h1 h2
      obtain ⟨acts, go⟩ := r
      simp only at h1 h2
      subst h1 h2
      have hfr := firstRedirect_isSome m path reds
      by_cases hgo : allAccept mws = true
      · simp only [hgo, Bool.not_true, Bool.false_eq_true, if_false]
        rw [ttfr_append_of_accept hgo, allAccept_append, hgo, ttfr_of_accept hgo]
        cases hr : firstRedirect m path reds with
        | some loc =>
          have : redirectFires m path reds = true := by rw [← hfr, hr]; rfl
          simp [this, takeThroughFirstRefusal, allAccept]
        | none =>
          have : redirectFires m path reds = false := by rw [← hfr, hr]; rfl
          simp only [this, Bool.false_eq_true, if_false, Bool.true_and]
          have hs := routeSubs_struct m subs path
          cases hrs : routeSubs m subs path with
          | some r =>
            rw [hrs] at hs
            obtain ⟨t, ht, hr'⟩ := hs
            simp [hr', ht]
          | none =>
            rw [hrs] at hs
            obtain ⟨hc, ht⟩ := hs
            simp [hc, ht, takeThroughFirstRefusal, allAccept]
      · have hgo' : allAccept mws = false := by simpa using hgo
        simp only [hgo', Bool.not_false, if_true]
        rw [ttfr_append_of_refuse _ hgo', allAccept_append, hgo']
        simp
  theorem routeSubs_struct (m : Matcher) : ∀ (s : Subs) (path : QStr),
      match routeSubs m s path with
      | some r => ∃ t, termSubs m s path = some t ∧
          r = (takeThroughFirstRefusal (chainSubs m s path)).map mwAct ++
              (if allAccept (chainSubs m s path) then [t] else [])
      | none => chainSubs m s path = [] ∧ termSubs m s path = none
    | .nil, path => by simp [routeSubs, chainSubs, termSubs]
    | .cons pat child rest, path => by
      rw [routeSubs, chainSubs, termSubs]
      cases h : m pat path with
      | some mt =>
        simp only
        refine ⟨_, rfl, ?_⟩
        have := route_struct m child (path.drop mt.len)
        rw [this, tailOf]
      | none =>
        simp only
        exact routeSubs_struct m rest path
end

mutual
  theorem termOf_terminal (m : Matcher) : ∀ (n : Node) (path : QStr), isTerminalAct (termOf m n path) = true
    | .mk id mws reds subs own, path => by
      rw [termOf]
      cases firstRedirect m path reds with
      | some loc => rfl
      | none =>
        simp only
        have := termSubs_terminal m subs path
        cases h : termSubs m subs path with
        | some t => exact this t h
        | none => rfl
  theorem termSubs_terminal (m : Matcher) : ∀ (s : Subs) (path : QStr) (t : Act),
      termSubs m s path = some t → isTerminalAct t = true
    | .nil, path, t => by simp [termSubs]
    | .cons pat child rest, path, t => by
      rw [termSubs]
      cases h : m pat path with
      | some mt => simp only; intro e; cases e; exact termOf_terminal m child _
      | none => simp only; exact termSubs_terminal m rest path t
end

theorem ttfr_cases (c : List (Nat × Bool)) :
    (allAccept c = true ∧ takeThroughFirstRefusal c = c) ∨
    (allAccept c = false ∧ ∃ pre i, allAccept pre = true ∧ takeThroughFirstRefusal c = pre ++ [(i, false)]) := by
  induction c with
  | nil => left; simp [allAccept, takeThroughFirstRefusal]
  | cons e l ih =>
    obtain ⟨i, ok⟩ := e
    cases ok with
    | false => right; exact ⟨by simp [allAccept], [], i, by simp [allAccept], by simp [takeThroughFirstRefusal]⟩
    | true =>
      rcases ih with ⟨h1, h2⟩ | ⟨h1, pre, j, h2, h3⟩
      · left; constructor
        · simpa [allAccept] using h1
        · simp [takeThroughFirstRefusal, h2]
      · right; refine ⟨by simpa [allAccept] using h1, (i, true) :: pre, j, ?_, ?_⟩
        · simpa [allAccept] using h2
        · simp [takeThroughFirstRefusal, h3]

/-- no consulted middleware refused -/
def noRefusal (as : List Act) : Bool :=
  as.all fun a => match a with | .mw _ false => false | _ => true

theorem noRefusal_map_mwAct (l : List (Nat × Bool)) : noRefusal (l.map mwAct) = allAccept l := by
  induction l with
  | nil => rfl
  | cons e l ih =>
    obtain ⟨i, ok⟩ := e
    simp only [noRefusal, allAccept] at ih
    cases ok <;> simp [noRefusal, allAccept, mwAct, ih]

theorem noRefusal_route (m : Matcher) (n : Node) (path : QStr) :
    noRefusal (route m n path) = allAccept (chain m n path) := by
  rw [route_struct, tailOf]
  rcases ttfr_cases (chain m n path) with ⟨h1, h2⟩ | ⟨h1, pre, i, h2, h3⟩
  · have ht := termOf_terminal m n path
    rw [h1, h2]
    simp only [if_true, noRefusal, List.all_append] at *
    have := noRefusal_map_mwAct (chain m n path)
    simp only [noRefusal] at this
    rw [this, h1]
    cases hT : termOf m n path <;> simp_all [isTerminalAct]
  · rw [h1, h3]
    simp [noRefusal, mwAct]

/-- shape of every routing run: the consulted middleware (all accepting), then either one terminal
    action or one refusal — nothing else -/
theorem route_cases (m : Matcher) (n : Node) (path : QStr) :
    ∃ pre : List (Nat × Bool), allAccept pre = true ∧
      ((∃ t, isTerminalAct t = true ∧ route m n path = pre.map mwAct ++ [t] ∧ noRefusal (route m n path) = true) ∨
       (∃ id, route m n path = pre.map mwAct ++ [.mw id false] ∧ noRefusal (route m n path) = false)) := by
  have hn := noRefusal_route m n path
  rw [hn, route_struct, tailOf]
  rcases ttfr_cases (chain m n path) with ⟨h1, h2⟩ | ⟨h1, pre, i, h2, h3⟩
  · exact ⟨chain m n path, h1, Or.inl ⟨termOf m n path, termOf_terminal m n path, by simp [h1, h2], h1⟩⟩
  · exact ⟨pre, h2, Or.inr ⟨i, by simp [h1, h3, mwAct], h1⟩⟩

end Qhttp.RouteL
