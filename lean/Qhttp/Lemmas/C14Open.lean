import Qhttp.Lemmas.C14Run
/-
  A copy whose source or destination cannot be opened: `start` signals error then completion and
  leaves the copier unconnected and idle; nothing the source announces afterwards is seen.
-/
namespace Qhttp.C14O
open Qhttp Copier

/-- idle after a failed start: unconnected, no timer armed, the log is the start marker, the
    error, the completion, then only event markers -/
def Idle (s : St) : Prop :=
  s.connected = false ∧ s.pending = .none ∧ ∃ d, s.log = [Obs.ev 0, err, fin] ++ d ∧ ∀ o ∈ d, C14L.isMk o = true

theorem step_idle (c : Cfg) (s : St) (k : Nat) (e : Ev) (he : e ≠ .start ∧ e ≠ .stop) (hs : Idle s) :
    Idle (step c (C14L.mk s k) e) := by
  obtain ⟨hc, hp, d, hl, hd⟩ := hs
  obtain ⟨h1, h2, _, _, h5⟩ := C14L.step_inert c (C14L.mk s k) e hc (Or.inl hp) he.1 he.2
  refine ⟨h2, h5 (Or.inl hp), d ++ [Obs.ev k], ?_, ?_⟩
  · rw [h1]
    show s.log ++ [Obs.ev k] = _
    rw [hl, List.append_assoc]
  · intro o ho
    rcases List.mem_append.1 ho with ho | ho
    · exact hd o ho
    · rw [List.mem_singleton.1 ho]; rfl

theorem run_idle (c : Cfg) (evs : List Ev) (s : St) (k : Nat) (hs : Idle s)
    (h : ∀ e ∈ evs, e ≠ .start ∧ e ≠ .stop) : Idle (C14L.runFrom c (s, k) evs).1 :=
  C14L.runFrom_inv c _ Idle (step_idle c) evs s k h hs

theorem start_idle (c : Cfg) (h : (c.srcOpenFails || c.dstOpenFails) = true) :
    Idle (stepK c (init c, 0) .start).1 := by
  simp only [stepK, step, start, init]
  cases hs : c.srcOpenFails
  · have hd : c.dstOpenFails = true := by simpa [hs] using h
    simp only [hd, Bool.false_eq_true, if_false, if_true]; exact ⟨rfl, rfl, [], rfl, fun _ h => nomatch h⟩
  · simp only [if_true]; exact ⟨rfl, rfl, [], rfl, fun _ h => nomatch h⟩

end Qhttp.C14O
