import Qhttp.Model.CxxPrim
import Qhttp.Lemmas.BytesLemmas
/-
  The `QByteArray` vocabulary of `Model/CxxPrim.lean` on indices that lie inside the array, and on the pieces
  `breakOn` returns: there each call is a `take`, a `drop` or a length.
-/
namespace Qhttp.Cxx

theorem indexOf_none {b d : Bytes} (h : breakOn d b = none) : indexOf b d = -1 := by
  simp only [indexOf, h]

theorem indexOf_some {b d a r : Bytes} (h : breakOn d b = some (a, r)) : indexOf b d = a.length := by
  simp only [indexOf, h]

theorem left_natCast (b : Bytes) (n : Nat) : left b (n : Int) = b.take n := by
  have h0 : ¬ ((n : Int) < 0) := by omega
  simp only [left, h0, if_false, Int.toNat_natCast]

theorem left_some {b d a r : Bytes} (h : breakOn d b = some (a, r)) : left b (a.length : Int) = a := by
  rw [left_natCast, breakOn_some h, List.append_assoc, List.take_left' rfl]

/-- `remove(0, n)` drops `n` bytes, also when `n` is zero or beyond the end -/
theorem removeAt_zero_natCast (b : Bytes) (n : Nat) : removeAt b 0 (n : Int) = b.drop n := by
  unfold removeAt
  split
  · rename_i h
    have : n = 0 ∨ b.length = 0 := by omega
    rcases this with rfl | h0
    · rfl
    · rw [List.drop_of_length_le (by omega), List.eq_nil_of_length_eq_zero h0]
  · simp only [Int.toNat_zero, List.take_zero, List.nil_append, Nat.zero_add, Int.toNat_natCast]

theorem min_size_natCast (b : Bytes) (n : Nat) : min (size b) (n : Int) = ((min n b.length : Nat) : Int) := by
  simp only [size]; omega

theorem mid_rest (b : Bytes) (p : Nat) (hp : p ≤ b.length) : mid b (p : Int) (-1) = b.drop p := by
  have h1 : ¬ ((p : Int) > (b.length : Int)) := by omega
  have h2 : ¬ ((p : Int) < 0) := by omega
  have h3 : ((b.length : Int) - (p : Int)).toNat = (b.drop p).length := by rw [List.length_drop]; omega
  simp only [mid, h1, h2, if_false, Int.toNat_natCast, Int.reduceNeg, Int.reduceLT, true_or, if_true, h3,
    List.take_length]

theorem mid_inside (b : Bytes) (p n : Nat) (h : p + n ≤ b.length) : mid b (p : Int) (n : Int) = (b.drop p).take n := by
  have h1 : ¬ ((p : Int) > (b.length : Int)) := by omega
  have h2 : ¬ ((p : Int) < 0) := by omega
  have h3 : ¬ ((n : Int) < 0 ∨ (n : Int) > (b.length : Int) - (p : Int)) := by omega
  simp only [mid, h1, h2, h3, if_false, Int.toNat_natCast]

theorem mid_size_sub (b : Bytes) (pos : Int) : mid b pos (size b - pos) = mid b pos (-1) := by
  unfold mid size
  grind

theorem indexOfFrom_drop (b d : Bytes) (p : Nat) (hp : p ≤ b.length) :
    indexOfFrom b d (p : Int) =
      match breakOn d (b.drop p) with
      | some (a, _) => (p : Int) + a.length
      | none => -1 := by
  have h1 : ¬ ((p : Int) < 0) := by omega
  have h2 : ¬ ((p : Int) > (b.length : Int)) := by omega
  simp only [indexOfFrom, h1, if_false, h2, Int.toNat_natCast]
  cases breakOn d (b.drop p) <;> rfl

/-- `indexOf` returns a position or -1: however the C++ tests for "not found", it is `= -1` -/
theorem indexOfFrom_ge (b d : Bytes) (f : Int) : -1 ≤ indexOfFrom b d f := by
  unfold indexOfFrom
  simp only []
  have h0 : (0 : Int) ≤ (if f < 0 then max (f + (b.length : Int)) 0 else f) := by split <;> omega
  generalize (if f < 0 then max (f + (b.length : Int)) 0 else f) = g at h0
  split
  · omega
  · cases breakOn d (b.drop g.toNat) with
    | none => simp
    | some q => simp only []; omega

end Qhttp.Cxx
