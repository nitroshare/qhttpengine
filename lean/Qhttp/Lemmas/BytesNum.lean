import Qhttp.Model.Bytes
/-
  `trim`, `natDigits`, `toLongLong`: a decimal numeral (optionally padded with white space)
  is read back as its value.
-/
namespace Qhttp

theorem dropWhile_append_of_all {f : UInt8 → Bool} {p : Bytes} (xs : Bytes)
    (h : ∀ c ∈ p, f c = true) : (p ++ xs).dropWhile f = xs.dropWhile f := by
  induction p with
  | nil => rfl
  | cons x p ih =>
    rw [List.cons_append, List.dropWhile_cons, if_pos (h x (by simp))]
    exact ih (fun c hc => h c (by simp [hc]))

theorem dropWhile_of_head_neg {f : UInt8 → Bool} {x : UInt8} (xs : Bytes) (h : f x = false) :
    (x :: xs).dropWhile f = x :: xs := by
  rw [List.dropWhile_cons]; simp [h]

theorem trim_pad {p q w : Bytes} (hp : ∀ c ∈ p, isSp c = true) (hq : ∀ c ∈ q, isSp c = true)
    (hne : w ≠ []) (hh : isSp (w.head hne) = false) (hl : isSp (w.getLast hne) = false) :
    trim (p ++ w ++ q) = w := by
  unfold trim trimL trimR
  rw [List.append_assoc, dropWhile_append_of_all _ hp]
  have e1 : (w ++ q).dropWhile isSp = w ++ q := by
    cases w with
    | nil => exact absurd rfl hne
    | cons x w' => exact dropWhile_of_head_neg _ hh
  rw [e1, List.reverse_append, dropWhile_append_of_all _ (by simpa using hq)]
  have e2 : w.reverse.dropWhile isSp = w.reverse := by
    have hr : w.reverse = w.getLast hne :: w.dropLast.reverse := by
      conv => lhs; rw [← List.dropLast_concat_getLast hne]
      simp
    rw [hr]
    exact dropWhile_of_head_neg _ hl
  rw [e2, List.reverse_reverse]

theorem isSp_of_isDigit {c : UInt8} (h : isDigit c = true) : isSp c = false := by
  simp only [isDigit, Bool.and_eq_true, decide_eq_true_eq] at h
  have h1 := UInt8.le_iff_toNat_le.1 h.1
  have h2 := UInt8.le_iff_toNat_le.1 h.2
  simp only [isSp, Bool.or_eq_false_iff, Bool.and_eq_false_iff, decide_eq_false_iff_not,
    beq_eq_false_iff_ne, ne_eq]
  refine ⟨Or.inr ?_, ?_⟩
  · intro c13
    have := UInt8.le_iff_toNat_le.1 c13
    simp at h1 this; omega
  · intro e; rw [e] at h1; simp at h1

theorem digit_byte : ∀ k, k < 10 →
    isDigit (UInt8.ofNat (48 + k)) = true ∧ (UInt8.ofNat (48 + k)).toNat - 48 = k := by
  decide

theorem digitsVal_append (xs ys : Bytes) (a : Nat) :
    digitsVal (xs ++ ys) a = digitsVal ys (digitsVal xs a) := by
  induction xs generalizing a with
  | nil => rfl
  | cons x xs ih => simp only [List.cons_append, digitsVal]; exact ih _

/-- `QByteArray::number(n)`: a non-empty string of digits whose value is `n` -/
theorem natDigitsAux_spec (fuel n : Nat) (acc : Bytes) (h : n < fuel) :
    ∃ ds, natDigitsAux fuel n acc = ds ++ acc ∧ ds ≠ [] ∧ (∀ c ∈ ds, isDigit c = true) ∧
      ∀ a, digitsVal ds a = a * 10 ^ ds.length + n := by
  induction fuel generalizing n acc with
  | zero => omega
  | succ fuel ih =>
    have hd := digit_byte (n % 10) (Nat.mod_lt _ (by decide))
    unfold natDigitsAux
    simp only
    by_cases h0 : n / 10 = 0
    · rw [if_pos h0]
      refine ⟨[UInt8.ofNat (48 + n % 10)], rfl, by simp, by simpa using hd.1, fun a => ?_⟩
      simp only [digitsVal, hd.2, List.length_singleton, Nat.pow_one]
      omega
    · rw [if_neg h0]
      obtain ⟨ds, e, hne, hdig, hval⟩ := ih (n / 10) (UInt8.ofNat (48 + n % 10) :: acc) (by omega)
      refine ⟨ds ++ [UInt8.ofNat (48 + n % 10)], by rw [e]; simp, by simp, ?_, fun a => ?_⟩
      · intro c hc
        rcases List.mem_append.1 hc with hc | hc
        · exact hdig c hc
        · have : c = UInt8.ofNat (48 + n % 10) := by simpa using hc
          rw [this]; exact hd.1
      · rw [digitsVal_append, hval]
        simp only [digitsVal, hd.2, List.length_append, List.length_singleton, Nat.pow_succ,
          ← Nat.mul_assoc]
        generalize a * 10 ^ ds.length = y
        omega

theorem natDigits_spec (n : Nat) :
    natDigits n ≠ [] ∧ (∀ c ∈ natDigits n, isDigit c = true) ∧ digitsVal (natDigits n) 0 = n := by
  obtain ⟨ds, e, hne, hdig, hval⟩ := natDigitsAux_spec (n + 1) n [] (Nat.lt_succ_self _)
  unfold natDigits
  rw [e, List.append_nil]
  exact ⟨hne, hdig, by simpa using hval 0⟩

theorem natDigits_ne_nil (n : Nat) : natDigits n ≠ [] := (natDigits_spec n).1

theorem natDigits_all (n : Nat) : (natDigits n).all isDigit = true :=
  List.all_eq_true.2 (natDigits_spec n).2.1

theorem digitsVal_natDigits (n : Nat) : digitsVal (natDigits n) 0 = n := (natDigits_spec n).2.2

theorem toLongLong_of_trim_digits {xs ds : Bytes} (ht : trim xs = ds) (hne : ds ≠ [])
    (hd : ∀ c ∈ ds, isDigit c = true) :
    toLongLong xs =
      if digitsVal ds 0 ≤ 9223372036854775807 then (digitsVal ds 0 : Int) else 0 := by
  unfold toLongLong
  simp only [ht]
  cases ds with
  | nil => exact absurd rfl hne
  | cons x r =>
    have hx : isDigit x = true := hd x (by simp)
    have h45 : x ≠ 45 := by rintro rfl; revert hx; decide
    have h43 : x ≠ 43 := by rintro rfl; revert hx; decide
    have hall : (x :: r).all isDigit = true := List.all_eq_true.2 hd
    split
    · rename_i r' e; cases e; exact absurd rfl h45
    · rename_i r' e; cases e; exact absurd rfl h43
    · simp [hall]

/-- white space is `\t \n \v \f \r` or space; a numeral that does not fit is reported as 0 -/
theorem toLongLong_numeral (n : Nat) (p q : Bytes)
    (hp : ∀ c ∈ p, isSp c = true) (hq : ∀ c ∈ q, isSp c = true) :
    toLongLong (p ++ natDigits n ++ q) = if n ≤ 9223372036854775807 then (n : Int) else 0 := by
  obtain ⟨hne, hdig, hval⟩ := natDigits_spec n
  have ht : trim (p ++ natDigits n ++ q) = natDigits n :=
    trim_pad hp hq hne (isSp_of_isDigit (hdig _ (List.head_mem hne)))
      (isSp_of_isDigit (hdig _ (List.getLast_mem hne)))
  rw [toLongLong_of_trim_digits ht hne hdig, hval]

theorem toLongLong_natDigits_padded (n : Nat) (h : n < 2 ^ 63) (p q : Bytes)
    (hp : ∀ c ∈ p, isSp c = true) (hq : ∀ c ∈ q, isSp c = true) :
    toLongLong (p ++ natDigits n ++ q) = (n : Int) := by
  rw [toLongLong_numeral n p q hp hq, if_pos (by omega)]

theorem toLongLong_natDigits (n : Nat) (h : n < 2 ^ 63) : toLongLong (natDigits n) = (n : Int) := by
  simpa using toLongLong_natDigits_padded n h [] [] (by simp) (by simp)

theorem toLongLong_natDigits_overflow (n : Nat) (h : 2 ^ 63 ≤ n) : toLongLong (natDigits n) = 0 := by
  have := toLongLong_numeral n [] [] (by simp) (by simp)
  rwa [if_neg (by omega), List.nil_append, List.append_nil] at this

example : toLongLong (lit [' ', '\t', '4', '2', ' ']) = 42 := by decide +kernel
example : natDigits 1234 = lit ['1', '2', '3', '4'] := by decide +kernel

end Qhttp
