import Qhttp.Model.SlotHandler
import Qhttp.Lemmas.C02Run
import Qhttp.Lemmas.SockEqns
import Qhttp.Lemmas.ObsLog
/-
  C15 — history bookkeeping for the slot application and the "quiet" part of every run: once a
  slot observation exists or a response was started, the application never acts again, so the
  slot observations and the bytes on the wire are frozen.
-/
namespace Qhttp.C15L
open Qhttp SlotHandler

/-- `C15.slots`, here so that the lemma files do not depend on the property file -/
def slotsL (obs : List Obs) : List (Nat × Nat) :=
  obs.filterMap fun o => match o with | .slot i a => some (i, a) | _ => none

def passive : Obs → Bool
  | .slot _ _ => false | .w _ => false | .hp => false | _ => true

theorem slotsL_append (a b : List Obs) : slotsL (a ++ b) = slotsL a ++ slotsL b := by
  simp [slotsL, List.filterMap_append]

theorem passive_one {o : Obs} (h : passive o = true) :
    slotsL [o] = [] ∧ Obs.wire [o] = [] ∧ Obs.isHp o = false ∧ isSlot o = false := by
  cases o <;> first | exact ⟨rfl, rfl, rfl, rfl⟩ | exact absurd h (Bool.false_ne_true)

theorem passive_facts (l : List Obs) (h : l.all passive = true) :
    slotsL l = [] ∧ Obs.wire l = [] ∧ l.any Obs.isHp = false ∧ l.any isSlot = false := by
  induction l with
  | nil => exact ⟨rfl, rfl, rfl, rfl⟩
  | cons o l ih =>
    rw [List.all_cons, Bool.and_eq_true] at h
    obtain ⟨p1, p2, p3, p4⟩ := passive_one h.1
    obtain ⟨q1, q2, q3, q4⟩ := ih h.2
    refine ⟨?_, ?_, ?_, ?_⟩
    · rw [← List.singleton_append, slotsL_append, p1, q1]; rfl
    · rw [← List.singleton_append, Obs.wire_append, p2, q2]; rfl
    · rw [List.any_cons, p3, q3]; rfl
    · rw [List.any_cons, p4, q4]; rfl

theorem any_isSlot_false_iff {l : List Obs} : l.any isSlot = false ↔ slotsL l = [] := by
  induction l with
  | nil => exact ⟨fun _ => rfl, fun _ => rfl⟩
  | cons o l ih =>
    rw [List.any_cons, ← List.singleton_append, slotsL_append]
    cases o <;> first
      | exact ih
      | exact ⟨fun h => absurd h (by simp [isSlot]), fun h => absurd h (by simp [slotsL])⟩

def Fr (s s' : Sock) : Prop :=
  s'.ws = s.ws ∧ (s.rs ≠ .headers → s'.rs ≠ .headers) ∧ ∃ l, s'.log = s.log ++ l ∧ l.all passive = true

theorem Fr.refl (s : Sock) : Fr s s := ⟨rfl, id, [], by simp, rfl⟩

theorem Fr.trans {s1 s2 s3 : Sock} (h1 : Fr s1 s2) (h2 : Fr s2 s3) : Fr s1 s3 := by
  obtain ⟨a1, b1, l1, c1, d1⟩ := h1
  obtain ⟨a2, b2, l2, c2, d2⟩ := h2
  refine ⟨a2.trans a1, fun h => b2 (b1 h), l1 ++ l2, by rw [c2, c1, List.append_assoc], ?_⟩
  rw [List.all_append, d1, d2]; rfl

theorem Fr.slots {s s' : Sock} (h : Fr s s') : slotsL s'.log = slotsL s.log := by
  obtain ⟨_, _, l, e, hl⟩ := h
  rw [e, slotsL_append, (passive_facts l hl).1, List.append_nil]

theorem Fr.wire {s s' : Sock} (h : Fr s s') : Obs.wire s'.log = Obs.wire s.log := by
  obtain ⟨_, _, l, e, hl⟩ := h
  rw [e, Obs.wire_append, (passive_facts l hl).2.1, List.append_nil]

theorem Fr.anySlot {s s' : Sock} (h : Fr s s') : s'.log.any isSlot = s.log.any isSlot := by
  obtain ⟨_, _, l, e, hl⟩ := h
  rw [e, List.any_append, (passive_facts l hl).2.2.2, Bool.or_false]

theorem Fr.anyHp {s s' : Sock} (h : Fr s s') : s'.log.any Obs.isHp = s.log.any Obs.isHp := by
  obtain ⟨_, _, l, e, hl⟩ := h
  rw [e, List.any_append, (passive_facts l hl).2.2.1, Bool.or_false]

theorem Fr.log1 (s : Sock) (o : Obs) (ho : passive o = true) : Fr s { s with log := s.log ++ [o] } :=
  ⟨rfl, id, [o], rfl, by simp [ho]⟩

theorem Fr.of_eq {s s' : Sock} (h1 : s'.ws = s.ws) (h2 : s'.rs = s.rs) (h3 : s'.log = s.log) : Fr s s' :=
  ⟨h1, fun h => by rw [h2]; exact h, [], by simp [h3], rfl⟩

/-- the deferred lambda does nothing: it was never connected, or it already ran.
    `SlotHandler.onRcf` decides this from the history `log`, which for this family is therefore
    part of the state, not only a record of it -/
def Silent (s : Sock) : Prop := s.log.any isSlot = true ∨ s.ws ≠ .none

def Quiet (s : Sock) : Prop := s.rs ≠ .headers ∧ Silent s

theorem Silent.fr {s s' : Sock} (h : Silent s) (f : Fr s s') : Silent s' := by
  rcases h with h | h
  · left; rw [f.anySlot]; exact h
  · right; rw [f.1]; exact h

theorem Quiet.fr {s s' : Sock} (h : Quiet s) (f : Fr s s') : Quiet s' := ⟨f.2.1 h.1, h.2.fr f⟩

theorem onRcf_silent (regs : List Reg) (path : QStr) (s : Sock) (h : Silent s) : onRcf regs path s = [] := by
  unfold onRcf
  cases lookup regs path with
  | none => rfl
  | some m =>
    simp only
    rcases h with h | h
    · simp [h]
    · have : (s.ws == WState.none) = false := by
        cases hw : s.ws <;> simp_all
      simp [this]

theorem onRcf_noHp (regs : List Reg) (path : QStr) (s : Sock) (h : s.log.any Obs.isHp = false) :
    onRcf regs path s = [] := by
  unfold onRcf
  cases lookup regs path with
  | none => rfl
  | some m => simp [h]

theorem emit_nil (env : Env) (app : App) (s : Sock) (o : Obs) :
    Sock.emit env app s o [] = { s with log := s.log ++ [o] } := rfl

section quiet
variable (env : Env) (regs : List Reg) (path : QStr)

theorem cutS_fr (s : Sock) : Fr s (C02.cutS s) := by
  unfold C02.cutS; split
  · exact Fr.of_eq rfl rfl rfl
  · exact Fr.refl s

theorem cutS_log (s : Sock) : (C02.cutS s).log = s.log := by
  unfold C02.cutS; split <;> rfl

theorem rrS_fr (s : Sock) : Fr s (C02.rrS env (app regs path) s) := by
  unfold C02.rrS; split
  · exact Fr.log1 s .rr rfl
  · exact Fr.refl s

theorem pullS_fr (s : Sock) : Fr s (C02.pullS s) := by
  unfold C02.pullS; split
  · exact Fr.of_eq rfl rfl rfl
  · exact Fr.refl s

theorem finS_silent (s : Sock) (h : Silent s) : Fr s (C02.finS env (app regs path) s) := by
  unfold C02.finS; split
  · have hs : Silent { s with rs := .finished } := h
    show Fr s (Sock.emit env (app regs path) { s with rs := .finished } .rcf (onRcf regs path { s with rs := .finished }))
    rw [onRcf_silent regs path _ hs, emit_nil]
    exact ⟨rfl, fun _ => by simp, [.rcf], rfl, rfl⟩
  · exact Fr.refl s

theorem readDataSlot_silent (s : Sock) (h : Silent s) :
    Fr s (Sock.readDataSlot env (app regs path) s) := by
  rw [C02.readDataSlot_eq]
  have f1 := cutS_fr s
  have f2 := rrS_fr env regs path (C02.cutS s)
  have f12 := f1.trans f2
  exact f12.trans (finS_silent env regs path _ (h.fr f12))

theorem onReadyRead_quiet (s : Sock) (h : Quiet s) : Fr s (Sock.onReadyRead env (app regs path) s) := by
  rw [C02.onReadyRead_eq]
  split
  · split
    · exact Fr.of_eq rfl rfl rfl
    · exact Fr.refl s
  · rename_i hnf
    have hd : s.rs = .data := by
      have := h.1
      cases hr : s.rs <;> simp_all
    have f1 := pullS_fr s
    have hd1 : (C02.pullS s).rs = .data := by rw [C02.pullS_rs, hd]
    rw [C02.orrBody_data _ _ _ hd1]
    exact f1.trans (readDataSlot_silent env regs path _ (h.2.fr f1))

theorem emitDc_fr (s : Sock) : Fr s (Sock.emitDc env (app regs path) s) := by
  have : Sock.emitDc env (app regs path) s =
      { s with dcFlag := false, log := s.log ++ [Obs.dc], delPending := s.delPending || s.closeCalled } := rfl
  rw [this]
  exact ⟨rfl, id, [.dc], rfl, rfl⟩

theorem onRCF_fr (s : Sock) (h : Silent s ∨ s.log.any Obs.isHp = false) :
    Fr s (Sock.onReadChannelFinished env (app regs path) s) := by
  unfold Sock.onReadChannelFinished
  split
  · have : onRcf regs path s = [] := by
      rcases h with h | h
      · exact onRcf_silent regs path s h
      · exact onRcf_noHp regs path s h
    show Fr s (Sock.emit env (app regs path) s .rcf (onRcf regs path s))
    rw [this, emit_nil]
    exact Fr.log1 s .rcf rfl
  · exact Fr.refl s

/-- one event of the scenario shape (`slotEvents` is the shape of a whole event list) -/
def slotEvent : Event → Bool
  | .feed _ => true | .turn => true | .peerClose => true | _ => false

theorem step_quiet (s : Sock) (h : Quiet s) (e : Event) (he : slotEvent e = true) :
    Fr s (Sock.step env (app regs path) s e) := by
  cases ha : s.alive
  · rw [Sock.step_dead env _ e ha]
    exact Fr.refl s
  · cases e with
    | feed seg =>
      rw [Sock.step_feed env _ s seg ha]
      have f0 : Fr s { s with tcp := { s.tcp with inbox := s.tcp.inbox ++ seg } } := Fr.of_eq rfl rfl rfl
      exact f0.trans (onReadyRead_quiet env regs path _ (h.fr f0))
    | peerClose =>
      rw [Sock.step_peerClose env _ s ha]
      split
      · exact Fr.refl s
      · have f0 : Fr s { s with tcp := { s.tcp with conn := .unconnected } } := Fr.of_eq rfl rfl rfl
        have f1 := onRCF_fr env regs path _ (Or.inl (h.2.fr f0))
        exact (f0.trans f1).trans (emitDc_fr env regs path _)
    | turn =>
      rw [Sock.step_turn env _ s ha]
      have f1 : Fr s (if s.initPending then Sock.onReadyRead env (app regs path) { s with initPending := false } else s) := by
        split
        · have f0 : Fr s { s with initPending := false } := Fr.of_eq rfl rfl rfl
          exact f0.trans (onReadyRead_quiet env regs path _ (h.fr f0))
        · exact Fr.refl s
      generalize (if s.initPending then Sock.onReadyRead env (app regs path) { s with initPending := false } else s) = s1 at f1
      dsimp only
      split
      · exact f1.trans ⟨rfl, id, [.del], rfl, rfl⟩
      · exact f1
    | _ => exact absurd he Bool.false_ne_true

end quiet
end Qhttp.C15L
