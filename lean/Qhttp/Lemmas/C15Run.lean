import Qhttp.Lemmas.C15Phase
/-
  C15 — the invariant `SInv` of a run of the slot application: kept by `onReadyRead`, by each
  event of the scenario shape, by whole runs; and what it says of the history (`Verdict`).
-/
namespace Qhttp.C15L
open Qhttp SlotHandler

/-- the invariant (`S` for slot) between two external events, against `fed` = all bytes delivered
    so far (`inb`: in the transport, not yet pulled; `c`: still connected).  One constructor per
    verdict on the stream: head incomplete / rejected / unknown path (404) / unusable registration
    (500) / slot invoked / invocation deferred until the declared body is there. -/
inductive SInv (env : Env) (regs : List Reg) (path : QStr) (c : Bool) (fed inb : Bytes) (s : Sock) : Prop
  | hdr (h : PH c fed inb s) (hb : breakOn CRLF2 fed = none)
  | rej (head rest : Bytes) (hb : breakOn CRLF2 fed = some (head, rest))
      (he : C01.expect env head = none) (hq : Quiet s) (hs : slotsL s.log = [])
  | unknown (head rest : Bytes) (f : Snap) (hb : breakOn CRLF2 fed = some (head, rest))
      (he : C01.expect env head = some f) (hl : lookup regs path = none)
      (hq : Quiet s) (hs : slotsL s.log = []) (hw : Obs.wire s.log = C09L.errWire env 404)
  | failed (head rest : Bytes) (f : Snap) (m : Reg) (hb : breakOn CRLF2 fed = some (head, rest))
      (he : C01.expect env head = some f) (hl : lookup regs path = some m) (hg : m.good = false)
      (hq : Quiet s) (hs : slotsL s.log = []) (hw : Obs.wire s.log = C09L.errWire env 500)
  | invoked (head rest : Bytes) (f : Snap) (m : Reg) (a : Nat) (hb : breakOn CRLF2 fed = some (head, rest))
      (he : C01.expect env head = some f) (hl : lookup regs path = some m) (hg : m.good = true)
      (hq : Quiet s) (hs : slotsL s.log = [(m.idx, a)])
      (ha : m.readAll = true → f.total ≤ (a : Int))
      (hc : m.readAll = false → ∃ l1 l2, s.log = l1 ++ Obs.hp :: Obs.slot m.idx a :: l2)
  | deferred (head rest : Bytes) (f : Snap) (m : Reg) (hb : breakOn CRLF2 fed = some (head, rest))
      (he : C01.expect env head = some f) (hl : lookup regs path = some m) (hra : m.readAll = true)
      (hN : 0 ≤ f.total) (h : P2 c f.total.toNat rest inb s)

section
variable {env : Env} {regs : List Reg} {path : QStr}

theorem SInv.fr {c : Bool} {fed inb : Bytes} {s s' : Sock} (h : SInv env regs path c fed inb s)
    (hq : Quiet s) (f : Fr s s') (seg : Bytes) (c' : Bool) (inb' : Bytes) :
    SInv env regs path c' (fed ++ seg) inb' s' := by
  cases h with
  | hdr h _ => exact absurd h.rs hq.1
  | rej head rest hb he _ hs =>
    exact .rej head (rest ++ seg) (breakOn_append _ hb) he (hq.fr f) (by rw [f.slots]; exact hs)
  | unknown head rest f' hb he hl _ hs hw =>
    exact .unknown head (rest ++ seg) f' (breakOn_append _ hb) he hl (hq.fr f)
      (by rw [f.slots]; exact hs) (by rw [f.wire]; exact hw)
  | failed head rest f' m hb he hl hg _ hs hw =>
    exact .failed head (rest ++ seg) f' m (breakOn_append _ hb) he hl hg
      (hq.fr f)
      (by rw [f.slots]; exact hs) (by rw [f.wire]; exact hw)
  | invoked head rest f' m a hb he hl hg _ hs ha hc =>
    refine .invoked head (rest ++ seg) f' m a (breakOn_append _ hb) he hl hg (hq.fr f)
      (by rw [f.slots]; exact hs) ha ?_
    intro hr
    obtain ⟨l1, l2, e⟩ := hc hr
    obtain ⟨_, _, l, el, _⟩ := f
    exact ⟨l1, l2 ++ l, by rw [el, e]; simp⟩
  | deferred head rest f' m hb he hl hra hN h => exact absurd hq.2 h.opn.not_silent

/-- what `onReadyRead` does after `readHeaders` reported success -/
def afterHp (env : Env) (app : App) (r : Sock) : Sock :=
  match r.rs with
  | .data => Sock.readDataSlot env app r
  | .finished => { r with readBuffer := [] }
  | .headers => r

theorem afterHp_data (env : Env) (app : App) (r : Sock) (h : r.rs = .data) :
    afterHp env app r = Sock.readDataSlot env app r := by
  unfold afterHp; split <;> simp_all

theorem afterHp_fin (env : Env) (app : App) (r : Sock) (h : r.rs = .finished) :
    afterHp env app r = { r with readBuffer := [] } := by
  unfold afterHp; split <;> simp_all

variable (env regs path)

/-- `orr_` = `onReadyRead`.  No blank line yet: nothing happens -/
theorem orr_PH_none {c : Bool} {fed seg : Bytes} {s : Sock} (h : PH c fed seg s)
    (hb : breakOn CRLF2 (fed ++ seg) = none) :
    PH c (fed ++ seg) [] (Sock.onReadyRead env (app regs path) s) := by
  rw [C02.onReadyRead_eq, if_neg (by rw [h.rs]; simp)]
  have h1 := h.pull fun hr => by cases hr
  rw [C02.orrBody_headers_none _ _ _ h1.rs (by rw [h1.buf]; exact hb)]
  exact h1

theorem cutBuf_short {t : Int} {rest : Bytes} (h : ((cutBuf t rest).length : Int) < t) :
    cutBuf t rest = rest ∧ (rest.length : Int) < t := by
  unfold cutBuf at h ⊢
  split
  · rename_i hc
    rw [if_pos hc] at h
    simp at hc h
    omega
  · rename_i hc
    rw [if_neg hc] at h
    exact ⟨rfl, h⟩

/-- the blank line arrives: the head is judged and, if accepted, routed -/
theorem orr_PH_some {fed seg head rest : Bytes} {s : Sock} (h : PH true fed seg s)
    (hb : breakOn CRLF2 (fed ++ seg) = some (head, rest)) :
    SInv env regs path true (fed ++ seg) [] (Sock.onReadyRead env (app regs path) s) := by
  rw [C02.onReadyRead_eq, if_neg (by rw [h.rs]; simp)]
  have h1 := h.pull fun hr => by cases hr
  generalize C02.pullS s = s1 at h1
  have hb1 : breakOn CRLF2 s1.readBuffer = some (head, rest) := by rw [h1.buf]; exact hb
  unfold C02.orrBody
  simp only [h1.rs, if_true]
  cases he : C01.expect env head with
  | none =>
    rw [readHeaders_rej env _ s1 head rest (h1.reqH rfl) hb1 he]
    obtain ⟨_, g2, g3, _, _, g6⟩ :=
      C09L.writeError_state env s1 400 h1.opn.ioOpen h1.opn.devOpen (h1.opn.conn rfl)
    rw [h1.opn.dcFlag] at g3
    simp only [g3, Bool.false_eq_true, if_false, Bool.not_false, if_true]
    refine .rej head rest hb he ⟨by rw [g2]; simp, Or.inr (by rw [writeError_ws]; simp)⟩ ?_
    rw [g6, slotsL_append, h1.opn.slots]
    cases (C09L.errBody env 400).isEmpty <;> rfl
  | some f =>
    obtain ⟨sH, hH, hr⟩ := readHeaders_acc env (app regs path) s1 head rest f (h1.reqH rfl) h1.total hb1 he
    rw [hr]
    simp only [Bool.not_true, Bool.false_eq_true, if_false]
    -- the state in which `headersParsed` is emitted
    have o : Opn true sH := h1.opn.same hH.ctl (congrArg (·.conn) hH.tcp) hH.log
    have hrs := hH.rs
    have hbuf := hH.buf
    have hq0 : sH.qio = [] := hH.qio.trans h1.qio
    have hd0 : sH.dataRead = 0 := hH.dataRead.trans h1.dataRead
    have ht0 := hH.total
    have hin : sH.tcp.inbox = [] := (congrArg (·.inbox) hH.tcp).trans h1.inbox
    have hav : Sock.bytesAvailable sH = (cutBuf f.total rest).length := by
      rw [bytesAvailable_data _ (by rw [hrs]; simp), hbuf, hq0]; rfl
    show SInv env regs path true (fed ++ seg) []
      (afterHp env (app regs path) (Sock.emit env (app regs path) sH .hp (onHp regs path sH)))
    cases hl : lookup regs path with
    | none =>
      have e : onHp regs path sH = [.err 404 none] := by unfold onHp; rw [hl]
      rw [e]
      obtain ⟨b1, b2, b3, b4⟩ := emit_err env regs path o .hp rfl rfl 404
      generalize Sock.emit env (app regs path) sH .hp [.err 404 none] = r at b1 b2 b3 b4
      rw [afterHp_fin _ _ _ b1]
      exact .unknown head rest f hb he hl
        ⟨(by rw [b1]; simp : r.rs ≠ .headers), Or.inr (by rw [b2]; simp : r.ws ≠ .none)⟩ b3 b4
    | some m =>
      by_cases hcond : (!m.readAll || decide ((Sock.bytesAvailable sH : Int) ≥ sH.total)) = true
      · have e : onHp regs path sH = invoke m sH := by unfold onHp; rw [hl]; simp only; rw [if_pos hcond]
        rw [e]
        obtain ⟨g, b⟩ := emit_invoke env regs path o .hp rfl rfl m
        cases hg : m.good with
        | true =>
          rw [g hg, hav, afterHp_data _ _ _ (by exact hrs)]
          have hsil : Silent { sH with log := sH.log ++ [Obs.hp] ++ [Obs.slot m.idx (cutBuf f.total rest).length] } := by
            left
            show (sH.log ++ [Obs.hp] ++ [Obs.slot m.idx (cutBuf f.total rest).length]).any isSlot = true
            simp [isSlot]
          have fr := readDataSlot_silent env regs path _ hsil
          have hsl : slotsL (sH.log ++ [Obs.hp] ++ [Obs.slot m.idx (cutBuf f.total rest).length]) =
              [(m.idx, (cutBuf f.total rest).length)] := by
            rw [slotsL_append, slotsL_append, o.slots]; rfl
          refine .invoked head rest f m (cutBuf f.total rest).length hb he hl hg
            (Quiet.fr ⟨by simp [hrs], hsil⟩ fr) (by rw [fr.slots]; exact hsl) ?_ ?_
          · intro hra
            rw [hra, hav, ht0] at hcond
            simpa using hcond
          · intro _
            obtain ⟨_, _, l, el, _⟩ := fr
            exact ⟨sH.log, l, by rw [el]; simp⟩
        | false =>
          obtain ⟨b1, b2, b3, b4⟩ := b hg
          generalize Sock.emit env (app regs path) sH .hp (invoke m sH) = r at b1 b2 b3 b4
          rw [afterHp_fin _ _ _ b1]
          exact .failed head rest f m hb he hl hg
            ⟨(by rw [b1]; simp : r.rs ≠ .headers), Or.inr (by rw [b2]; simp : r.ws ≠ .none)⟩ b3 b4
      · have e : onHp regs path sH = [] := by unfold onHp; rw [hl]; simp only; rw [if_neg hcond]
        rw [e, emit_nil, afterHp_data _ _ _ (by exact hrs)]
        have hra : m.readAll = true := by
          cases hr : m.readAll
          · rw [hr] at hcond; simp at hcond
          · rfl
        have hlt : ((cutBuf f.total rest).length : Int) < f.total := by
          rw [hra, hav, ht0] at hcond
          simpa using hcond
        obtain ⟨hc1, hc2⟩ := cutBuf_short hlt
        have hN : 0 ≤ f.total := by omega
        have hp2 : P2 true f.total.toNat rest [] { sH with log := sH.log ++ [Obs.hp] } :=
          ⟨o.log1 .hp rfl rfl, hrs, by show sH.readBuffer = rest; rw [hbuf, hc1], hin,
            (fun hr => by cases hr), hq0, hd0, by show sH.total = _; rw [ht0]; omega,
            by show (sH.log ++ [Obs.hp]).any Obs.isHp = true; simp [Obs.isHp], (fun _ => by omega)⟩
        exact .deferred head rest f m hb he hl hra hN (P2.readDataSlot_short env regs path hp2)

theorem orr_P2_short {c : Bool} {N : Nat} {B seg : Bytes} {s : Sock} (h : P2 c N B seg s)
    (hlt : (B ++ seg).length < N) :
    P2 c N (B ++ seg) [] (Sock.onReadyRead env (app regs path) s) := by
  rw [C02.onReadyRead_eq, if_neg (by rw [h.rs]; simp)]
  have h1 := h.pull fun _ => by
    rw [List.length_append] at hlt ⊢
    omega
  rw [C02.orrBody_data _ _ _ h1.rs]
  exact P2.readDataSlot_short env regs path h1

theorem orr_P2_full {N : Nat} {B seg : Bytes} {s : Sock} {m : Reg} (h : P2 true N B seg s)
    (hge : N ≤ (B ++ seg).length) (hl : lookup regs path = some m) (hra : m.readAll = true) :
    Quiet (Sock.onReadyRead env (app regs path) s) ∧
    (m.good = true → slotsL (Sock.onReadyRead env (app regs path) s).log = [(m.idx, N)]) ∧
    (m.good = false → slotsL (Sock.onReadyRead env (app regs path) s).log = [] ∧
      Obs.wire (Sock.onReadyRead env (app regs path) s).log = C09L.errWire env 500) := by
  rw [C02.onReadyRead_eq, if_neg (by rw [h.rs]; simp)]
  have hrs1 : (C02.pullS s).rs = .data := by rw [C02.pullS_rs]; exact h.rs
  rw [C02.orrBody_data _ _ _ hrs1]
  unfold C02.pullS
  rw [if_pos h.opn.devOpen]
  exact readDataSlot_full env regs path (h.opn.same rfl rfl rfl) h.rs
    (by show s.readBuffer ++ s.tcp.inbox = B ++ seg; rw [h.buf, h.inbox]) hge h.qio h.dataRead h.total h.hp hl hra

variable {env regs path}

theorem SInv.active {c : Bool} {fed inb : Bytes} {s : Sock} (h : SInv env regs path c fed inb s)
    (hq : ¬ Quiet s) :
    (PH c fed inb s ∧ breakOn CRLF2 fed = none) ∨
    (∃ head rest f m, breakOn CRLF2 fed = some (head, rest) ∧ C01.expect env head = some f ∧
      lookup regs path = some m ∧ m.readAll = true ∧ 0 ≤ f.total ∧ P2 c f.total.toNat rest inb s) := by
  cases h with
  | hdr h hb => exact Or.inl ⟨h, hb⟩
  | rej head rest hb he hq' hs => exact absurd hq' hq
  | unknown head rest f' hb he hl hq' hs hw => exact absurd hq' hq
  | failed head rest f' m hb he hl hg hq' hs hw => exact absurd hq' hq
  | invoked head rest f' m a hb he hl hg hq' hs ha hc => exact absurd hq' hq
  | deferred head rest f m hb he hl hra hN h => exact Or.inr ⟨head, rest, f, m, hb, he, hl, hra, hN, h⟩

/-- `seg`: what the transport holds; nothing for the queued initial call, and a segment arrives
    only while the peer is connected -/
theorem SInv.orr {c : Bool} {fed seg : Bytes} {s : Sock} (h : SInv env regs path c fed seg s)
    (hc : seg ≠ [] → c = true) :
    SInv env regs path c (fed ++ seg) [] (Sock.onReadyRead env (app regs path) s) := by
  by_cases hq : Quiet s
  · exact h.fr hq (onReadyRead_quiet env regs path s hq) seg c []
  · rcases h.active hq with ⟨p, hb⟩ | ⟨head, rest, f, m, hb, he, hl, hra, hN, p⟩
    · cases hb2 : breakOn CRLF2 (fed ++ seg) with
      | none => exact .hdr (orr_PH_none env regs path p hb2) hb2
      | some pr =>
        have hc' : c = true := hc fun e => by rw [e, List.append_nil, hb] at hb2; cases hb2
        subst hc'
        exact orr_PH_some env regs path p hb2
    · have hb2 := breakOn_append seg hb
      by_cases hlt : (rest ++ seg).length < f.total.toNat
      · exact .deferred head (rest ++ seg) f m hb2 he hl hra hN (orr_P2_short env regs path p hlt)
      · have hc' : c = true := hc fun e => by rw [e, List.append_nil] at hlt; exact hlt (by have := p.short rfl; omega)
        subst hc'
        obtain ⟨q, g, b⟩ := orr_P2_full env regs path p (by omega) hl hra
        cases hg : m.good with
        | true =>
          exact .invoked head (rest ++ seg) f m f.total.toNat hb2 he hl hg q (g hg) (fun _ => by omega)
            (fun hr => by rw [hra] at hr; exact absurd hr (by simp))
        | false =>
          obtain ⟨b1, b2⟩ := b hg
          exact .failed head (rest ++ seg) f m hb2 he hl hg q b1 b2

theorem emitDc_open {c : Bool} {s : Sock} (h : Opn c s) :
    Sock.emitDc env (app regs path) s = { s with log := s.log ++ [Obs.dc] } := by
  have h1 := h.dcFlag
  have h2 := h.delPending
  have h3 := h.closeCalled
  obtain ⟨tcp, rb, qio, rs, method, rawPath, path', query, reqHeaders, dataRead, total, ws, code, reason,
    respHeaders, hdrRemaining, ioOpen, initPending, closeCalled, dcFlag, delPending, alive, log⟩ := s
  simp only at h1 h2 h3
  subst h1 h2 h3
  rfl

theorem SInv.same {c : Bool} {fed inb inb' : Bytes} {s s' : Sock} (h : SInv env regs path c fed inb s)
    (h1 : core s' = core s) (h2 : s'.tcp.conn = s.tcp.conn) (h3 : s'.tcp.inbox = inb') :
    SInv env regs path c fed inb' s' := by
  by_cases hq : Quiet s
  · have e := h1
    simp only [core, C15L.ctl, Prod.mk.injEq] at e
    have f : Fr s s' := Fr.of_eq e.1.2.2.2.2.2.2.1 e.2.2.1 e.2.1
    simpa using h.fr hq f [] c inb'
  · rcases h.active hq with ⟨p, hb⟩ | ⟨head, rest, f, m, hb, he, hl, hra, hN, p⟩
    · exact .hdr (p.same h1 h2 h3) hb
    · exact .deferred head rest f m hb he hl hra hN (p.same h1 h2 h3)

theorem SInv.log1 {c : Bool} {fed inb : Bytes} {s : Sock} (h : SInv env regs path c fed inb s)
    (o : Obs) (ho : passive o = true) : SInv env regs path c fed inb { s with log := s.log ++ [o] } := by
  by_cases hq : Quiet s
  · simpa using h.fr hq (Fr.log1 s o ho) [] c inb
  · rcases h.active hq with ⟨p, hb⟩ | ⟨head, rest, f, m, hb, he, hl, hra, hN, p⟩
    · exact .hdr (p.log1 o ho) hb
    · exact .deferred head rest f m hb he hl hra hN (p.log1 o ho)

theorem SInv.alive {c : Bool} {fed inb : Bytes} {s : Sock} (h : SInv env regs path c fed inb s)
    (hq : ¬ Quiet s) : s.alive = true ∧ s.delPending = false ∧ s.tcp.inbox = inb := by
  rcases h.active hq with ⟨p, _⟩ | ⟨_, _, _, _, _, _, _, _, _, p⟩
  · exact ⟨p.opn.alive, p.opn.delPending, p.inbox⟩
  · exact ⟨p.opn.alive, p.opn.delPending, p.inbox⟩

theorem SInv.step_feed {fed : Bytes} {s : Sock} (h : SInv env regs path true fed [] s) (seg : Bytes) :
    SInv env regs path true (fed ++ seg) [] (Sock.step env (app regs path) s (.feed seg)) := by
  by_cases hq : Quiet s
  · exact h.fr hq (step_quiet env regs path s hq _ rfl) seg true []
  · rw [Sock.step_feed env _ s seg (h.alive hq).1]
    exact (h.same (s' := { s with tcp := { s.tcp with inbox := s.tcp.inbox ++ seg } }) rfl rfl
      (by show s.tcp.inbox ++ seg = seg; rw [(h.alive hq).2.2]; rfl)).orr fun _ => rfl

theorem SInv.step_turn {c : Bool} {fed : Bytes} {s : Sock} (h : SInv env regs path c fed [] s) :
    SInv env regs path c fed [] (Sock.step env (app regs path) s .turn) := by
  by_cases hq : Quiet s
  · simpa using h.fr hq (step_quiet env regs path s hq _ rfl) [] c []
  · rw [Sock.step_turn env _ s (h.alive hq).1]
    dsimp only
    have hin := (h.alive hq).2.2
    have h1 : SInv env regs path c fed []
        (if s.initPending then Sock.onReadyRead env (app regs path) { s with initPending := false } else s) := by
      split
      · have := (h.same (s' := { s with initPending := false }) rfl rfl hin).orr fun e => absurd rfl e
        rw [List.append_nil] at this
        exact this
      · exact h
    generalize (if s.initPending then Sock.onReadyRead env (app regs path) { s with initPending := false } else s)
      = s1 at h1
    split
    · rename_i hdel
      by_cases hq1 : Quiet s1
      · simpa using h1.fr hq1 (s' := { s1 with alive := false, delPending := false, log := s1.log ++ [Obs.del] })
          ⟨rfl, id, [.del], rfl, rfl⟩ [] c []
      · rw [(h1.alive hq1).2.1] at hdel
        exact absurd hdel (by simp)
    · exact h1

theorem SInv.step_peerClose {c : Bool} {fed : Bytes} {s : Sock} (h : SInv env regs path c fed [] s) :
    SInv env regs path false fed [] (Sock.step env (app regs path) s .peerClose) := by
  by_cases hq : Quiet s
  · simpa using h.fr hq (step_quiet env regs path s hq _ rfl) [] false []
  · rw [Sock.step_peerClose env _ s (h.alive hq).1]
    rcases h.active hq with ⟨p, hb⟩ | ⟨head, rest, f, m, hb, he, hl, hra, hN, p⟩
    · split
      · exact .hdr p.weaken hb
      · have p1 := p.unconn
        generalize ({ s with tcp := { s.tcp with conn := .unconnected } } : Sock) = s1 at p1
        have e : Sock.onReadChannelFinished env (app regs path) s1 = { s1 with log := s1.log ++ [Obs.rcf] } := by
          unfold Sock.onReadChannelFinished
          rw [if_pos p1.total]
          show Sock.emit env (app regs path) s1 .rcf (onRcf regs path s1) = _
          rw [onRcf_noHp regs path s1 p1.hp, emit_nil]
        rw [e]
        have p2 := p1.log1 .rcf rfl
        rw [emitDc_open p2.opn]
        exact .hdr (p2.log1 .dc rfl) hb
    · split
      · exact .deferred head rest f m hb he hl hra hN p.weaken
      · have p1 := p.unconn
        generalize ({ s with tcp := { s.tcp with conn := .unconnected } } : Sock) = s1 at p1
        have e : Sock.onReadChannelFinished env (app regs path) s1 = s1 := by
          unfold Sock.onReadChannelFinished
          rw [if_neg (by rw [p1.total]; omega)]
        rw [e, emitDc_open p1.opn]
        exact .deferred head rest f m hb he hl hra hN (p1.log1 .dc rfl)

/-- `c`: the peer has not closed yet -/
def shapeFrom : Bool → List Event → Bool
  | _, [] => true
  | true, .feed _ :: l => shapeFrom true l
  | c, .turn :: l => shapeFrom c l
  | true, .peerClose :: l => shapeFrom false l
  | _, _ => false

/-- the scenario shape of C15: `new (feed seg | turn)* [peerClose turn*]` -/
def slotEvents : List Event → Bool
  | .new :: rest => shapeFrom true rest
  | _ => false

theorem SInv.mark {c : Bool} {fed : Bytes} {s : Sock} (h : SInv env regs path c fed [] s) (k : Nat) :
    SInv env regs path c fed [] (if !s.alive then s else { s with log := s.log ++ [Obs.ev k] }) := by
  split
  · exact h
  · exact h.log1 _ rfl

theorem fed_cons (e : Event) (l : List Event) :
    Scenario.fed (e :: l) = (match e with | .prebuf b => b | .feed b => b | _ => []) ++ Scenario.fed l := by
  unfold Scenario.fed
  rw [List.flatMap_cons]
  rfl

theorem fold_inv : ∀ (l : List Event) (c : Bool) (fed : Bytes) (s : Sock) (k : Nat),
    shapeFrom c l = true → SInv env regs path c fed [] s →
    ∃ c', SInv env regs path c' (fed ++ Scenario.fed l) [] (l.foldl (Sock.stepK env (app regs path)) (s, k)).1 := by
  intro l
  induction l with
  | nil => intro c fed s k _ h; exact ⟨c, by simpa [Scenario.fed] using h⟩
  | cons e l ih =>
    intro c fed s k hs h
    rw [List.foldl_cons, fed_cons]
    have hm := h.mark k
    cases e with
    | feed seg =>
      cases c with
      | false => exact absurd hs Bool.false_ne_true
      | true =>
        rw [← List.append_assoc]
        exact ih true (fed ++ seg) _ (k + 1) hs (hm.step_feed seg)
    | turn =>
      exact ih c fed _ (k + 1) (by cases c <;> exact hs) hm.step_turn
    | peerClose =>
      cases c with
      | false => exact absurd hs Bool.false_ne_true
      | true =>
          exact ih false fed _ (k + 1) hs hm.step_peerClose
    | prebuf b => cases c <;> simp [shapeFrom] at hs
    | new => cases c <;> simp [shapeFrom] at hs
    | ack n => cases c <;> simp [shapeFrom] at hs
    | ackAll => cases c <;> simp [shapeFrom] at hs
    | api op => cases c <;> simp [shapeFrom] at hs

theorem SInv.init : SInv env regs path true [] [] ({ initPending := true, log := [Obs.ev 0] } : Sock) :=
  .hdr ⟨⟨rfl, fun _ => rfl, rfl, rfl⟩, rfl, rfl, rfl, fun _ => rfl, rfl, rfl, rfl, rfl, fun hr => by cases hr⟩
    (by decide)

variable (env regs path)

theorem run_inv (evs : List Event) (h : slotEvents evs = true) :
    ∃ c, SInv env regs path c (Scenario.fed evs) [] (Sock.run env (app regs path) evs) := by
  cases evs with
  | nil => simp [slotEvents] at h
  | cons e rest =>
    cases e <;> simp [slotEvents] at h
    have := fold_inv rest true [] _ 1 h (SInv.init (env := env) (regs := regs) (path := path))
    rw [fed_cons]
    simpa [Sock.run, List.foldl_cons, C09L.stepK_new] using this

/-- what the invariant says about the history in the terms of the stream alone: where the blank
    line is, what the library makes of the head and what is registered decide the case -/
def Verdict (env : Env) (regs : List Reg) (path : QStr) (fed : Bytes) (s : Sock) : Prop :=
  match breakOn CRLF2 fed with
  | none => slotsL s.log = []
  | some (head, rest) =>
    match C01.expect env head with
    | none => slotsL s.log = []
    | some f =>
      match lookup regs path with
      | none => slotsL s.log = [] ∧ Obs.wire s.log = C09L.errWire env 404
      | some m =>
        (slotsL s.log = [] ∧
          (m.good = false ∧ Obs.wire s.log = C09L.errWire env 500 ∨
            m.readAll = true ∧ (rest.length : Int) < f.total)) ∨
        (m.good = true ∧ ∃ a, slotsL s.log = [(m.idx, a)] ∧ (m.readAll = true → f.total ≤ (a : Int)) ∧
          (m.readAll = false → ∃ l1 l2, s.log = l1 ++ Obs.hp :: Obs.slot m.idx a :: l2))

variable {env regs path} in
theorem SInv.verdict {c : Bool} {fed inb : Bytes} {s : Sock} (h : SInv env regs path c fed inb s) :
    Verdict env regs path fed s := by
  unfold Verdict
  cases h with
  | hdr h hb => rw [hb]; exact h.opn.slots
  | rej head rest hb he hq hs => simp only [hb, he]; exact hs
  | unknown head rest f hb he hl hq hs hw => simp only [hb, he, hl]; exact ⟨hs, hw⟩
  | failed head rest f m hb he hl hg hq hs hw =>
    simp only [hb, he, hl]; exact Or.inl ⟨hs, Or.inl ⟨hg, hw⟩⟩
  | invoked head rest f m a hb he hl hg hq hs ha hc =>
    simp only [hb, he, hl]; exact Or.inr ⟨hg, a, hs, ha, hc⟩
  | deferred head rest f m hb he hl hra hN h =>
    simp only [hb, he, hl]
    have := h.short rfl
    exact Or.inl ⟨h.opn.slots, Or.inr ⟨hra, by omega⟩⟩

theorem run_verdict (evs : List Event) (h : slotEvents evs = true) :
    Verdict env regs path (Scenario.fed evs) (Sock.run env (app regs path) evs) := by
  obtain ⟨c, hi⟩ := run_inv env regs path evs h
  exact hi.verdict

end

end Qhttp.C15L
