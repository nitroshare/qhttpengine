import Qhttp.Lemmas.ProxyGen
import Qhttp.Lemmas.C02C01
import Qhttp.Lemmas.C19Api
/-
  C12 — streams whose head is never complete or is rejected: `headersParsed` is never emitted, the
  request is never routed, nothing reaches the upstream server.
-/
namespace Qhttp.ProxyL
open Qhttp Proxy Qhttp.C02

theorem upBytes_snoc_quiet (l : List Obs) {o : Obs} (h : quiet0 o = true) : upBytes (l ++ [o]) = upBytes l := by
  rw [upBytes_append, upBytes_quiet [o] (by rw [List.all_cons, h]; rfl), List.append_nil]

theorem upBytes_frame (u : Bytes) : C19L.Frame quiet0 (fun s => upBytes s.log = u) where
  res := by
    intro o h
    cases o with
    | rd b => rfl
    | av n => rfl
    | snap x => rfl
    | _ => cases h
  same := fun s s' hs h => (congrArg upBytes hs.l).trans h
  tw := by
    intro s b h
    rcases Sock.tcpWrite_cases s b with e | ⟨_, _, _, e⟩
    · rw [e]; exact h
    · rw [e]; exact (upBytes_snoc_quiet s.log rfl).trans h
  tcl := fun s _ h => Sock.tcpClose_cases s (P := fun t => upBytes t.log = u) (fun _ => h)
    (fun _ _ _ => (upBytes_snoc_quiet s.log rfl).trans h) (fun _ _ _ => (upBytes_snoc_quiet s.log rfl).trans h)
    (fun _ _ => (upBytes_snoc_quiet s.log rfl).trans h)
  note := fun s o ho h => (upBytes_snoc_quiet s.log ho).trans h

theorem emitDc_app (env : Env) (s : Sock) :
    (Sock.emitDc env Proxy.app s).rs = s.rs ∧ (Sock.emitDc env Proxy.app s).alive = s.alive ∧
    Obs.countP Obs.isHp (Sock.emitDc env Proxy.app s).log = Obs.countP Obs.isHp s.log ∧
    upBytes (Sock.emitDc env Proxy.app s).log = upBytes s.log := by
  unfold Sock.emitDc
  refine ⟨rfl, rfl, ?_, upBytes_snoc_quiet s.log rfl⟩
  show Obs.countP Obs.isHp (s.log ++ [Obs.dc]) = _
  rw [Obs.countP_append]; rfl

/-- every complete head of the stream is unacceptable (in particular: there is none) -/
def BadStream (env : Env) (stream : Bytes) : Prop :=
  ∀ head rest, breakOn CRLF2 stream = some (head, rest) → C01.expect env head = none

/-- socket invariant of a stream without an acceptable head (`fed`: bytes delivered so far): still
    buffering the head, or finished by the 400 -/
structure JInv (fed : Bytes) (s : Sock) : Prop where
  hp : Obs.countP Obs.isHp s.log = 0
  up : upBytes s.log = []
  hdr : s.rs = .headers → s.alive = true ∧ s.readBuffer = fed ∧ s.reqHeaders = [] ∧ s.tcp.inbox = [] ∧
          s.tcp.devOpen = true ∧ s.delPending = false
  fin : s.rs ≠ .headers → s.rs = .finished

theorem expect_none {env : Env} {head : Bytes} (h : C01.expect env head = none) (rh : Parser.ReqHead)
    (hp : Parser.parseRequestHeaders head [] = some rh) : env.url rh.rawPath = none := by
  unfold C01.expect at h
  rw [hp] at h
  simp only at h
  cases hu : env.url rh.rawPath with
  | none => rfl
  | some pq => rw [hu] at h; cases h

/-- `orr_` = `onReadyRead` -/
theorem orr_bad (env : Env) (fedF fed seg : Bytes) (hbad : BadStream env fedF) (hpre : (fed ++ seg) <+: fedF)
    {s : Sock} (hin : s.rs = .headers → s.tcp.inbox = seg)
    (h : JInv fed { s with tcp := { s.tcp with inbox := [] } }) :
    JInv (fed ++ seg) (Sock.onReadyRead env Proxy.app s) := by
  obtain ⟨hhp, hup, hhdr, hfin⟩ := h
  simp only at hhp hup hhdr hfin
  rw [onReadyRead_eq]
  by_cases hf : s.rs = .finished
  · rw [if_pos hf]
    have hne : s.rs ≠ .headers := by rw [hf]; simp
    split
    · exact ⟨hhp, hup, fun h => absurd h hne, fun _ => hf⟩
    · exact ⟨hhp, hup, fun h => absurd h hne, fun _ => hf⟩
  · rw [if_neg hf]
    have hrs : s.rs = .headers := by
      cases h' : s.rs with
      | headers => rfl
      | data => exact absurd (hfin (by rw [h']; simp)) hf
      | finished => exact absurd h' hf
    obtain ⟨ha, g1, g2, _, gdev, gdel⟩ := hhdr hrs
    have hpl : pullS s = { s with readBuffer := s.readBuffer ++ seg, tcp := { s.tcp with inbox := [] } } := by
      unfold pullS; rw [if_pos gdev, hin hrs]
    rw [hpl, orrBody_headers _ _ _ (by exact hrs)]
    cases hbk : breakOn CRLF2 (s.readBuffer ++ seg) with
    | none =>
      rw [Sock.readHeaders_none _ _ _ (by exact hbk)]
      simp only [Bool.not_false, if_true]
      exact ⟨hhp, hup, fun _ => ⟨ha, by show s.readBuffer ++ seg = fed ++ seg; rw [g1], g2, rfl, gdev, gdel⟩,
        fun h => absurd hrs h⟩
    | some pr =>
      obtain ⟨h', rest⟩ := pr
      have hbuf : s.readBuffer ++ seg = fed ++ seg := by rw [g1]
      obtain ⟨t, _, ht⟩ := C02L.breakOn_prefix CRLF2 (fed ++ seg) fedF h' rest hpre (by rw [← hbuf]; exact hbk)
      have hexp := hbad h' (rest ++ t) ht
      have hb' : ∀ rh, Parser.parseRequestHeaders h'
            ({ s with readBuffer := s.readBuffer ++ seg, tcp := { s.tcp with inbox := [] } } : Sock).reqHeaders = some rh →
            env.url rh.rawPath = none := by
        show ∀ rh, Parser.parseRequestHeaders h' s.reqHeaders = some rh → _
        rw [g2]; exact expect_none hexp
      rw [Sock.readHeaders_bad env Proxy.app _ (by exact hbk) hb']
      simp only [Bool.not_false, if_true]
      generalize hx : ({ s with readBuffer := s.readBuffer ++ seg, tcp := { s.tcp with inbox := [] } } : Sock) = x
      have x1 : Obs.countP Obs.isHp x.log = 0 := by rw [← hx]; exact hhp
      have x2 : upBytes x.log = [] := by rw [← hx]; exact hup
      obtain ⟨w1, _, w3⟩ := writeError_q env x 400 none
      have wu : upBytes (Sock.writeError env x 400 none).log = [] :=
        C19L.writeError_frame (upBytes_frame []) env 400 none x2
      split
      · obtain ⟨d1, _, d3, d4⟩ := emitDc_app env (Sock.writeError env x 400 none)
        have hne : (Sock.emitDc env Proxy.app (Sock.writeError env x 400 none)).rs ≠ .headers := by rw [d1, w3]; simp
        exact ⟨by rw [d3, w1.countHp, x1], d4.trans wu, fun h => absurd h hne, fun _ => by rw [d1, w3]⟩
      · have hne : (Sock.writeError env x 400 none).rs ≠ .headers := by rw [w3]; simp
        exact ⟨by rw [w1.countHp, x1], wu, fun h => absurd h hne, fun _ => w3⟩

theorem JInv.transfer {fed : Bytes} {s s' : Sock} (h : JInv fed s)
    (e1 : Obs.countP Obs.isHp s'.log = Obs.countP Obs.isHp s.log) (e2 : upBytes s'.log = upBytes s.log)
    (e3 : s'.rs = s.rs) (e4 : s'.rs = .headers → s'.alive = s.alive ∧ s'.readBuffer = s.readBuffer ∧
      s'.reqHeaders = s.reqHeaders ∧ s'.tcp.inbox = [] ∧ s'.tcp.devOpen = s.tcp.devOpen ∧
      s'.delPending = s.delPending) : JInv fed s' := by
  refine ⟨e1.trans h.hp, e2.trans h.up, fun hh => ?_, fun hh => by rw [e3]; exact h.fin (by rw [← e3]; exact hh)⟩
  obtain ⟨a, b, c, d, f, g⟩ := e4 hh
  obtain ⟨a', b', c', _, f', g'⟩ := h.hdr (e3.symm.trans hh)
  exact ⟨a.trans a', b.trans b', c.trans c', d, f.trans f', g.trans g'⟩

theorem JInv.snoc {fed : Bytes} {s : Sock} (h : JInv fed s) (o : Obs) (h1 : Obs.isHp o = false)
    (h2 : upBytes [o] = []) : JInv fed { s with log := s.log ++ [o] } :=
  h.transfer (by show Obs.countP Obs.isHp (s.log ++ [o]) = _; rw [Obs.countP_append]; simp [Obs.countP, h1])
    (by show upBytes (s.log ++ [o]) = _; rw [upBytes_append, h2, List.append_nil]) rfl
    (fun hh => ⟨rfl, rfl, rfl, (h.hdr hh).2.2.2.1, rfl, rfl⟩)

theorem JInv.del {fed : Bytes} {r : Sock} (hr : JInv fed r) :
    JInv fed (reap r) := by
  unfold reap
  split
  · rename_i hd
    have hne : r.rs ≠ .headers := fun hh => by
      have := (hr.hdr hh).2.2.2.2.2
      rw [this] at hd; cases hd
    exact ⟨by show Obs.countP Obs.isHp (r.log ++ [Obs.del]) = 0; rw [Obs.countP_append, hr.hp]; rfl,
      by show upBytes (r.log ++ [Obs.del]) = []; rw [upBytes_append, hr.up]; rfl,
      fun hh => absurd hh hne, fun _ => hr.fin hne⟩
  · exact hr

theorem turnSock_bad (env : Env) (fedF fed : Bytes) (hbad : BadStream env fedF) (hpre : fed <+: fedF)
    (k : Nat) {s : Sock} (h : JInv fed s) : JInv fed (turnSock env s k) := by
  have h1 := h.snoc (Obs.ev k) rfl rfl
  by_cases hip : s.initPending = true
  · rw [turnSock_pos env k hip]
    have := orr_bad env fedF fed [] hbad (by simpa using hpre)
      (s := { s with log := s.log ++ [Obs.ev k], initPending := false })
      (fun hh => (h.hdr hh).2.2.2.1)
      (h1.transfer rfl rfl rfl (fun hh => ⟨rfl, rfl, rfl, rfl, rfl, rfl⟩))
    rw [List.append_nil] at this
    exact this
  · rw [turnSock_neg env k hip]; exact h1

theorem stepK_bad (env : Env) (fedF fed : Bytes) (hbad : BadStream env fedF)
    (e : Event) (k : Nat) (he : relaySockEvent e = true) (hpre : (fed ++ evBytesOf e) <+: fedF)
    {s : Sock} (h : JInv fed s) :
    JInv (fed ++ evBytesOf e) (Sock.stepK env Proxy.app (s, k) e).1 := by
  cases ha : s.alive with
  | false =>
    rw [Sock.stepK_dead env Proxy.app k e ha]
    exact ⟨h.hp, h.up, fun hh => (by have := (h.hdr hh).1; rw [ha] at this; cases this), h.fin⟩
  | true =>
    have h1 := h.snoc (Obs.ev k) rfl rfl
    obtain rfl | ⟨seg, rfl⟩ | rfl := relaySock_cases he
    · rw [stepK_new env k ha]
      simp only [evBytesOf, List.append_nil]
      exact h1.transfer rfl rfl rfl (fun hh => ⟨rfl, rfl, rfl, (h1.hdr hh).2.2.2.1, rfl, rfl⟩)
    · rw [stepK_feed env k seg ha]
      simp only [evBytesOf] at hpre ⊢
      apply orr_bad env fedF fed seg hbad hpre
      · intro hh
        show s.tcp.inbox ++ seg = seg
        rw [(h.hdr hh).2.2.2.1]; rfl
      · exact h1.transfer rfl rfl rfl (fun hh => ⟨rfl, rfl, rfl, rfl, rfl, rfl⟩)
    · rw [stepK_turn env k ha]
      simp only [evBytesOf, List.append_nil] at hpre ⊢
      exact (turnSock_bad env fedF fed hbad hpre k h).del

/-- `JInv` of the socket, and the proxy has not begun to connect -/
structure WInv (fed : Bytes) (st : St) : Prop where
  sock : JInv fed st.sock
  conn : st.conn = .none
  toUp : st.toUp = []

theorem routed_none (hpB : Nat) (st : St) (s1 : Sock) (hc : st.conn = .none)
    (hhp : ¬ Obs.countP Obs.isHp s1.log > hpB) :
    (routed hpB st s1).sock = s1 ∧ (routed hpB st s1).conn = .none ∧ (routed hpB st s1).toUp = st.toUp := by
  have hcn : routedConn hpB st s1 = .none := by
    unfold routedConn
    rw [hc, if_neg (by simpa using hhp)]
  rw [routed_eq, hcn]
  exact ⟨rfl, rfl, rfl⟩

theorem pstep_bad (env : Env) (c : Cfg) (fedF fed : Bytes) (hbad : BadStream env fedF)
    (e : PEv) (he : relayPEvU e = true) (hpre : (fed ++ evBytesOf (proj e)) <+: fedF)
    {st : St} (h : WInv fed st) : WInv (fed ++ evBytesOf (proj e)) (step env c st e) := by
  obtain ⟨hJ, hcn, htu⟩ := h
  cases e with
  | upClose => simp [relayPEvU, relayPEv] at he
  | up b =>
    -- an upstream server that is never connected to has nothing to write on
    simp only [proj, evBytesOf, List.append_nil]
    rw [step_up_eq, if_neg (by rw [hcn]; simp)]
    refine ⟨?_, hcn, htu⟩
    show JInv fed (marker st).sock
    rw [marker_def]
    split
    · exact hJ.snoc (Obs.ev _) rfl rfl
    · exact hJ
  | sock ev =>
    show WInv _ (sockEvent env st ev)
    rw [sockEvent_eq]
    have hJ1 := stepK_bad env fedF fed hbad ev (countEv st.sock.log) (relaySock_projU (e := .sock ev) he) hpre hJ
    obtain ⟨r1, r2, r3⟩ := routed_none (Obs.countP Obs.isHp st.sock.log) st
      (Sock.stepK env Proxy.app (st.sock, countEv st.sock.log) ev).1 hcn (by rw [hJ1.hp]; omega)
    exact ⟨by rw [r1]; exact hJ1, r2, by rw [r3]; exact htu⟩
  | turn =>
    show WInv _ (turn env c st)
    have hpre' : fed <+: fedF := by simpa [proj, evBytesOf] using hpre
    have e0 : fed ++ evBytesOf (proj PEv.turn) = fed := by simp [proj, evBytesOf]
    rw [e0, turn_eq0]
    split
    · exact ⟨hJ, hcn, htu⟩
    · have hJ1 := turnSock_bad env fedF fed hbad hpre' (countEv st.sock.log) hJ
      obtain ⟨r1, r2, r3⟩ := routed_none (Obs.countP Obs.isHp st.sock.log) st
        (turnSock env st.sock (countEv st.sock.log)) hcn (by rw [hJ1.hp]; omega)
      generalize routed (Obs.countP Obs.isHp st.sock.log) st (turnSock env st.sock (countEv st.sock.log)) = st1
        at r1 r2 r3
      rw [← r1] at hJ1
      rw [htu] at r3
      obtain ⟨sock, conn, buf, hw, hpd, upRead, toUp, fromUp, upClosing, errored, seenRd⟩ := st1
      simp only at r2 r3 hJ1
      subst r2 r3
      have e1 : delPhase (closePhase env (deliverPhase env (connectFlushR env c
          ⟨sock, .none, buf, hw, hpd, upRead, [], fromUp, upClosing, errored, seenRd⟩))) =
          ⟨if sock.delPending then { sock with alive := false, delPending := false, log := sock.log ++ [Obs.del] } else sock,
            .none, buf, hw, hpd, upRead, [], fromUp, upClosing, errored, seenRd⟩ := by
        simp [delPhase, closePhase, deliverPhase, connectFlushR]
      rw [e1]
      exact ⟨hJ1.del, rfl, rfl⟩

theorem JInv_init : JInv [] ({} : Sock) :=
  ⟨rfl, rfl, fun _ => ⟨rfl, rfl, rfl, rfl, rfl, rfl⟩, fun h => absurd rfl h⟩

/-- **nothing reaches the upstream server** when the stream has no acceptable head, for every run
    `new / feed / turn / up` in any order -/
theorem run_bad_up (env : Env) (c : Cfg) (pevs : List PEv) (hbad : BadStream env (fedP pevs))
    (hok : ∀ e ∈ pevs, relayPEvU e = true) :
    upBytes (Proxy.run env c pevs).sock.log = [] := by
  have h := run_induct env c pevs (fun pre st => (∀ e ∈ pre, relayPEvU e = true) → WInv (fedP pre) st)
    (fun _ => ⟨JInv_init, rfl, rfl⟩) ?_ pevs [] (by simp) hok
  · exact h.sock.up
  · intro pre e post st hsp h hok
    rw [fedP_append, fedP_single]
    exact pstep_bad env c (fedP pevs) (fedP pre) hbad e (hok e (by simp)) (fedP_prefix_split hsp)
      (h (fun e' he' => hok e' (by simp [he'])))

theorem run_bad (env : Env) (c : Cfg) (pevs : List PEv) (hbad : BadStream env (fedP pevs))
    (hok : ∀ e ∈ pevs, relayPEv e = true) :
    upBytes (Proxy.run env c pevs).sock.log = [] :=
  run_bad_up env c pevs hbad (fun e he => relayPEvU_of_relayPEv (hok e he))

end Qhttp.ProxyL
