import Qhttp.Lemmas.C13Turn
/-
  C13, for `C13.holds_run`: the first events `new; feed req` of a scripted-upstream history with one
  accepted client request: the request side of the socket model leaves the write side alone, the
  proxy starts connecting.
-/
namespace Qhttp.C13L
open Qhttp Qhttp.Sock Qhttp.Proxy
open Qhttp.C03L (quietObs)

/-- `s'` differs from `s` in request-side fields and quiet observations only -/
def RFrame (s s' : Sock) : Prop :=
  ∃ rb q d r l, s' = { s with readBuffer := rb, qio := q, dataRead := d, rs := r, log := s.log ++ l } ∧
    (∀ o ∈ l, quietObs o = true) ∧ (s.rs ≠ .headers → r ≠ .headers)

theorem RFrame.refl (s : Sock) : RFrame s s :=
  ⟨s.readBuffer, s.qio, s.dataRead, s.rs, [], by simp, by simp, id⟩

theorem RFrame.trans {a c d : Sock} (h1 : RFrame a c) (h2 : RFrame c d) : RFrame a d := by
  obtain ⟨rb1, q1, d1, r1, l1, e1, p1, g1⟩ := h1
  obtain ⟨rb2, q2, d2, r2, l2, e2, p2, g2⟩ := h2
  refine ⟨rb2, q2, d2, r2, l1 ++ l2, by rw [e2, e1]; simp, ?_, ?_⟩
  · intro o ho; rcases List.mem_append.mp ho with ho | ho
    · exact p1 o ho
    · exact p2 o ho
  · intro h; apply g2; rw [e1]; exact g1 h

theorem RFrame.wstep {s s' : Sock} (h : RFrame s s') (ho : WOpen s) : WStep s s' [] := by
  obtain ⟨rb, q, d, r, l, e, hl, _⟩ := h
  subst e
  exact WStep.of_quiet ho l hl rfl rfl rfl id rfl

theorem RFrame.rs {s s' : Sock} (h : RFrame s s') (hr : s.rs ≠ .headers) : s'.rs ≠ .headers := by
  obtain ⟨rb, q, d, r, l, e, _, g⟩ := h
  subst e; exact g hr

theorem RFrame.ext {s s' : Sock} (h : RFrame s s') : ∃ l, s'.log = s.log ++ l := by
  obtain ⟨rb, q, d, r, l, e, _, _⟩ := h
  exact ⟨l, by rw [e]⟩

theorem api_readAll (env : Env) {s : Sock} (ha : s.alive = true) (hd : s.dcFlag = false) :
    RFrame s (api env app s .readAll) := by
  obtain ⟨q, k, d, e⟩ := readAll_eq s
  have e1 : apiPrim env s .readAll =
      { s with readBuffer := s.readBuffer.drop k, qio := q, dataRead := d,
               log := s.log ++ [Obs.rd (Sock.readAll s).2] } := by
    rw [apiPrim_alive env ha]
    show ({ (Sock.readAll s).1 with log := (Sock.readAll s).1.log ++ [Obs.rd (Sock.readAll s).2] } : Sock) = _
    rw [e]
  rw [api_eq_of env app e1 hd]
  exact ⟨_, q, d, s.rs, [Obs.rd (Sock.readAll s).2], rfl, C03L.quiet_singleton rfl, id⟩

theorem rframe_note (s : Sock) {o : Obs} (ho : quietObs o = true) : RFrame s { s with log := s.log ++ [o] } :=
  ⟨s.readBuffer, s.qio, s.dataRead, s.rs, [o], rfl, by simpa using ho, id⟩

theorem readDataSlot_frame (env : Env) {s : Sock} (ha : s.alive = true) (hd : s.dcFlag = false) :
    RFrame s (readDataSlot env app s) := by
  unfold readDataSlot
  -- truncation to the declared length
  have h1 : RFrame s (if s.total ≥ 0 && s.dataRead + s.readBuffer.length > s.total
      then { s with readBuffer := s.readBuffer.take (s.total - s.dataRead).toNat } else s) := by
    split
    · exact ⟨s.readBuffer.take (s.total - s.dataRead).toNat, s.qio, s.dataRead, s.rs, [], by simp, by simp, id⟩
    · exact RFrame.refl s
  generalize (if s.total ≥ 0 && s.dataRead + s.readBuffer.length > s.total
      then { s with readBuffer := s.readBuffer.take (s.total - s.dataRead).toNat } else s) = s1 at h1
  have ha1 : s1.alive = true := by obtain ⟨_, _, _, _, _, e, _, _⟩ := h1; rw [e]; exact ha
  have hd1 : s1.dcFlag = false := by obtain ⟨_, _, _, _, _, e, _, _⟩ := h1; rw [e]; exact hd
  dsimp only
  -- `readyRead` and the proxy's `readAll`
  have h2 : RFrame s1 (if s1.readBuffer.length != 0 then emit env app s1 .rr (app.onRr s1) else s1) := by
    split
    · have : emit env app s1 .rr (app.onRr s1) = api env app { s1 with log := s1.log ++ [Obs.rr] } .readAll := rfl
      rw [this]
      exact (rframe_note s1 (o := .rr) rfl).trans (api_readAll env ha1 hd1)
    · exact RFrame.refl s1
  generalize (if s1.readBuffer.length != 0 then emit env app s1 .rr (app.onRr s1) else s1) = s2 at h2
  -- `readChannelFinished`
  have h3 : RFrame s2 (if s2.total != -1 && s2.dataRead + s2.readBuffer.length ≥ s2.total then
      emit env app { s2 with rs := .finished } .rcf (app.onRcf { s2 with rs := .finished }) else s2) := by
    split
    · have : emit env app { s2 with rs := .finished } .rcf (app.onRcf { s2 with rs := .finished }) =
          { s2 with rs := .finished, log := s2.log ++ [Obs.rcf] } := rfl
      rw [this]
      exact ⟨s2.readBuffer, s2.qio, s2.dataRead, .finished, [Obs.rcf], rfl,
        by simp [quietObs, Obs.isW, Obs.isTc], fun _ => by simp⟩
    · exact RFrame.refl s2
  exact h1.trans (h2.trans h3)

theorem onReadyRead_data (env : Env) (a : App) {s : Sock} (h : s.rs = .data) :
    onReadyRead env a s = readDataSlot env a
      (if s.tcp.devOpen then { s with readBuffer := s.readBuffer ++ s.tcp.inbox, tcp := { s.tcp with inbox := [] } }
       else s) := by
  unfold onReadyRead
  rw [if_neg (by rw [h]; exact fun e => nomatch e)]
  have hm : (if s.tcp.devOpen then
      { s with readBuffer := s.readBuffer ++ s.tcp.inbox, tcp := { s.tcp with inbox := [] } } else s).rs = .data := by
    split <;> exact h
  generalize (if s.tcp.devOpen then
      { s with readBuffer := s.readBuffer ++ s.tcp.inbox, tcp := { s.tcp with inbox := [] } } else s) = s1 at hm
  simp only [hm, reduceCtorEq, if_false, Bool.not_true, Bool.false_eq_true]

/-- the private slot `onReadyRead` once the head has been read -/
theorem onReadyRead_frame (env : Env) {s : Sock} (ha : s.alive = true) (hd : s.dcFlag = false)
    (hrs : s.rs ≠ .headers) :
    ∃ inb, RFrame { s with tcp := { s.tcp with inbox := inb } } (onReadyRead env app s) := by
  by_cases hf : s.rs = .finished
  · unfold onReadyRead
    rw [if_pos hf]
    split
    · exact ⟨[], RFrame.refl _⟩
    · exact ⟨s.tcp.inbox, RFrame.refl _⟩
  · have hdata : s.rs = .data := by
      cases h : s.rs
      · exact absurd h hrs
      · rfl
      · exact absurd h hf
    rw [onReadyRead_data env app hdata]
    split
    · refine ⟨[], RFrame.trans ?_ (readDataSlot_frame env ha hd)⟩
      exact ⟨s.readBuffer ++ s.tcp.inbox, s.qio, s.dataRead, s.rs, [], by simp, by simp, id⟩
    · exact ⟨s.tcp.inbox, readDataSlot_frame env ha hd⟩

/-- the socket at the moment `headersParsed` is emitted -/
structure AtHeadersParsed (s : Sock) : Prop where
  alive : s.alive = true
  io : s.ioOpen = true
  dev : s.tcp.devOpen = true
  conn : s.tcp.conn = .connected
  dcF : s.dcFlag = false
  noClose : s.closeCalled = false
  noDel : s.delPending = false
  log : s.log = [Obs.ev 0, Obs.ev 1]
  respH : s.respHeaders = []
  initP : s.initPending = true
  rs : s.rs = .data

theorem readHeaders_good' (env : Env) (stream head rest : Bytes) (rh : Parser.ReqHead)
    (p : Bytes) (q : List (Bytes × Bytes))
    (h : breakOn CRLF2 stream = some (head, rest))
    (hp : Parser.parseRequestHeaders head [] = some rh) (hu : env.url rh.rawPath = some (p, q)) :
    ∃ s1, readHeaders env app (C09L.sRead stream) = (emit env app s1 .hp (app.onHp s1), true) ∧ AtHeadersParsed s1 := by
  refine ⟨_, readHeaders_ok env app (C09L.sRead stream) h hp hu, ?_⟩
  unfold hpState
  simp only []
  split <;> constructor <;> rfl

/-- the socket after `new; feed req`: the write side untouched, `headersParsed` emitted -/
structure Fresh2 (s : Sock) : Prop where
  op : WOpen s
  wire : Obs.wire s.log = []
  respH : s.respHeaders = []
  initP : s.initPending = true
  rs : s.rs ≠ .headers
  hp : Obs.countP Obs.isHp s.log > 0

theorem sock_after_feed (env : Env) (stream head rest : Bytes) (rh : Parser.ReqHead)
    (p : Bytes) (q : List (Bytes × Bytes))
    (h : breakOn CRLF2 stream = some (head, rest))
    (hp : Parser.parseRequestHeaders head [] = some rh) (hu : env.url rh.rawPath = some (p, q)) :
    Fresh2 (onReadyRead env app (C09L.sFeed stream)) := by
  obtain ⟨s1, e1, f1⟩ := readHeaders_good' env stream head rest rh p q h hp hu
  have e2 : emit env app s1 .hp (app.onHp s1) = { s1 with log := s1.log ++ [Obs.hp] } := rfl
  have e3 : onReadyRead env app (C09L.sFeed stream) =
      readDataSlot env app { s1 with log := s1.log ++ [Obs.hp] } := by
    rw [C09L.orr_eq, e1, e2]
    simp [post, f1.rs]
  rw [e3]
  have o1 : WOpen { s1 with log := s1.log ++ [Obs.hp] } := by
    refine ⟨f1.alive, f1.io, f1.dev, f1.conn, f1.dcF, f1.noClose, f1.noDel, ?_⟩
    show C03L.LogOpen (s1.log ++ [Obs.hp])
    rw [f1.log]
    intro o ho
    simp at ho
    rcases ho with rfl | rfl | rfl <;> rfl
  have fr := readDataSlot_frame env (s := { s1 with log := s1.log ++ [Obs.hp] }) f1.alive f1.dcF
  have w := fr.wstep o1
  obtain ⟨l, hl⟩ := fr.ext
  refine ⟨w.op, ?_, ?_, ?_, fr.rs (by show s1.rs ≠ _; rw [f1.rs]; simp), ?_⟩
  · rw [w.wire]; show Obs.wire (s1.log ++ [Obs.hp]) ++ [] = []; rw [f1.log]; rfl
  · rw [w.respH]; exact f1.respH
  · rw [w.initP]; exact f1.initP
  · rw [hl]
    show Obs.countP Obs.isHp (s1.log ++ [Obs.hp] ++ l) > 0
    rw [f1.log]
    simp [Obs.countP, Obs.isHp]

theorem step_sock (env : Env) (c : Cfg) (st : St) (e : Event) :
    Proxy.step env c st (.sock e) = sockEvent env st e := rfl

theorem step_new (env : Env) (c : Cfg) :
    Proxy.step env c {} (.sock .new) = { sock := { initPending := true, log := [Obs.ev 0] } } := rfl

theorem step_feed_sock (env : Env) (c : Cfg) (req : Bytes) :
    (Proxy.step env c { sock := { initPending := true, log := [Obs.ev 0] } } (.sock (.feed req))).sock =
      onReadyRead env app (C09L.sFeed req) := by
  rw [step_sock, sockEvent_sock]
  exact congrArg Prod.fst (C09L.stepK_feed env app req)

/-- the proxy after `new; feed req` with an accepted head: the ProxySocket exists and is connecting -/
structure Fed (st : St) : Prop where
  sock : Fresh2 st.sock
  conn : st.conn = .connecting
  parsed : st.headersParsed = false
  upRead : st.upRead = []
  fromUp : st.fromUp = []
  upClosing : st.upClosing = false

theorem sockEvent_frame (env : Env) (st : St) (e : Event) :
    (sockEvent env st e).fromUp = st.fromUp ∧ (sockEvent env st e).upClosing = st.upClosing ∧
    (sockEvent env st e).headersParsed = st.headersParsed ∧ (sockEvent env st e).upRead = st.upRead ∧
    ((sockEvent env st e).conn = .connected ↔ st.conn = .connected) := by
  rw [ProxyL.sockEvent_eq]; exact ProxyL.routed_frame _ _ _

/-- `headersParsed` was emitted during the event: the ProxySocket is created -/
theorem sockEvent_conn_routed (env : Env) (st : St) (e : Event) (h : st.conn = .none)
    (hp : Obs.countP Obs.isHp (sockEvent env st e).sock.log > Obs.countP Obs.isHp st.sock.log) :
    (sockEvent env st e).conn = .connecting := by
  rw [sockEvent_sock] at hp
  rw [ProxyL.sockEvent_eq, ProxyL.routed_eq]
  show ProxyL.routedConn _ _ _ = _
  unfold ProxyL.routedConn
  rw [h, if_pos (by simpa using hp)]

theorem proxy_after_feed (env : Env) (c : Cfg) (req head rest : Bytes) (rh : Parser.ReqHead)
    (p : Bytes) (q : List (Bytes × Bytes))
    (h : breakOn CRLF2 req = some (head, rest))
    (hp : Parser.parseRequestHeaders head [] = some rh) (hu : env.url rh.rawPath = some (p, q)) :
    Fed ([PEv.sock .new, .sock (.feed req)].foldl (Proxy.step env c) {}) := by
  have f2 := sock_after_feed env req head rest rh p q h hp hu
  rw [List.foldl_cons, List.foldl_cons, List.foldl_nil, step_new]
  have hs := step_feed_sock env c req
  rw [step_sock] at hs ⊢
  obtain ⟨hfu, huc, hpd, hur, _⟩ :=
    sockEvent_frame env { sock := { initPending := true, log := [Obs.ev 0] } } (.feed req)
  refine ⟨by rw [hs]; exact f2, ?_, hpd, hur, hfu, huc⟩
  apply sockEvent_conn_routed _ _ _ rfl
  rw [hs]
  exact f2.hp

end Qhttp.C13L
