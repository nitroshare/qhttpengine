import Qhttp.Lemmas.C14Base
/-
  The block loop of a random-access copy.  The wanted bytes are the slice `[f0, endPos)` of the
  source; a call of `nextBlock` that does not reach `endPos` hands on a full block (`block_more`),
  one that does is cut there and ends the copy (`block_last`).
  `Running c nt s`: after `nt` blocks the copy is armed for the next one and has written
  exactly the first `nt * block` bytes of `wanted c`; `nextBlock` either finishes or moves
  to `Running c (nt+1)` (the measure `|wanted| - |written|` drops by `block`).
-/
namespace Qhttp.C14L
open Qhttp Copier

def f0 (c : Cfg) : Nat := firstPos c

/-- what `rangeOK` means for the quantities the code computes with -/
structure RangeNF (c : Cfg) : Prop where
  from_nonneg : 0 ≤ rangeFrom c
  from_le : (rangeFrom c).toNat ≤ c.src.length
  f0_le : f0 c ≤ c.src.length
  to_cases : (rangeTo c = -1 ∧ wanted c = c.src.drop (f0 c)) ∨
             (∃ tn : Nat, rangeTo c = (tn : Int) ∧ f0 c ≤ tn ∧
                wanted c = (c.src.drop (f0 c)).take (tn + 1 - f0 c))

theorem f0_of_pos (c : Cfg) (h : rangeFrom c > 0) : f0 c = (rangeFrom c).toNat := by
  simp [f0, firstPos, h]
theorem f0_of_zero (c : Cfg) (h : ¬ rangeFrom c > 0) : f0 c = c.prePos := by
  simp only [f0, firstPos, h, if_false]

theorem rangeNF_of_ok (c : Cfg) (h : rangeOK c = true) : RangeNF c := by
  unfold rangeOK at h
  cases hr : c.range with
  | none =>
    simp only [hr, decide_eq_true_eq] at h
    have e1 : rangeFrom c = 0 := by simp [rangeFrom, hr]
    have e0 : f0 c = c.prePos := f0_of_zero c (by rw [e1]; exact Int.lt_irrefl 0)
    refine ⟨by rw [e1]; exact Int.le_refl 0, by rw [e1]; exact Nat.zero_le _, by rw [e0]; exact h, Or.inl ⟨?_, ?_⟩⟩
    · simp [rangeTo, hr]
    · rw [e0]; simp [wanted, hr]
  | some ft =>
    obtain ⟨f, t⟩ := ft
    simp only [hr, Bool.and_eq_true, Bool.or_eq_true, decide_eq_true_eq, beq_iff_eq] at h
    obtain ⟨⟨hf, ht⟩, hl⟩ := h
    have e1 : rangeFrom c = f := by simp [rangeFrom, hr]
    have e2 : rangeTo c = t := by simp [rangeTo, hr]
    have e0 : f0 c = (if f > 0 then f.toNat else c.prePos) := by simp only [f0, firstPos, e1]
    have e0' : firstPos c = f0 c := rfl
    rw [e0'] at ht hl
    have hfl : f.toNat ≤ c.src.length := by
      by_cases hp : f > 0
      · rw [e0, if_pos hp] at hl; exact hl
      · rw [Int.toNat_eq_zero.2 (Int.not_lt.1 hp)]; exact Nat.zero_le _
    refine ⟨by rw [e1]; exact hf, by rw [e1]; exact hfl, hl, ?_⟩
    by_cases hm : t = -1
    · left
      refine ⟨by rw [e2, hm], ?_⟩
      simp only [wanted, hr, ← e0]
      rw [if_neg (Int.not_lt.2 hf), if_pos (by rw [hm]; decide)]
    · right
      have ht' : t ≥ (f0 c : Int) := ht.resolve_right hm
      have ht0 : 0 ≤ t := Int.le_trans (Int.natCast_nonneg _) ht'
      refine ⟨t.toNat, by rw [e2, Int.toNat_of_nonneg ht0], (Int.le_toNat ht0).2 ht', ?_⟩
      simp only [wanted, hr, ← e0]
      rw [if_neg (Int.not_lt.2 hf), if_neg (Int.not_lt.2 ht0), if_neg (Int.not_lt.2 ht')]

/-- where the wanted bytes end in the source (exclusive): its end, or the byte after `rangeTo` -/
def endPos (c : Cfg) : Nat :=
  if rangeTo c = -1 then c.src.length else min ((rangeTo c).toNat + 1) c.src.length

theorem endPos_le (c : Cfg) : endPos c ≤ c.src.length := by
  unfold endPos; split
  · exact Nat.le_refl _
  · exact Nat.min_le_right _ _

theorem RangeNF.slice {c : Cfg} (h : RangeNF c) :
    f0 c ≤ endPos c ∧ wanted c = (c.src.drop (f0 c)).take (endPos c - f0 c) := by
  have hf := h.f0_le
  rcases h.to_cases with ⟨et, ew⟩ | ⟨tn, et, hft, ew⟩
  · have hE : endPos c = c.src.length := by rw [endPos, if_pos et]
    rw [hE, ew]
    exact ⟨hf, (List.take_of_length_le (by rw [List.length_drop]; exact Nat.le_refl _)).symm⟩
  · have hE : endPos c = min (tn + 1) c.src.length := by
      rw [endPos, if_neg (by omega), et, Int.toNat_natCast]
    rw [hE, ew]
    refine ⟨Nat.le_min.2 ⟨by omega, hf⟩, List.take_eq_take_iff.2 ?_⟩
    rw [List.length_drop, ← Nat.sub_min_sub_right, Nat.min_assoc, Nat.min_self]

theorem nbData_length (c : Cfg) (pos : Nat) : (nbData c pos).length = min c.block (c.src.length - pos) := by
  rw [nbData, List.length_take, List.length_drop]

theorem endPos_none {c : Cfg} (h : rangeTo c = -1) : endPos c = c.src.length := by
  rw [endPos, if_pos h]
theorem endPos_some {c : Cfg} {tn : Nat} (h : rangeTo c = (tn : Int)) : endPos c = min (tn + 1) c.src.length := by
  rw [endPos, if_neg (by omega), h, Int.toNat_natCast]

theorem nbPast_none {c : Cfg} (h : rangeTo c = -1) (pos : Nat) : nbPast c pos = false := by
  rw [nbPast, h]; rfl
theorem nbPast_some {c : Cfg} {tn : Nat} (h : rangeTo c = (tn : Int)) (pos : Nat) :
    nbPast c pos = decide (tn < pos + (nbData c pos).length) := by
  have : ((tn : Int) != -1) = true := by rw [bne_iff_ne]; omega
  rw [nbPast, h, this, Bool.true_and, nbPos]
  exact decide_eq_decide.2 (by omega)

/-- a block that does not reach `endPos`: it is full, and the copy goes on -/
theorem block_more (c : Cfg) (h : RangeNF c) (pos : Nat) (hlt : pos + c.block < endPos c) :
    (nbData c pos).length = c.block ∧ nbN c pos = c.block ∧ nbDone c pos = false := by
  have hS := endPos_le c
  have hd : (nbData c pos).length = c.block := by
    rw [nbData_length]; exact Nat.min_eq_left (by omega)
  have hpast : nbPast c pos = false := by
    rcases h.to_cases with ⟨et, _⟩ | ⟨tn, et, _, _⟩
    · exact nbPast_none et pos
    · rw [nbPast_some et, hd]
      rw [endPos_some et] at hlt
      exact decide_eq_false (by omega)
  refine ⟨hd, ?_, ?_⟩
  · rw [nbN, hpast, hd]; rfl
  · rw [nbDone, hpast, nbPos, hd, Bool.or_false]; exact decide_eq_false (by omega)

/-- a block that reaches `endPos`: it is cut there, and the copy is over -/
theorem block_last (c : Cfg) (h : RangeNF c) (pos : Nat) (hp : pos ≤ endPos c)
    (hle : endPos c ≤ pos + c.block) :
    nbN c pos = ((endPos c - pos : Nat) : Int) ∧ nbDone c pos = true := by
  rcases h.to_cases with ⟨et, _⟩ | ⟨tn, et, _, _⟩
  · rw [endPos_none et] at hp hle ⊢
    have hd : (nbData c pos).length = c.src.length - pos := by
      rw [nbData_length]; exact Nat.min_eq_right (Nat.sub_le_iff_le_add'.2 hle)
    rw [nbN, nbDone, nbPast_none et, nbPos, hd]
    exact ⟨rfl, by rw [Bool.or_false]; exact decide_eq_true (Nat.le_of_eq (Nat.add_sub_cancel' hp).symm)⟩
  · rw [endPos_some et] at hp hle ⊢
    rw [nbN, nbDone, nbPast_some et, nbPos, et]
    by_cases hts : tn + 1 ≤ c.src.length
    · rw [Nat.min_eq_left hts] at hp hle ⊢
      have h1 : tn + 1 - pos ≤ (nbData c pos).length := by
        rw [nbData_length]; exact Nat.le_min.2 ⟨by omega, by omega⟩
      generalize (nbData c pos).length = d at h1
      rw [decide_eq_true (by omega : tn < pos + d), if_pos rfl, Bool.or_true]
      exact ⟨by omega, rfl⟩
    · rw [Nat.min_eq_right (Nat.le_of_lt (Nat.lt_of_not_le hts))] at hp hle ⊢
      have hd : (nbData c pos).length = c.src.length - pos := by
        rw [nbData_length]; exact Nat.min_eq_right (Nat.sub_le_iff_le_add'.2 hle)
      rw [hd, decide_eq_false (by omega : ¬ tn < pos + (c.src.length - pos))]
      exact ⟨rfl, by rw [Bool.or_false]; exact decide_eq_true (Nat.le_of_eq (Nat.add_sub_cancel' hp).symm)⟩

theorem RangeNF.wanted_len {c : Cfg} (h : RangeNF c) : (wanted c).length = endPos c - f0 c := by
  have := endPos_le c
  rw [h.slice.2, List.length_take, List.length_drop]; omega

theorem nbD_eq (c : Cfg) (h : RangeNF c) (pos m : Nat) (hpos : pos = f0 c + m)
    (hn : nbN c pos = ((min c.block (endPos c - pos) : Nat) : Int)) :
    nbD c pos = ((wanted c).drop m).take c.block := by
  rw [nbD, hn, Int.toNat_natCast, nbData, List.take_take, h.slice.2, List.drop_take, List.drop_drop,
    List.take_take, ← hpos, Nat.sub_sub, ← hpos, Nat.min_assoc, Nat.min_comm (endPos c - pos), ← Nat.min_assoc,
    Nat.min_self]

def faultAt (c : Cfg) (nt : Nat) : Bool := c.readFailAt == some nt || c.writeFailAt == some nt

/-- block `j` is actually attempted by a copy left to run -/
def reach (c : Cfg) (j : Nat) : Prop := j = 0 ∨ j * c.block < (wanted c).length

/-- the copy is armed for block `nt` and has written exactly the first `nt * block` wanted bytes;
    `more` is `reach c nt`, `nofault`: no injected failure among the blocks done -/
structure Running (c : Cfg) (nt : Nat) (s : St) : Prop where
  pending : s.pending = .nextBlock
  stopped : s.stopped = false
  reads : s.reads = nt
  writes : s.writes = nt
  pos : s.pos = f0 c + nt * c.block
  more : nt = 0 ∨ nt * c.block < (wanted c).length
  wr : written s.log = (wanted c).take (nt * c.block)
  nofin : Obs.countP isFin s.log = 0
  noerr : Obs.countP isErr s.log = 0
  startok : startFails c = false
  nofault : ∀ j, j < nt → faultAt c j = false

/-- the copy is over: the timer is idle, one `fin` with only markers after it, and either the
    wanted bytes were written without error, or one error was signalled (a device fault) and a
    prefix was written -/
structure Done (c : Cfg) (s : St) : Prop where
  pending : s.pending = .none
  closed : Closed s.log
  pre : written s.log <+: wanted c
  res : (Obs.countP isErr s.log = 0 ∧ written s.log = wanted c ∧ startFails c = false ∧
           ∀ j, faultAt c j = true → ¬ reach c j) ∨
        (Obs.countP isErr s.log = 1 ∧ anyFault c = true)

def remaining (c : Cfg) (s : St) : Nat := (wanted c).length - (written s.log).length

theorem anyFault_of_faultAt {c : Cfg} {nt : Nat} (h : faultAt c nt = true) : anyFault c = true := by
  unfold faultAt at h; unfold anyFault
  cases hr : c.readFailAt <;> cases hw : c.writeFailAt <;> simp_all

theorem nextBlock_fault (c : Cfg) (nt : Nat) (s : St)
    (h : Running c nt s) (hf : faultAt c nt = true) :
    Done c (nextBlock c { s with pending := .none }) ∧
    Obs.countP isErr (nextBlock c { s with pending := .none }).log = 1 ∧
    written (nextBlock c { s with pending := .none }).log = written s.log := by
  have hs0 : ({ s with pending := Pending.none } : St).stopped = false := h.stopped
  have hcl := Closed.of_err_fin h.nofin
  have he : Obs.countP isErr (s.log ++ [err, fin]) = 1 := by rw [cntErr_err_fin, h.noerr]
  have hw := written_err_fin s.log
  have hpre : written s.log <+: wanted c := by rw [h.wr]; exact List.take_prefix _ _
  have key : (nextBlock c { s with pending := .none }).pending = .none ∧
      (nextBlock c { s with pending := .none }).log = s.log ++ [err, fin] := by
    rw [nextBlock_eq c _ hs0]
    simp only [h.reads, h.writes]
    cases h1 : (c.readFailAt == some nt)
    · have h2 : wfail c nt (nbN c s.pos) = true := by
        simp only [faultAt, h1, Bool.false_or] at hf
        simp [wfail, hf]
      simp [h2]
    · simp
  obtain ⟨kp, kl⟩ := key
  refine ⟨⟨kp, by rw [kl]; exact hcl, by rw [kl, hw]; exact hpre, Or.inr ⟨by rw [kl]; exact he, anyFault_of_faultAt hf⟩⟩,
    by rw [kl]; exact he, by rw [kl]; exact hw⟩

/-- no fault at this block: it is written; the copy finishes, or is re-armed with `remaining` down by `block` -/
theorem nextBlock_ok (c : Cfg) (hr : RangeNF c) (nt : Nat) (s : St)
    (h : Running c nt s) (hf : faultAt c nt = false) :
    (Running c (nt + 1) (nextBlock c { s with pending := .none }) ∧
       remaining c (nextBlock c { s with pending := .none }) + c.block = remaining c s) ∨
    (Done c (nextBlock c { s with pending := .none }) ∧
       Obs.countP isErr (nextBlock c { s with pending := .none }).log = 0 ∧
       written (nextBlock c { s with pending := .none }).log = wanted c ∧
       (wanted c).length ≤ (nt + 1) * c.block) := by
  have hs0 : ({ s with pending := Pending.none } : St).stopped = false := h.stopped
  have hpos := h.pos
  have hE : endPos c = f0 c + (wanted c).length := by
    have := hr.slice.1
    rw [hr.wanted_len]; omega
  have hple : s.pos ≤ endPos c := by
    rw [hpos, hE]
    rcases h.more with h0 | h1
    · rw [h0, Nat.zero_mul]; exact Nat.add_le_add_left (Nat.zero_le _) _
    · exact Nat.add_le_add_left (Nat.le_of_lt h1) _
  simp only [faultAt, Bool.or_eq_false_iff] at hf
  have hmul : (nt + 1) * c.block = nt * c.block + c.block := Nat.succ_mul _ _
  have hnofault : ∀ j, j < nt + 1 → faultAt c j = false := by
    intro j hj
    by_cases hjn : j = nt
    · subst hjn; simp [faultAt, hf.1, hf.2]
    · exact h.nofault j (by omega)
  -- the block is `wanted[nt * block, (nt + 1) * block)`, written whole
  have key : ∀ n : Nat, nbN c s.pos = ((n : Nat) : Int) → n = min c.block (endPos c - s.pos) →
      wfail c nt (nbN c s.pos) = false ∧
      written s.log ++ nbD c s.pos = (wanted c).take ((nt + 1) * c.block) := by
    intro n hn hmin
    refine ⟨?_, ?_⟩
    · simp only [wfail, hf.2, Bool.or_false, decide_eq_false_iff_not]
      rw [hn]; exact Int.not_lt.2 (Int.natCast_nonneg n)
    · rw [h.wr, nbD_eq c hr s.pos (nt * c.block) hpos (by rw [hn, hmin]), hmul, List.take_add]
  rw [nextBlock_eq c _ hs0]
  simp only [h.reads, h.writes, hf.1, Bool.false_eq_true, if_false]
  by_cases hlt : nt * c.block + c.block < (wanted c).length
  · left
    obtain ⟨hdl, hn, hd⟩ := block_more c hr s.pos
      (by rw [hpos, hE, Nat.add_assoc]; exact Nat.add_lt_add_left hlt _)
    obtain ⟨h2, hwr⟩ := key c.block hn (Nat.min_eq_left (by rw [hpos, hE]; omega)).symm
    simp only [h2, hd, Bool.false_eq_true, if_false, List.append_nil]
    have hw' : written (s.log ++ wr (nbD c s.pos)) = (wanted c).take ((nt + 1) * c.block) := by
      rw [written_append, written_wr, hwr]
    refine ⟨⟨rfl, h.stopped, rfl, rfl, ?_, Or.inr (by rw [hmul]; exact hlt), hw', ?_, ?_, h.startok, hnofault⟩, ?_⟩
    · show nbPos c s.pos = _
      rw [nbPos, hdl, hpos, hmul, Nat.add_assoc]
    · rw [Obs.countP_append, h.nofin, wr_fin]
    · rw [Obs.countP_append, h.noerr, wr_err]
    · simp only [remaining]
      rw [hw', h.wr, List.length_take, List.length_take, hmul, Nat.min_eq_left (Nat.le_of_lt hlt),
        Nat.min_eq_left (Nat.le_of_lt (Nat.lt_of_le_of_lt (Nat.le_add_right _ _) hlt))]
      omega
  · right
    have hle : (wanted c).length ≤ (nt + 1) * c.block := by rw [hmul]; exact Nat.le_of_not_lt hlt
    obtain ⟨hn, hd⟩ := block_last c hr s.pos hple
      (by rw [hpos, hE, Nat.add_assoc, ← hmul]; exact Nat.add_le_add_left hle _)
    obtain ⟨h2, hwr⟩ := key (endPos c - s.pos) hn (Nat.min_eq_right (by rw [hpos, hE]; omega)).symm
    simp only [h2, hd, Bool.false_eq_true, if_false, if_true]
    have hw' : written (s.log ++ (wr (nbD c s.pos) ++ [fin])) = wanted c := by
      rw [written_append, written_append, written_wr, written_fin, List.append_nil, hwr]
      exact List.take_of_length_le hle
    have he' : Obs.countP isErr (s.log ++ (wr (nbD c s.pos) ++ [fin])) = 0 := by
      rw [Obs.countP_append, Obs.countP_append, h.noerr, wr_err]; simp [Obs.countP_cons]
    have hnf : ∀ j, faultAt c j = true → ¬ reach c j := by
      intro j hj hreach
      have hjn : nt + 1 ≤ j := by
        by_cases hlt : j < nt + 1
        · rw [hnofault j hlt] at hj; cases hj
        · exact Nat.le_of_not_lt hlt
      rcases hreach with h0 | h1
      · rw [h0] at hjn; cases hjn
      · exact absurd (Nat.lt_of_lt_of_le h1 hle) (Nat.not_lt.2 (Nat.mul_le_mul_right c.block hjn))
    refine ⟨⟨rfl, ?_, by rw [hw']; exact List.prefix_refl _, Or.inl ⟨he', hw', h.startok, hnf⟩⟩, he', hw', hle⟩
    rw [← List.append_assoc]
    apply Closed.of_snoc_fin
    rw [Obs.countP_append, h.nofin, wr_fin]

theorem nextBlock_progress (c : Cfg) (hb : 1 ≤ c.block) (hr : RangeNF c) (nt : Nat) (s : St)
    (h : Running c nt s) :
    Done c (nextBlock c { s with pending := .none }) ∨
    (Running c (nt + 1) (nextBlock c { s with pending := .none }) ∧
       remaining c (nextBlock c { s with pending := .none }) < remaining c s) := by
  cases hf : faultAt c nt
  · rcases nextBlock_ok c hr nt s h hf with ⟨hr', hm⟩ | ⟨hd, _⟩
    · right; exact ⟨hr', by omega⟩
    · left; exact hd
  · left; exact (nextBlock_fault c nt s h hf).1

end Qhttp.C14L
