import Qhttp.Lemmas.C02Slots
/-
  C02 — the invariant between external events (`RInv`), its preservation by `onReadyRead`, by
  every event of the reader scenario shape, and by whole runs.
-/
namespace Qhttp.C02
open Qhttp

/-- the head is acceptable and declares `Content-Length: N`, `N ≥ 0` (what `C01.expect` computes) -/
structure Acc (env : Env) (head : Bytes) (N : Nat) : Prop where
  ex : ∃ rh p q, Parser.parseRequestHeaders head [] = some rh ∧ env.url rh.rawPath = some (p, q) ∧
        HeaderMap.contains Sock.CONTENT_LENGTH_KEY rh.headers = true ∧
        toLongLong (HeaderMap.value Sock.CONTENT_LENGTH_KEY rh.headers) = (N : Int)

/-- how the parameters of `Mid` relate to the bytes delivered so far, between two events -/
def Rel (head : Bytes) (N : Nat) (fed hb B : Bytes) (s : Sock) : Prop :=
  (s.rs = .headers → hb = fed ∧ breakOn CRLF2 fed = none) ∧
  (s.rs ≠ .headers → ∃ rest, fed = head ++ CRLF2 ++ rest ∧ B = rest.take N ∧
      (s.rs = .finished ↔ N ≤ rest.length))

/-- the invariant between external events, against `fed` = all bytes delivered so far;
    `head.length + 4` (`Mid`'s `hl`) is the offset of the first body byte -/
def RInv (evs : List Event) (head : Bytes) (N : Nat) (fed : Bytes) (s : Sock) : Prop :=
  ∃ a hb B, Mid evs (head.length + 4) N fed.length hb B a s ∧ s.tcp.inbox = [] ∧ Rel head N fed hb B s

theorem CRLF2_length : CRLF2.length = 4 := rfl

theorem length_stream (head rest : Bytes) : (head ++ CRLF2 ++ rest).length = head.length + 4 + rest.length := by
  rw [List.length_append, List.length_append, CRLF2_length]

variable {evs : List Event} {head : Bytes} {N : Nat} {hb B : Bytes} {s : Sock}

theorem Mid.emit_hp {hl fedLen : Nat} (env : Env) (app : App) (happ : ReaderApp app)
    (h : Mid evs hl N fedLen hb B none s) (hrs : s.rs = .headers)
    (rh : Parser.ReqHead) (p : Bytes) (q : List (Bytes × Bytes)) (rest : Bytes)
    (hf : hl + (rest.take N).length ≤ fedLen) :
    Mid evs hl N fedLen hb (rest.take N) none
        (Sock.emit env app (hpState s rh p q rest N) .hp (app.onHp (hpState s rh p q rest N))) ∧
      (Sock.emit env app (hpState s rh p q rest N) .hp (app.onHp (hpState s rh p q rest N))).rs = .data ∧
      (Sock.emit env app (hpState s rh p q rest N) .hp (app.onHp (hpState s rh p q rest N))).tcp = s.tcp ∧
      (Sock.emit env app (hpState s rh p q rest N) .hp (app.onHp (hpState s rh p q rest N))).initPending
        = s.initPending := by
  have hm3 := h.hpEmit hrs rh.method rh.rawPath p rh.headers
    (q.foldl (fun m e => Sock.qmInsert e.1 e.2 m) s.query) (rest.take N) hf
  obtain ⟨hm4, c4⟩ := Mid.apis env app (app.onHp (hpState s rh p q rest N)) (happ.hp _) _ hm3
  unfold Sock.emit
  exact ⟨hm4, c4.1, c4.2.1, c4.2.2.1⟩

/-- how `readDataSlot` leaves the state, read as the third clause of `Rel` -/
theorem rs_finished_iff {rs : RState} {n m : Nat} (h : rs = if n ≤ m then .finished else .data) :
    rs ≠ .headers ∧ (rs = .finished ↔ n ≤ m) := by
  by_cases hc : n ≤ m
  · rw [h, if_pos hc]; exact ⟨RState.noConfusion, fun _ => hc, fun _ => rfl⟩
  · rw [h, if_neg hc]; exact ⟨RState.noConfusion, fun h => absurd h RState.noConfusion, fun h => absurd h hc⟩

/-- `onReadyRead` (`orr`) keeps the invariant.  `fedF` is the whole stream of the scenario, which
    splits at its first blank line into `head` and `restF`; `fed` had been delivered before, `seg`
    waits in the transport. -/
theorem orr_inv (env : Env) (app : App) (happ : ReaderApp app) (acc : Acc env head N)
    (fedF restF fed seg : Bytes)
    (hfin : breakOn CRLF2 fedF = some (head, restF)) (hpre : (fed ++ seg) <+: fedF)
    (hm : Mid evs (head.length + 4) N (fed ++ seg).length hb B none s) (hin : s.tcp.inbox = seg)
    (hrel : Rel head N fed hb B s) :
    RInv evs head N (fed ++ seg) (Sock.onReadyRead env app s) ∧
      (Sock.onReadyRead env app s).initPending = s.initPending := by
  obtain ⟨hH, hD⟩ := hrel
  rw [onReadyRead_eq]
  have h3 : s.rs = .finished ∨ s.rs = .data ∨ s.rs = .headers := by
    cases s.rs
    · exact Or.inr (Or.inr rfl)
    · exact Or.inr (Or.inl rfl)
    · exact Or.inl rfl
  rcases h3 with hrs | hrs | hrs
  · -- the request is complete: the segment is dropped
    have hne : s.rs ≠ .headers := by rw [hrs]; exact RState.noConfusion
    obtain ⟨rest, e1, e2, e3⟩ := hD hne
    have hle : N ≤ rest.length := e3.mp hrs
    rw [if_pos hrs, if_pos hm.devOpen]
    refine ⟨⟨none, hb, B, hm.setInbox [], rfl, fun hh => absurd hh hne, fun _ => ?_⟩, rfl⟩
    refine ⟨rest ++ seg, by rw [e1, List.append_assoc], ?_, fun _ => ?_, fun _ => hrs⟩
    · rw [e2, List.take_append_of_le_length hle]
    · rw [List.length_append]; exact Nat.le_trans hle (Nat.le_add_right _ _)
  · -- body bytes: they join the buffer, then `readData`
    have hne : s.rs ≠ .headers := by rw [hrs]; exact RState.noConfusion
    obtain ⟨rest, e1, e2, e3⟩ := hD hne
    have hlt : rest.length < N :=
      Nat.lt_of_not_le fun hc => by rw [e3.mpr hc] at hrs; exact RState.noConfusion hrs
    have hBr : B = rest := by rw [e2, List.take_of_length_le (Nat.le_of_lt hlt)]
    rw [if_neg (by rw [hrs]; exact RState.noConfusion)]
    unfold pullS
    rw [if_pos hm.devOpen, hin]
    have hfed : fed ++ seg = head ++ CRLF2 ++ (rest ++ seg) := by rw [e1, List.append_assoc]
    have hm2 := hm.setBuf (hb' := s.readBuffer ++ seg) (B' := rest ++ seg) (s.readBuffer ++ seg) { s.tcp with inbox := [] } hm.devOpen
      (fun hh => absurd hh hne)
      (fun _ => ⟨by rw [← hBr, ← (hm.dat hne).1]; exact (List.append_assoc _ _ _).symm,
        by rw [hfed, length_stream]; exact Nat.le_refl _⟩)
    have hk : (Obs.reads s.log).length + s.qio.length ≤ N := by
      have := hm.len_eq hne
      rw [hBr] at this
      exact Nat.le_of_lt (Nat.lt_of_le_of_lt (Nat.le.intro this) hlt)
    rw [orrBody_data _ _ _ (by exact hrs)]
    obtain ⟨r1, r2, r3, r4⟩ := hm2.readDataSlot env app happ hrs hk
    obtain ⟨r5, r6⟩ := rs_finished_iff r4
    exact ⟨⟨none, s.readBuffer ++ seg, (rest ++ seg).take N, r1, by rw [r2], fun hh => absurd hh r5,
      fun _ => ⟨rest ++ seg, hfed, rfl, r6⟩⟩, r3⟩
  · -- still in the head
    obtain ⟨g1, g2, _⟩ := hm.hdr hrs
    obtain ⟨k1, _⟩ := hH hrs
    rw [if_neg (by rw [hrs]; exact RState.noConfusion)]
    unfold pullS
    rw [if_pos hm.devOpen, hin]
    have hbuf : s.readBuffer ++ seg = fed ++ seg := by rw [g1, k1]
    have hm2 := hm.setBuf (B' := B) (s.readBuffer ++ seg) { s.tcp with inbox := [] } hm.devOpen
      (fun _ => rfl) (fun hh => absurd hrs hh)
    cases hbk : breakOn CRLF2 (s.readBuffer ++ seg) with
    | none =>
      rw [orrBody_headers_none _ _ _ (by exact hrs) (by exact hbk)]
      exact ⟨⟨none, _, _, hm2, rfl, fun _ => ⟨hbuf, by rw [← hbuf]; exact hbk⟩, fun hh => absurd hrs hh⟩, rfl⟩
    | some pr =>
      -- the blank line has arrived: the head is the one of the whole stream
      obtain ⟨h', rest⟩ := pr
      obtain ⟨t, _, ht⟩ := C02L.breakOn_prefix CRLF2 (fed ++ seg) fedF h' rest hpre (by rw [← hbuf]; exact hbk)
      rw [hfin] at ht
      obtain ⟨rfl, _⟩ := Prod.mk.inj (Option.some.inj ht)
      have hsplit := breakOn_some hbk
      obtain ⟨rh, p, q, a1, a2, a3, a4⟩ := acc.ex
      have hfl : head.length + 4 + (rest.take N).length ≤ (fed ++ seg).length := by
        rw [← hbuf, hsplit, length_stream]
        exact Nat.add_le_add_left (List.length_take_le' N rest) _
      obtain ⟨hm4, hrs4, t4, i4⟩ := hm2.emit_hp env app happ hrs rh p q rest hfl
      rw [orrBody_headers_acc _ _ _ (by exact hrs) head rest rh p q N (by exact hbk)
        (by show Parser.parseRequestHeaders head s.reqHeaders = some rh; rw [g2]; exact a1) a2 a3 a4 hrs4]
      generalize Sock.emit env app
          (hpState { s with readBuffer := s.readBuffer ++ seg, tcp := { s.tcp with inbox := [] } } rh p q rest N) .hp
          (app.onHp (hpState { s with readBuffer := s.readBuffer ++ seg, tcp := { s.tcp with inbox := [] } } rh p q rest N))
          = se at hm4 hrs4 t4 i4 ⊢
      have hk : (Obs.reads se.log).length + se.qio.length ≤ N :=
        Nat.le_trans (Nat.le.intro (hm4.len_eq (by rw [hrs4]; exact RState.noConfusion)))
          (List.length_take_le N rest)
      obtain ⟨r1, r2, r3, r4⟩ := hm4.readDataSlot env app happ hrs4 hk
      obtain ⟨r5, r6⟩ := rs_finished_iff r4
      rw [List.length_take, Nat.le_min] at r6
      refine ⟨⟨none, _, _, r1, by rw [r2, t4], fun hh => absurd hh r5, fun _ => ?_⟩, by rw [r3, i4]⟩
      exact ⟨rest, by rw [← hbuf, hsplit], by rw [List.take_take, Nat.min_self],
        r6.trans ⟨fun h => h.2, fun h => ⟨Nat.le_refl N, h⟩⟩⟩

def evBytesOf (e : Event) : Bytes := match e with | .prebuf b => b | .feed b => b | _ => []

theorem fed_eq (l : List Event) : Scenario.fed l = l.flatMap evBytesOf := rfl

theorem fed_append (l1 l2 : List Event) : Scenario.fed (l1 ++ l2) = Scenario.fed l1 ++ Scenario.fed l2 := by
  simp [fed_eq]

theorem fed_single (e : Event) : Scenario.fed [e] = evBytesOf e := by simp [fed_eq]

theorem evLen_of (k : Nat) (e : Event) (hk : evs[k]? = some e) : evLen evs k = (evBytesOf e).length := by
  unfold evLen; rw [hk]; cases e <;> rfl

theorem Rel.of_rs {fed : Bytes} {s' : Sock} (h : Rel head N fed hb B s) (hrs : s'.rs = s.rs) :
    Rel head N fed hb B s' := by
  unfold Rel at h ⊢; rw [hrs]; exact h

/-- events of the reader scenario shape (and `new`, wherever it stands) -/
def okEvent (e : Event) : Bool := readerEvent e || (match e with | .new => true | _ => false)

theorem Mid.api_reader {hl fedLen : Nat} (env : Env) (app : App) (h : Mid evs hl N fedLen hb B none s)
    (op : ApiOp) (hop : readerOp op = true) :
    (∃ a, Mid evs hl N fedLen hb B a (Sock.api env app s op)) ∧ SameCtl s (Sock.api env app s op) := by
  rw [api_of_reader env app s op hop h.dcFlag]
  refine ⟨?_, apiPrim_sameCtl env s op hop⟩
  cases op with
  | read n => exact ⟨_, h.apiPrim_read env n⟩
  | readAll => exact ⟨_, h.apiPrim_readAll env (Or.inl rfl)⟩
  | avail => exact ⟨_, h.apiPrim_avail env⟩
  | _ => exact absurd hop Bool.false_ne_true

theorem step_inv (env : Env) (app : App) (happ : ReaderApp app) (acc : Acc env head N)
    (fedF restF fed : Bytes) (hfin : breakOn CRLF2 fedF = some (head, restF))
    (e : Event) (he : okEvent e = true) (hpre : (fed ++ evBytesOf e) <+: fedF) (s1 : Sock)
    (hm1 : Mid evs (head.length + 4) N (fed ++ evBytesOf e).length hb B none s1)
    (hin1 : s1.tcp.inbox = []) (hrel1 : Rel head N fed hb B s1) :
    RInv evs head N (fed ++ evBytesOf e) (Sock.step env app s1 e) := by
  cases e with
  | new =>
    rw [Sock.step_new env app s1 hm1.alive]
    have hfe : fed ++ evBytesOf Event.new = fed := List.append_nil fed
    rw [hfe] at hm1 ⊢
    exact ⟨none, hb, B, hm1.setInit true, hin1, hrel1.of_rs rfl⟩
  | feed seg =>
    rw [Sock.step_feed env app s1 seg hm1.alive]
    exact (orr_inv env app happ acc fedF restF fed seg hfin hpre
      (hm1.setInbox (s1.tcp.inbox ++ seg)) (by show s1.tcp.inbox ++ seg = seg; rw [hin1]; rfl)
      (hrel1.of_rs rfl)).1
  | turn =>
    rw [Sock.step_turn env app s1 hm1.alive]
    have hfe : fed ++ evBytesOf Event.turn = fed := List.append_nil fed
    rw [hfe] at hm1 hpre ⊢
    have h1 : RInv evs head N fed
        (if s1.initPending then Sock.onReadyRead env app { s1 with initPending := false } else s1) := by
      split
      · have := (orr_inv (s := { s1 with initPending := false }) env app happ acc fedF restF fed [] hfin
          (by rw [List.append_nil]; exact hpre) (by rw [List.append_nil]; exact hm1.setInit false)
          (by exact hin1) (hrel1.of_rs rfl)).1
        rw [List.append_nil] at this
        exact this
      · exact ⟨none, hb, B, hm1, hin1, hrel1⟩
    obtain ⟨a', hb', B', m', i', rel'⟩ := h1
    show RInv evs head N fed (if _ then _ else _)
    rw [if_neg (by rw [m'.delPending]; decide)]
    exact ⟨a', hb', B', m', i', rel'⟩
  | api op =>
    rw [Sock.step_api env app op hm1.alive]
    have hfe : fed ++ evBytesOf (Event.api op) = fed := List.append_nil fed
    rw [hfe] at hm1 ⊢
    obtain ⟨⟨a', m'⟩, c⟩ := hm1.api_reader env app op ((Bool.or_false _).symm.trans he)
    exact ⟨a', hb, B, m', by rw [c.2.1]; exact hin1, hrel1.of_rs c.1⟩
  | _ => exact absurd he Bool.false_ne_true

theorem stepK_inv (env : Env) (app : App) (happ : ReaderApp app) (acc : Acc env head N)
    (fedF restF fed : Bytes) (hfin : breakOn CRLF2 fedF = some (head, restF))
    (e : Event) (k : Nat) (hk : evs[k]? = some e) (he : okEvent e = true)
    (hpre : (fed ++ evBytesOf e) <+: fedF) (h : RInv evs head N fed s) :
    RInv evs head N (fed ++ evBytesOf e) (Sock.stepK env app (s, k) e).1 ∧
      (Sock.stepK env app (s, k) e).2 = k + 1 := by
  obtain ⟨a, hb, B, hm, hin, hrel⟩ := h
  have hm1 := hm.ev k
  rw [evLen_of k e hk, ← List.length_append] at hm1
  rw [Sock.stepK_alive env app k e hm.alive]
  exact ⟨step_inv env app happ acc fedF restF fed hfin e he hpre _ hm1 hin (hrel.of_rs rfl), rfl⟩

theorem RInv_init (evs : List Event) (head : Bytes) (N : Nat) : RInv evs head N [] ({} : Sock) := by
  refine ⟨none, [], [], ?_, rfl, ?_, ?_⟩
  · exact { alive := rfl, ioOpen := rfl, devOpen := rfl, dcFlag := rfl, delPending := rfl,
            walk := rfl, wst := rfl, hp := rfl, rcf := rfl, tc := rfl,
            hdr := fun _ => ⟨rfl, rfl, rfl, rfl, rfl, rfl⟩,
            dat := fun h => absurd rfl h }
  · intro _; exact ⟨rfl, by decide⟩
  · intro h; exact absurd rfl h

/-- induction over a run in prefix form: `P pre s`, `s` the state after the events `pre` -/
theorem run_prefix_induct (env : Env) (app : App) (evs : List Event) (P : List Event → Sock → Prop)
    (h0 : P [] {})
    (hs : ∀ pre e post s, evs = pre ++ e :: post → P pre s →
      P (pre ++ [e]) (Sock.stepK env app (s, pre.length) e).1) :
    P evs (Sock.run env app evs) := by
  have key : ∀ (post pre : List Event) (s : Sock), evs = pre ++ post → P pre s →
      P evs (post.foldl (Sock.stepK env app) (s, pre.length)).1 := by
    intro post
    induction post with
    | nil => intro pre s e h; rw [e, List.append_nil]; exact h
    | cons x post ih =>
      intro pre s e h
      have := ih (pre ++ [x]) _ (e.trans (List.append_cons pre x post)) (hs pre x post s e h)
      rw [List.length_append] at this
      exact this
  exact key evs [] {} rfl h0

/-- induction over a stretch `mid` of `evs = pre ++ mid ++ post`: the marker counter starts at
    `pre.length`, so that the `k`-th marker stands for `evs[k]` -/
theorem fold_inv (env : Env) (app : App) (happ : ReaderApp app) (acc : Acc env head N)
    (restF : Bytes) (hfin : breakOn CRLF2 (Scenario.fed evs) = some (head, restF)) :
    ∀ (mid pre post : List Event) (s : Sock), evs = pre ++ mid ++ post →
      (∀ e ∈ mid, okEvent e = true) → RInv evs head N (Scenario.fed pre) s →
      RInv evs head N (Scenario.fed (pre ++ mid)) (mid.foldl (Sock.stepK env app) (s, pre.length)).1 := by
  intro mid
  induction mid with
  | nil => intro pre post s _ _ h; simpa using h
  | cons e mid ih =>
    intro pre post s hevs hok h
    have hk : evs[pre.length]? = some e := by
      rw [hevs]; simp
    have hpre : (Scenario.fed pre ++ evBytesOf e) <+: Scenario.fed evs := by
      rw [hevs]
      have : pre ++ e :: mid ++ post = (pre ++ [e]) ++ (mid ++ post) := by simp
      rw [this, fed_append, fed_append, fed_single]
      exact List.prefix_append _ _
    obtain ⟨h1, h2⟩ := stepK_inv env app happ acc (Scenario.fed evs) restF (Scenario.fed pre) hfin e pre.length hk
      (hok e (by simp)) hpre h
    rw [List.foldl_cons]
    have hst : Sock.stepK env app (s, pre.length) e =
        ((Sock.stepK env app (s, pre.length) e).1, (pre ++ [e]).length) := by
      rw [List.length_append, List.length_singleton, ← h2]
    rw [hst]
    have := ih (pre ++ [e]) post _ (by rw [hevs]; simp) (fun e' he' => hok e' (by simp [he']))
      (by rw [fed_append, fed_single]; exact h1)
    simpa using this

theorem run_inv (env : Env) (app : App) (happ : ReaderApp app) (acc : Acc env head N)
    (restF : Bytes) (hfin : breakOn CRLF2 (Scenario.fed evs) = some (head, restF))
    (pre post : List Event) (hevs : evs = pre ++ post) (hok : ∀ e ∈ pre, okEvent e = true) :
    RInv evs head N (Scenario.fed pre) (Sock.run env app pre) := by
  have := fold_inv env app happ acc restF hfin pre [] post {} (by simpa using hevs) hok
    (by simpa [fed_eq] using RInv_init evs head N)
  simpa [Sock.run] using this

theorem RInv.rest_eq {fed fedF restF : Bytes} (h : RInv evs head N fed s)
    (hfin : breakOn CRLF2 fedF = some (head, restF)) (hpre : fed <+: fedF) (hrs : s.rs ≠ .headers) :
    ∃ rest t, fed = head ++ CRLF2 ++ rest ∧ restF = rest ++ t ∧
      Obs.reads s.log ++ s.qio ++ s.readBuffer = rest.take N ∧ (s.rs = .finished ↔ N ≤ rest.length) := by
  obtain ⟨a, hb, B, hm, _, hrel⟩ := h
  obtain ⟨rest, e1, e2, e3⟩ := hrel.2 hrs
  obtain ⟨t, ht⟩ := hpre
  have hF := breakOn_some hfin
  refine ⟨rest, t, e1, ?_, ?_, e3⟩
  · rw [← ht, e1] at hF
    simp only [List.append_assoc] at hF
    exact (List.append_cancel_left (List.append_cancel_left hF)).symm
  · rw [← e2]; exact (hm.dat hrs).1

theorem RInv.reads_prefix {fed fedF restF : Bytes} (h : RInv evs head N fed s)
    (hfin : breakOn CRLF2 fedF = some (head, restF)) (hpre : fed <+: fedF) :
    Obs.reads s.log <+: restF.take N := by
  by_cases hrs : s.rs = .headers
  · obtain ⟨a, hb, B, hm, _, _⟩ := h
    rw [(hm.hdr hrs).2.2.2.2.1]; exact List.nil_prefix
  · obtain ⟨rest, t, _, e2, e3, _⟩ := h.rest_eq hfin hpre hrs
    have h1 : Obs.reads s.log <+: rest.take N := by
      rw [← e3, List.append_assoc]; exact List.prefix_append _ _
    have h2 : rest.take N <+: restF.take N := by
      rw [e2, List.take_append]; exact List.prefix_append _ _
    exact h1.trans h2

theorem RInv.counts {fed : Bytes} (h : RInv evs head N fed s) :
    Obs.countP Obs.isHp s.log = (if s.rs = .headers then 0 else 1) ∧
    Obs.countP Obs.isRcf s.log = (if s.rs = .finished then 1 else 0) ∧
    walkL evs (head.length + 4) N s.log 0 false none = true ∧ s.log.any Obs.isTc = false := by
  obtain ⟨a, hb, B, hm, _, _⟩ := h
  exact ⟨hm.hp, hm.rcf, hm.walk, hm.tc⟩

theorem RInv.avail_exact {fed : Bytes} (h : RInv evs head N fed s) :
    Sock.bytesAvailable s = (Sock.readAll s).2.length := by
  obtain ⟨a, hb, B, hm, _, _⟩ := h
  exact hm.avail_exact

theorem Mid.stepK_readAll {hl fedLen : Nat} {a : Option Nat} (env : Env) (app : App)
    (h : Mid evs hl N fedLen hb B a s) (hrs : s.rs ≠ .headers) (k : Nat) :
    Mid evs hl N (fedLen + evLen evs k) hb B none (Sock.stepK env app (s, k) (.api .readAll)).1 ∧
      (Sock.stepK env app (s, k) (.api .readAll)).1.rs = s.rs ∧
      (Sock.stepK env app (s, k) (.api .readAll)).1.qio = [] ∧
      (Sock.stepK env app (s, k) (.api .readAll)).1.readBuffer = [] := by
  have hm1 := h.ev k
  have e : (Sock.stepK env app (s, k) (.api .readAll)).1 =
      Sock.apiPrim env { s with log := s.log ++ [Obs.ev k] } .readAll := by
    rw [Sock.stepK_alive env app k _ h.alive, Sock.step_api env app _ hm1.alive,
      api_of_reader env app _ _ rfl hm1.dcFlag]
  rw [e]
  refine ⟨hm1.apiPrim_readAll env (Or.inl rfl), (apiPrim_sameCtl env _ _ rfl).1, ?_⟩
  rw [Sock.apiPrim_alive env hm1.alive, readAll_data _ hm1.ioOpen (by exact hrs)]
  exact ⟨rfl, rfl⟩

/-- the last event is a `readAll` from idle context: everything that arrived of the body has been
    obtained, and if that is the whole body its end has been announced -/
theorem RInv.final_readAll {fed rest : Bytes} (env : Env) (app : App) (h : RInv evs head N fed s)
    (hbrk : breakOn CRLF2 fed = some (head, rest)) (k : Nat) :
    Obs.reads (Sock.stepK env app (s, k) (.api .readAll)).1.log = rest.take N ∧
    Obs.countP Obs.isHp (Sock.stepK env app (s, k) (.api .readAll)).1.log = 1 ∧
    (N ≤ rest.length → Obs.countP Obs.isRcf (Sock.stepK env app (s, k) (.api .readAll)).1.log = 1) := by
  obtain ⟨a, hb, B, hm, _, hrel⟩ := h
  have hrs : s.rs ≠ .headers := fun hc => by
    have := (hrel.1 hc).2
    rw [hbrk] at this; exact Option.some_ne_none _ this
  obtain ⟨rest', e1, e2, e3⟩ := hrel.2 hrs
  have hr : rest' = rest := by
    have hF := breakOn_some hbrk
    rw [e1] at hF
    exact List.append_cancel_left hF
  subst hr
  obtain ⟨m', r1, r2, r3⟩ := hm.stepK_readAll env app hrs k
  have hrs' := r1 ▸ hrs
  have hreads := (m'.dat hrs').1
  rw [r2, r3, List.append_nil, List.append_nil] at hreads
  refine ⟨hreads.trans e2, by rw [m'.hp, if_neg hrs'], fun hN => ?_⟩
  rw [m'.rcf, r1, if_pos (e3.mpr hN)]

theorem RInv.final_readAll_partial {fed rest : Bytes} (env : Env) (app : App) (h : RInv evs head N fed s)
    (hbrk : breakOn CRLF2 fed = some (head, rest)) (k : Nat) :
    Obs.reads (Sock.stepK env app (s, k) (.api .readAll)).1.log = rest.take N ∧
    Obs.countP Obs.isHp (Sock.stepK env app (s, k) (.api .readAll)).1.log = 1 :=
  ⟨(h.final_readAll env app hbrk k).1, (h.final_readAll env app hbrk k).2.1⟩

end Qhttp.C02
