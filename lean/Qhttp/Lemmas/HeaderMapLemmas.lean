import Qhttp.Model.HeaderMap
import Qhttp.Lemmas.BytesLemmas
/-
  `HeaderMap` (the model of `QMultiMap<IByteArray, QByteArray>`): what `values`, `contains` and
  `value` return after `insert`, with no sortedness assumption.
-/
namespace Qhttp
namespace HeaderMap

theorem keyEq_iff {a c : Bytes} : keyEq a c = true ↔ lower a = lower c := by
  simp [keyEq]

theorem keyEq_false_of_keyLt {a n k : Bytes} (h : keyLt a n = true) (hk : keyEq n k = true) :
    keyEq a k = false := by
  rw [keyEq_iff] at hk
  cases hc : keyEq a k with
  | false => rfl
  | true =>
    rw [keyEq_iff] at hc
    rw [keyLt, hc, ← hk, bytesLt_irrefl] at h
    cases h

theorem values_nil (k : Bytes) : values k [] = [] := rfl

theorem values_cons (k : Bytes) (e : Bytes × Bytes) (m : HeaderMap) :
    values k (e :: m) = if keyEq e.1 k then e.2 :: values k m else values k m := by
  unfold values
  rw [List.filter_cons]
  split <;> simp

theorem values_insert (k n v : Bytes) (m : HeaderMap) :
    values k (insert n v m) = if keyEq n k then v :: values k m else values k m := by
  induction m with
  | nil => rw [insert, values_cons]
  | cons e m ih =>
    obtain ⟨k', v'⟩ := e
    rw [insert]
    split
    · rename_i hlt
      rw [values_cons, ih, values_cons]
      by_cases hk : keyEq n k = true
      · have := keyEq_false_of_keyLt hlt hk
        simp [hk, this]
      · simp [hk]
    · rw [values_cons]

theorem contains_iff_values (k : Bytes) (m : HeaderMap) :
    contains k m = true ↔ values k m ≠ [] := by
  induction m with
  | nil => simp [contains, values]
  | cons e m ih =>
    rw [values_cons]
    simp only [contains, List.any_cons, Bool.or_eq_true] at ih ⊢
    by_cases h : keyEq e.1 k = true
    · simp [h]
    · simp [h, ih]

theorem contains_value_eq (k : Bytes) (m : HeaderMap) (f : Bytes → Int) (dflt : Int) :
    (if contains k m then f (value k m) else dflt) =
      match values k m with
      | [] => dflt
      | x :: _ => f x := by
  have h := contains_iff_values k m
  unfold value
  cases hv : values k m with
  | nil =>
    rw [hv] at h
    have : contains k m = false := by
      cases hc : contains k m with
      | false => rfl
      | true => exact absurd rfl (h.1 hc)
    simp [this]
  | cons x xs =>
    rw [hv] at h
    have : contains k m = true := h.2 (by simp)
    simp [this]

end HeaderMap

end Qhttp
