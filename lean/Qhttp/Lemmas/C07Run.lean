import Qhttp.Lemmas.C08Parse
import Qhttp.Lemmas.FsWalk
/-
  C07 helper lemmas: what the composed run (socket + FilesystemHandler + copier) answers for each
  outcome of `process`, for a request without Range header.
-/
namespace Qhttp
namespace C07L
open Qhttp Qhttp.Sock FsHandler C08L

/-- nothing to decode in a string without '%' -/
theorem pctDecode_plain : ∀ (p : Bytes), (37 : UInt8) ∉ p → Fs.pctDecode p = p := by
  intro p
  induction p with
  | nil => intro _; simp [Fs.pctDecode]
  | cons x xs ih =>
    intro h
    have hx : x ≠ 37 := fun e => h (by simp [e])
    have hxs : (37 : UInt8) ∉ xs := fun e => h (by simp [e])
    rw [Fs.pctDecode.eq_def]
    split
    · rename_i heq
      simp only [List.cons.injEq] at heq
      exact absurd heq.1 hx
    · rename_i heq
      simp only [List.cons.injEq] at heq
      obtain ⟨rfl, rfl⟩ := heq
      rw [ih hxs]
    · rename_i heq; cases heq

theorem requestedRange_nil (size : Nat) : (requestedRange [] size).isValid = false := by
  have : requestedRange [] size = Range.invalid := rfl
  rw [this]; decide

/-- the response of the composed run, read back with the strict reader: status and body for each
    outcome of `process` (request without Range header) -/
theorem run_response (env : Env) (fe : FsEnv) (req head : Bytes) (rh : Parser.ReqHead)
    (p : Bytes) (q : List (Bytes × Bytes)) (tail : List Event)
    (hq : Whole env req head rh p q)
    (hnr : HeaderMap.value RANGE rh.headers = [])
    (hfile : ∀ loc r, plan fe (p.drop 1) rh.headers = .file loc r →
      (fe.content loc).length ≤ 65536 ∧ CR ∉ fe.mime loc)
    (ht : tail.all C03L.allowedEv = true) :
    ∃ m, Http.parse (Obs.wire (FsHandler.run env fe (.new :: .feed req :: .turn :: tail)).sock.log) = some m ∧
      (match plan fe (p.drop 1) rh.headers with
       | .notFound => (Http.statusLine m.start).map (·.code) = some 404
       | .dir loc d => (Http.statusLine m.start).map (·.code) = some 200 ∧ m.body = fe.listing loc d
       | .file loc _ => (Http.statusLine m.start).map (·.code) = some 200 ∧ m.body = fe.content loc) := by
  have ht' : (Event.turn :: tail).all C03L.allowedEv = true := by rw [List.all_cons, ht]; rfl
  cases hplan : plan fe (p.drop 1) rh.headers with
  | notFound =>
    have hwire := run_wire_notFound env fe req head rh p q (.turn :: tail) hq hplan ht'
    refine ⟨_, by rw [hwire]; exact parse_answered 404 _ _ _ (by omega) (by decide) (entryOk_pageHdrs _), ?_⟩
    exact statusLine_ansStart (by omega) _
  | dir loc d =>
    have hwire := run_wire_dir env fe req head rh p q loc d (.turn :: tail) hq hplan ht'
    refine ⟨_, by rw [hwire]; exact parse_answered 200 _ _ _ (by omega) (by decide) (entryOk_pageHdrs _), ?_, rfl⟩
    exact statusLine_ansStart (by omega) _
  | file loc r =>
    obtain ⟨hsz, hm⟩ := hfile loc r hplan
    have hv : r.isValid = false := by rw [plan_file_range hplan, hnr]; exact requestedRange_nil _
    have hwire := run_wire env fe req head rh p q loc r tail hq hplan hsz
      (by intro h; rw [hv] at h; cases h) ht
    refine ⟨_, by rw [hwire]; exact parse_response r _ _ _ hm, ?_, ?_⟩
    · rw [statusLine_respStart, hv]; rfl
    · simp [bodyOf, hv]

end C07L
end Qhttp
