import Qhttp.Model.Socket
import Qhttp.Model.Http
import Qhttp.Lemmas.HttpRender
import Qhttp.Lemmas.SockEqns
/-
  The run `new; feed stream; turn` of the socket model for an application that only reacts to
  `headersParsed`, and the response-side calls such an application makes on the still open,
  connected socket: `writeHeaders; write; close`, `writeError` (its wire image and how the strict
  reader `Http.parse` reads it back), the rejected head (400), the last `turn`.
  Only `emit_refused` and `emit_admitted` (the two reactions of the basic-auth middleware) speak of a
  particular application; the namespace is `C09L` because the statements of C09
  (`Props/C09.lean`, `Lemmas/C09Run.lean`) are written with these definitions, and other families
  reuse them under that name.  `orr` abbreviates `onReadyRead`.
-/
namespace Qhttp.C09L
open Qhttp Qhttp.Sock

/-- `Socket::close` while written bytes are unacknowledged: the transport goes to `closing`, nothing
    is emitted -/
theorem close_pending {s : Sock} (hdev : s.tcp.devOpen = true) (hconn : s.tcp.conn = .connected)
    (hu : s.tcp.unacked ≠ 0) :
    close s = { s with ioOpen := false, qio := [], rs := .finished, ws := .finished, closeCalled := true,
                       tcp := { s.tcp with devOpen := false, conn := .closing },
                       log := s.log ++ [Obs.tc] } := by
  simp [close, tcpClose, hdev, hconn, hu]

theorem finish_state (t : Sock) (body : Bytes) (hdev : t.tcp.devOpen = true)
    (hconn : t.tcp.conn = .connected) (hu : t.tcp.unacked ≠ 0) :
    (close (tcpWrite t body)).alive = t.alive ∧
    (close (tcpWrite t body)).rs = .finished ∧
    (close (tcpWrite t body)).dcFlag = t.dcFlag ∧
    (close (tcpWrite t body)).delPending = t.delPending ∧
    (close (tcpWrite t body)).tcp.devOpen = false ∧
    (close (tcpWrite t body)).log = t.log ++ ((if body.isEmpty then [] else [Obs.w body]) ++ [Obs.tc]) := by
  cases body with
  | nil => rw [tcpWrite_nil, close_pending hdev hconn hu]; simp
  | cons x xs =>
    have hu' : (wrote t (x :: xs)).tcp.unacked ≠ 0 := fun h => hu (Nat.eq_zero_of_add_eq_zero_right h)
    rw [tcpWrite_open hdev hconn (List.cons_ne_nil x xs), close_pending (s := wrote t _) hdev hconn hu']
    simp [wrote]

theorem respond_state (s : Sock) (body : Bytes)
    (hio : s.ioOpen = true) (hdev : s.tcp.devOpen = true) (hconn : s.tcp.conn = .connected) :
    (close (write (writeHeaders s) body)).alive = s.alive ∧
    (close (write (writeHeaders s) body)).rs = .finished ∧
    (close (write (writeHeaders s) body)).dcFlag = s.dcFlag ∧
    (close (write (writeHeaders s) body)).delPending = s.delPending ∧
    (close (write (writeHeaders s) body)).tcp.devOpen = false ∧
    (close (write (writeHeaders s) body)).log =
      s.log ++ (Obs.w (headBytes s) :: ((if body.isEmpty then [] else [Obs.w body]) ++ [Obs.tc])) := by
  have hne := headBytes_ne_nil s
  let t : Sock := { s with ws := .headers, hdrRemaining := (headBytes s).length }
  have e1 : writeHeaders s = wrote t (headBytes s) := tcpWrite_open (s := t) hdev hconn hne
  have e2 : write (writeHeaders s) body = tcpWrite (writeHeaders s) body := by
    rw [e1]; simp [write, wrote, t, hio]
  rw [e2, e1]
  -- the head is on the wire and not acknowledged, so `close` cannot disconnect yet
  have := finish_state (wrote t (headBytes s)) body hdev hconn
    (fun h => hne (List.eq_nil_of_length_eq_zero (Nat.eq_zero_of_add_eq_zero_left h)))
  simpa [wrote, t] using this

/-- the header map `writeError` sends: `Content-Length` and `Content-Type` replaced -/
def errHeaders (H : HeaderMap) (d : Bytes) : HeaderMap :=
  HeaderMap.insert CONTENT_TYPE TEXT_HTML (HeaderMap.remove CONTENT_TYPE
    (HeaderMap.insert CONTENT_LENGTH d (HeaderMap.remove CONTENT_LENGTH H)))

def errStart (c : Int) : Bytes :=
  lit ['H','T','T','P','/','1','.','0',' '] ++ intText c ++ [SP] ++ statusReason c

/-- the page `writeError` sends: the application's error template for the code and its standard reason -/
def errBody (env : Env) (c : Int) : Bytes := env.errPage c (statusReason c)

theorem writeError_state (env : Env) (s : Sock) (c : Int)
    (hio : s.ioOpen = true) (hdev : s.tcp.devOpen = true) (hconn : s.tcp.conn = .connected) :
    (writeError env s c none).alive = s.alive ∧
    (writeError env s c none).rs = .finished ∧
    (writeError env s c none).dcFlag = s.dcFlag ∧
    (writeError env s c none).delPending = s.delPending ∧
    (writeError env s c none).tcp.devOpen = false ∧
    (writeError env s c none).log =
      s.log ++ (Obs.w (errStart c ++ CRLF ++
          headerLines (errHeaders s.respHeaders (natDigits (errBody env c).length)) ++ CRLF) ::
        ((if (errBody env c).isEmpty then [] else [Obs.w (errBody env c)]) ++ [Obs.tc])) :=
  -- `writeError` is `respond_state` on the socket with status and the two headers set
  respond_state
    (setHeader (setHeader (setStatusCode s c none) CONTENT_LENGTH
      (natDigits (errBody env c).length) true) CONTENT_TYPE TEXT_HTML true)
    (errBody env c) hio hdev hconn

theorem errHeaders_nil (d : Bytes) : errHeaders [] d = [(CONTENT_LENGTH, d), (CONTENT_TYPE, TEXT_HTML)] := by
  have k1 : HeaderMap.keyEq CONTENT_LENGTH CONTENT_TYPE = false := by decide +kernel
  have k2 : HeaderMap.keyLt CONTENT_LENGTH CONTENT_TYPE = true := by decide +kernel
  simp [errHeaders, HeaderMap.remove, HeaderMap.insert, List.filter, k1, k2]

theorem statusLine_errStart {c : Int} (hc : 0 ≤ c) :
    Http.statusLine (errStart c) = some { code := c.natAbs, reason := statusReason c } :=
  Http.statusLine_intText hc _

theorem CR_not_mem_errStart {c : Int} (hc : 0 ≤ c) (hr : CR ∉ statusReason c) : CR ∉ errStart c := by
  unfold errStart
  rw [HB.intText_of_nonneg hc]
  simp only [List.mem_append, not_or]
  exact ⟨⟨⟨by decide +kernel, HB.CR_not_mem_natDigits _⟩, by decide +kernel⟩, hr⟩

/-- the error response `writeError(code)` puts on the wire when no response header was set -/
def errWire (env : Env) (code : Int) : Bytes :=
  errStart code ++ CRLF ++ headerLines (errHeaders [] (natDigits (errBody env code).length)) ++ CRLF ++
    errBody env code

theorem parse_errWire (env : Env) {code : Int} (hc : 0 ≤ code) :
    Http.parse (errWire env code) =
      some { start := errStart code,
             headers := [(CONTENT_LENGTH, natDigits (errBody env code).length), (CONTENT_TYPE, TEXT_HTML)],
             body := errBody env code } := by
  unfold errWire
  rw [errHeaders_nil]
  apply Http.parse_render _ _ _ (CR_not_mem_errStart hc (CR_not_mem_statusReason code))
  intro e he
  simp only [List.mem_cons, List.not_mem_nil, or_false] at he
  rcases he with rfl | rfl
  · exact ⟨(by decide : CONTENT_LENGTH ≠ []), (by decide : COLON ∉ CONTENT_LENGTH),
      (by decide : CR ∉ CONTENT_LENGTH), HB.CR_not_mem_natDigits _⟩
  · exact ⟨(by decide : CONTENT_TYPE ≠ []), (by decide : COLON ∉ CONTENT_TYPE),
      (by decide : CR ∉ CONTENT_TYPE), (by decide : CR ∉ TEXT_HTML)⟩

/-- the state in which the segment `stream` arrives (after `new`) -/
def sFeed (stream : Bytes) : Sock :=
  { initPending := true, log := [Obs.ev 0, Obs.ev 1], tcp := { inbox := stream } }

/-- the state in which `readHeaders` runs -/
def sRead (stream : Bytes) : Sock :=
  { initPending := true, log := [Obs.ev 0, Obs.ev 1], readBuffer := stream }

/-- the marker `stepK` puts in front of the `k`-th event -/
def mark (k : Nat) (s : Sock) : Sock := if !s.alive then s else { s with log := s.log ++ [Obs.ev k] }

theorem stepK_new (env : Env) (app : App) :
    stepK env app (({} : Sock), 0) .new = ({ initPending := true, log := [Obs.ev 0] }, 1) := by
  simp [stepK, step]

theorem stepK_feed (env : Env) (app : App) (stream : Bytes) :
    stepK env app (({ initPending := true, log := [Obs.ev 0] } : Sock), 1) (.feed stream) =
      (onReadyRead env app (sFeed stream), 2) := by
  simp [stepK, step, sFeed]

theorem run_eq (env : Env) (app : App) (stream : Bytes) :
    Sock.run env app [.new, .feed stream, .turn] =
      step env app (mark 2 (onReadyRead env app (sFeed stream))) .turn := by
  simp only [Sock.run, List.foldl, stepK_new, stepK_feed]
  rfl

/-- the last event on a socket whose request side is finished: the marker, and the deferred
    deletion if one is pending -/
theorem turn_log (env : Env) (app : App) (s : Sock) (ha : s.alive = true) (hrs : s.rs = .finished) :
    (step env app (mark 2 s) .turn).log =
      s.log ++ (Obs.ev 2 :: if s.delPending then [Obs.del] else []) := by
  -- the posted initial read of a finished request only drops the transport's inbox
  have hr : ∀ t : Sock, t.rs = .finished →
      (onReadyRead env app t).log = t.log ∧ (onReadyRead env app t).delPending = t.delPending := by
    intro t ht
    unfold onReadyRead
    rw [if_pos ht]
    split <;> exact ⟨rfl, rfl⟩
  have e : mark 2 s = { s with log := s.log ++ [Obs.ev 2] } := by simp [mark, ha]
  rw [e]
  cases hi : s.initPending <;> cases hd : s.delPending <;> simp [step, ha, hr, hrs]

theorem orr_eq (env : Env) (app : App) (stream : Bytes) :
    onReadyRead env app (sFeed stream) = post env app (readHeaders env app (sRead stream)) :=
  onReadyRead_headers env app (sFeed stream) rfl rfl

theorem orr_of_false (env : Env) (app : App) (stream : Bytes) (r : Sock)
    (h : readHeaders env app (sRead stream) = (r, false)) :
    onReadyRead env app (sFeed stream) = r := by
  rw [orr_eq, h]; rfl

/-- the history of the run when `headersParsed` leaves the socket `r`: alive, request side
    finished -/
theorem run_log (env : Env) (app : App) (stream : Bytes) (r : Sock)
    (h : readHeaders env app (sRead stream) = (r, true)) (ha : r.alive = true) (hrs : r.rs = .finished) :
    (Sock.run env app [.new, .feed stream, .turn]).log =
      r.log ++ (Obs.ev 2 :: if r.delPending then [Obs.del] else []) := by
  have e : onReadyRead env app (sFeed stream) = { r with readBuffer := [] } := by
    rw [orr_eq, h]; simp [post, hrs]
  rw [run_eq, e, turn_log env app { r with readBuffer := [] } ha hrs]

def BadHead (env : Env) (head : Bytes) : Prop :=
  ∀ rh, Parser.parseRequestHeaders head [] = some rh → env.url rh.rawPath = none

theorem readHeaders_bad (env : Env) (app : App) (stream head rest : Bytes)
    (h : breakOn CRLF2 stream = some (head, rest)) (hbad : BadHead env head) :
    readHeaders env app (sRead stream) = (writeError env (sRead stream) 400 none, false) := by
  rw [Sock.readHeaders_bad env app (sRead stream) h hbad, if_neg]
  rw [(writeError_state env (sRead stream) 400 rfl rfl rfl).2.2.1]
  exact Bool.false_ne_true

def log400 (env : Env) : List Obs :=
  [Obs.ev 0, Obs.ev 1] ++ (Obs.w (errStart 400 ++ CRLF ++
      headerLines (errHeaders [] (natDigits (errBody env 400).length)) ++ CRLF) ::
    ((if (errBody env 400).isEmpty then [] else [Obs.w (errBody env 400)]) ++ [Obs.tc]))

theorem run_bad (env : Env) (app : App) (stream head rest : Bytes)
    (h : breakOn CRLF2 stream = some (head, rest)) (hbad : BadHead env head) :
    (Sock.run env app [.new, .feed stream, .turn]).log = log400 env ++ [Obs.ev 2] := by
  obtain ⟨h1, h2, _, h4, _, h6⟩ := writeError_state env (sRead stream) 400 rfl rfl rfl
  rw [run_eq, orr_of_false env app stream _ (readHeaders_bad env app stream head rest h hbad),
    turn_log env app _ (by rw [h1]; rfl) h2, h4, h6]
  rfl

/-- the socket at the moment `headersParsed` is emitted in the run -/
structure Ready (s : Sock) : Prop where
  alive : s.alive = true
  ioOpen : s.ioOpen = true
  devOpen : s.tcp.devOpen = true
  conn : s.tcp.conn = .connected
  ws : s.ws = .none
  respH : s.respHeaders = []
  dcFlag : s.dcFlag = false
  delP : s.delPending = false
  log : s.log = [Obs.ev 0, Obs.ev 1]

theorem readHeaders_good (env : Env) (app : App) (stream head rest : Bytes) (rh : Parser.ReqHead)
    (p : Bytes) (q : List (Bytes × Bytes))
    (h : breakOn CRLF2 stream = some (head, rest))
    (hp : Parser.parseRequestHeaders head [] = some rh) (hu : env.url rh.rawPath = some (p, q)) :
    ∃ s1, readHeaders env app (sRead stream) = (emit env app s1 .hp (app.onHp s1), true) ∧
      Ready s1 ∧ s1.reqHeaders = rh.headers := by
  refine ⟨_, readHeaders_ok env app (sRead stream) h hp hu, ?_, ?_⟩ <;> unfold hpState <;> simp only []
  · split <;> constructor <;> rfl
  · split <;> rfl

/-- what `writeError` needs of the socket it is called on -/
structure Open (s : Sock) : Prop where
  alive : s.alive = true
  ioOpen : s.ioOpen = true
  devOpen : s.tcp.devOpen = true
  conn : s.tcp.conn = .connected
  dcFlag : s.dcFlag = false
  delP : s.delPending = false

/-- `Ready` with the history as a parameter -/
structure RdyL (s : Sock) (l : List Obs) : Prop where
  alive : s.alive = true
  ioOpen : s.ioOpen = true
  devOpen : s.tcp.devOpen = true
  conn : s.tcp.conn = .connected
  ws : s.ws = .none
  dcFlag : s.dcFlag = false
  delP : s.delPending = false
  log : s.log = l

theorem api_note (env : Env) (app : App) (s : Sock) (o : Obs) (ha : s.alive = true)
    (hd : s.dcFlag = false) : api env app s (.note o) = { s with log := s.log ++ [o] } := by
  simp [api, apiPrim, ha, hd]

/-- the slot records `o`, sets one header and answers with an error: one error response, closed,
    nothing pending -/
theorem emit_refused (env : Env) (app : App) (s1 : Sock) (hR : Ready s1) (o : Obs) (n v : Bytes) (c : Int) :
    ∃ r, emit env app s1 .hp [.note o, .hdr n v true, .err c none] = r ∧
    r.alive = true ∧ r.rs = .finished ∧ r.delPending = false ∧
    r.log = [Obs.ev 0, Obs.ev 1, Obs.hp, o] ++
      (Obs.w (errStart c ++ CRLF ++
          headerLines (errHeaders [(n, v)] (natDigits (errBody env c).length)) ++ CRLF) ::
        ((if (errBody env c).isEmpty then [] else [Obs.w (errBody env c)]) ++ [Obs.tc])) := by
  -- the socket on which `writeError` runs
  let s4 : Sock := { s1 with log := s1.log ++ [Obs.hp] ++ [o], respHeaders := [(n, v)] }
  obtain ⟨g1, g2, g3, g4, _, g6⟩ := writeError_state env s4 c hR.ioOpen hR.devOpen hR.conn
  have e : emit env app s1 .hp [.note o, .hdr n v true, .err c none] = writeError env s4 c none := by
    have e3 : api env app s4 (.err c none) = writeError env s4 c none := by
      rw [api_of_dcFlag, apiPrim_alive env (s := s4) hR.alive]
      rw [apiPrim_alive env (s := s4) hR.alive]; exact g3.trans hR.dcFlag
    rw [← e3]
    simp [emit, apis, api, apiPrim, setHeader, s4, hR.alive, hR.dcFlag, hR.respH, HeaderMap.insert,
      HeaderMap.remove]
  refine ⟨_, e, g1.trans hR.alive, g2, g4.trans hR.delP, ?_⟩
  rw [g6]
  simp [s4, hR.log]

theorem tcpWrite_flags (s : Sock) (b : Bytes) :
    (tcpWrite s b).alive = s.alive ∧ (tcpWrite s b).dcFlag = s.dcFlag := by
  rcases tcpWrite_cases s b with h | ⟨_, _, _, h⟩ <;> rw [h] <;> exact ⟨rfl, rfl⟩

theorem write_flags (s : Sock) (b : Bytes) :
    (write s b).alive = s.alive ∧ (write s b).dcFlag = s.dcFlag := by
  unfold write
  split
  · exact ⟨rfl, rfl⟩
  · split
    · exact ⟨((tcpWrite_flags _ b).1).trans (tcpWrite_flags _ _).1,
        ((tcpWrite_flags _ b).2).trans (tcpWrite_flags _ _).2⟩
    · exact tcpWrite_flags _ b

theorem write_eq (s : Sock) (b : Bytes) (hio : s.ioOpen = true) (hws : s.ws = .none) :
    write s b = write (writeHeaders s) b := by
  have h1 : (writeHeaders s).ioOpen = true := by
    unfold writeHeaders tcpWrite; simp only; split <;> exact hio
  have h2 : (writeHeaders s).ws ≠ .none := by
    unfold writeHeaders tcpWrite; simp only; split <;> simp
  unfold write
  rw [hio, h1]
  simp only [Bool.not_true, Bool.false_eq_true, if_false, hws, if_true, if_neg h2]

theorem emit_admitted (env : Env) (app : App) (s1 : Sock) (hR : Ready s1) (ok : Bytes) :
    ∃ r tail, emit env app s1 .hp [.note (.mw 0 true), .note (.pr 0 []), .write ok, .close] = r ∧
    r.alive = true ∧ r.rs = .finished ∧ r.delPending = false ∧
    r.log = [Obs.ev 0, Obs.ev 1, Obs.hp, Obs.mw 0 true, Obs.pr 0 []] ++ tail := by
  -- the socket on which the response is written
  let s4 : Sock := { s1 with log := s1.log ++ [Obs.hp] ++ [Obs.mw 0 true] ++ [Obs.pr 0 []] }
  obtain ⟨g1, g2, g3, g4, _, g6⟩ := respond_state s4 ok hR.ioOpen hR.devOpen hR.conn
  have hw : write s4 ok = write (writeHeaders s4) ok := write_eq s4 ok hR.ioOpen hR.ws
  have ha : (write (writeHeaders s4) ok).alive = true := by
    rw [← hw, (write_flags s4 ok).1]; exact hR.alive
  have e3 : api env app s4 (.write ok) = write (writeHeaders s4) ok := by
    rw [api_of_dcFlag, apiPrim_alive env (s := s4) hR.alive]
    · exact hw
    · rw [apiPrim_alive env (s := s4) hR.alive]; exact (write_flags s4 ok).2.trans hR.dcFlag
  have e4 : api env app (write (writeHeaders s4) ok) .close = close (write (writeHeaders s4) ok) := by
    rw [api_of_dcFlag, apiPrim_alive env ha]
    rw [apiPrim_alive env ha]; exact g3.trans hR.dcFlag
  have e : emit env app s1 .hp [.note (.mw 0 true), .note (.pr 0 []), .write ok, .close] =
      close (write (writeHeaders s4) ok) := by
    rw [← e4, ← e3]
    simp [emit, apis, api_note, s4, hR.alive, hR.dcFlag]
  refine ⟨_, Obs.w (headBytes s4) :: ((if ok.isEmpty then [] else [Obs.w ok]) ++ [Obs.tc]), e,
    g1.trans hR.alive, g2, g4.trans hR.delP, ?_⟩
  rw [g6]
  simp [s4, hR.log]

end Qhttp.C09L
