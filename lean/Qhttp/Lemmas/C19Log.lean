import Qhttp.Lemmas.ObsLog
/-
  C19: facts about histories alone — "some `f` from the first `p` on", the shape of all three
  after-the-close predicates of C19, and the walk that recovers from a history and the event list
  how many bytes were written and how many acknowledged (`trk`: the lemma side of `C19.pending`).
  `Props/C19.lean` comes later and connects its own definitions to the ones here (`…_eq`).
-/
namespace Qhttp.C19L
open Qhttp Qhttp.Obs

def isRt : Obs → Bool | .rt _ _ => true | _ => false

/-- observations that none of the counters / walks of C19 look at -/
def quiet : Obs → Bool
  | .hp => false | .rt _ _ => false | .w _ => false | .tc => false | .dc => false | .ev _ => false
  | _ => true

theorem countP_nil (p : Obs → Bool) : countP p [] = 0 := Obs.countP_nil p

theorem countP_snoc_false {p : Obs → Bool} (l : List Obs) {o : Obs} (h : p o = false) :
    countP p (l ++ [o]) = countP p l := by
  rw [countP_snoc, h]; rfl

theorem countP_eq_zero_any {p : Obs → Bool} {l : List Obs} : countP p l = 0 ↔ l.any p = false := by
  rw [countP, List.length_eq_zero_iff, List.filter_eq_nil_iff, List.any_eq_false]

/-- some `f` from the first `p` on -/
def aft (p f : Obs → Bool) (l : List Obs) : Bool := (l.dropWhile (fun o => !p o)).any f

section
variable {p f : Obs → Bool} {x : Obs}

theorem aft_cons_pos (l : List Obs) (h : p x = true) : aft p f (x :: l) = (f x || l.any f) := by
  simp only [aft, List.dropWhile_cons, h, Bool.not_true, Bool.false_eq_true, ↓reduceIte,
    List.any_cons]

theorem aft_cons_neg (l : List Obs) (h : p x = false) : aft p f (x :: l) = aft p f l := by
  simp only [aft, List.dropWhile_cons, h, Bool.not_false, ↓reduceIte]

theorem aft_append_none (l t : List Obs) (h : l.any p = false) : aft p f (l ++ t) = aft p f t := by
  induction l with
  | nil => rfl
  | cons x l ih =>
    simp only [List.any_cons, Bool.or_eq_false_iff] at h
    rw [List.cons_append, aft_cons_neg _ h.1, ih h.2]

theorem aft_append_some (l t : List Obs) (h : l.any p = true) :
    aft p f (l ++ t) = (aft p f l || t.any f) := by
  induction l with
  | nil => cases h
  | cons x l ih =>
    cases hx : p x
    · rw [List.cons_append, aft_cons_neg _ hx, aft_cons_neg _ hx]
      exact ih (by simpa [hx] using h)
    · rw [List.cons_append, aft_cons_pos _ hx, aft_cons_pos _ hx, List.any_append, Bool.or_assoc]

theorem aft_of_none {l : List Obs} (h : l.any p = false) : aft p f l = false := by
  have := aft_append_none (f := f) l [] h
  rwa [List.append_nil] at this

theorem aft_snoc (l : List Obs) {o : Obs} (h : aft p f l = false) (ho : f o = false) :
    aft p f (l ++ [o]) = false := by
  cases hl : l.any p
  · rw [aft_append_none l _ hl]
    cases hp : p o
    · exact aft_cons_neg [] hp
    · rw [aft_cons_pos [] hp, ho]; rfl
  · rw [aft_append_some l _ hl, h, List.any_cons, ho]; rfl

/-- `hpf`: no `p` is an `f` (the first `p` itself is looked at) -/
theorem aft_false_iff (hpf : ∀ o, p o = true → f o = false) (l : List Obs) :
    aft p f l = false ↔
      ∀ pre m post, l = pre ++ m :: post → p m = true → ∀ o ∈ post, f o = false := by
  induction l with
  | nil => exact ⟨fun _ pre m post h => (by cases pre <;> cases h), fun _ => rfl⟩
  | cons x l ih =>
    cases hx : p x
    · rw [aft_cons_neg l hx, ih]
      constructor
      · intro h pre m post hl hm
        cases pre with
        | nil => cases hl; rw [hx] at hm; cases hm
        | cons y pre => cases hl; exact h pre m post rfl hm
      · intro h pre m post hl
        exact h (x :: pre) m post (by rw [hl]; rfl)
    · rw [aft_cons_pos l hx, hpf x hx, Bool.false_or, List.any_eq_false]
      constructor
      · intro h pre m post hl _ o ho
        have : o ∈ l := by
          cases pre with
          | nil => cases hl; exact ho
          | cons y pre =>
            cases hl; exact List.mem_append_right _ (List.mem_cons_of_mem _ ho)
        simpa using h o this
      · intro h o ho
        simpa using h [] x l rfl hx o ho

end

/-- `C19.afterClose` -/
def aftClose (obs : List Obs) : Bool :=
  countP isW (obs.dropWhile (fun o => !isTc o)) == 0

theorem aftClose_nil : aftClose [] = true := rfl

theorem aftClose_eq (l : List Obs) : aftClose l = !aft isTc isW l := by
  unfold aftClose aft
  cases h : (l.dropWhile fun o => !isTc o).any isW
  · exact beq_iff_eq.mpr (countP_eq_zero_any.mpr h)
  · cases hc : countP isW (l.dropWhile fun o => !isTc o) == 0
    · rfl
    · rw [countP_eq_zero_any.mp (beq_iff_eq.mp hc)] at h; cases h

theorem aftClose_snoc (l : List Obs) {o : Obs} (h : aftClose l = true) (ho : isW o = false) :
    aftClose (l ++ [o]) = true := by
  rw [aftClose_eq, Bool.not_eq_true'] at h ⊢
  exact aft_snoc l h ho

theorem aftClose_of_noTc {l : List Obs} (h : l.any isTc = false) : aftClose l = true := by
  rw [aftClose_eq, aft_of_none h]; rfl

def ackE : Event → Nat → Nat
  | .ack n, u => min n u
  | .ackAll, u => u
  | _, _ => 0

/-- `C19.ackOf` -/
def ackAt (evs : List Event) (k u : Nat) : Nat :=
  match evs[k]? with
  | some e => ackE e u
  | none => 0

def trk1 (ak : Nat → Nat → Nat) (p : Nat × Nat) : Obs → Nat × Nat
  | .ev k => (p.1, p.2 + ak k (p.1 - p.2))
  | .w b => (p.1 + b.length, p.2)
  | _ => p

/-- (written, acknowledged) after `l`; `ak k u`: what event `k` acknowledges of `u` outstanding -/
def trkFrom (ak : Nat → Nat → Nat) (l : List Obs) (p : Nat × Nat) : Nat × Nat :=
  l.foldl (trk1 ak) p

def trk (ak : Nat → Nat → Nat) (l : List Obs) : Nat × Nat := trkFrom ak l (0, 0)

theorem trk_nil (ak : Nat → Nat → Nat) : trk ak [] = (0, 0) := rfl

theorem trk_snoc (ak : Nat → Nat → Nat) (l : List Obs) (o : Obs) :
    trk ak (l ++ [o]) = trk1 ak (trk ak l) o := by
  simp only [trk, trkFrom, List.foldl_append, List.foldl_cons, List.foldl_nil]

theorem quiet_facts {o : Obs} (h : quiet o = true) :
    isHp o = false ∧ isRt o = false ∧ isW o = false ∧ isTc o = false ∧ isDc o = false ∧
    (∀ k, o ≠ .ev k) := by
  cases o <;> first | exact Bool.noConfusion h | exact ⟨rfl, rfl, rfl, rfl, rfl, fun _ => Obs.noConfusion⟩

theorem trk1_quiet (ak : Nat → Nat → Nat) (p : Nat × Nat) {o : Obs} (h : quiet o = true) :
    trk1 ak p o = p := by
  cases o <;> first | exact Bool.noConfusion h | rfl

end Qhttp.C19L
