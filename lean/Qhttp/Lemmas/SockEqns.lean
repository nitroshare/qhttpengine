import Qhttp.Model.Socket
/-
  Equations and case principles of the socket model itself (Model/Socket.lean), with every
  argument a variable: what each primitive does in each of its branches, and through which
  guards (`alive`, `dcFlag`, `devOpen`) `apiPrim` / `api` / `step` / `stepK` pass.
-/
namespace Qhttp.Sock

/-- what `tcpWrite` does when it writes -/
def wrote (s : Sock) (b : Bytes) : Sock :=
  { s with tcp := { s.tcp with wire := s.tcp.wire ++ b, unacked := s.tcp.unacked + b.length },
           log := s.log ++ [Obs.w b] }

theorem tcpWrite_cases (s : Sock) (b : Bytes) :
    tcpWrite s b = s ∨
    (s.tcp.devOpen = true ∧ s.tcp.conn = .connected ∧ b ≠ [] ∧ tcpWrite s b = wrote s b) := by
  unfold tcpWrite wrote
  split
  · rename_i h
    simp only [Bool.and_eq_true, beq_iff_eq, Bool.not_eq_true', List.isEmpty_eq_false_iff] at h
    exact Or.inr ⟨h.1.1, h.1.2, h.2, rfl⟩
  · exact Or.inl rfl

theorem tcpWrite_nil (s : Sock) : tcpWrite s [] = s := by simp [tcpWrite]

theorem tcpWrite_closed (s : Sock) (b : Bytes) (h : s.tcp.devOpen = false) : tcpWrite s b = s := by
  simp [tcpWrite, h]

theorem tcpWrite_open {s : Sock} {b : Bytes} (h : s.tcp.devOpen = true) (hc : s.tcp.conn = .connected)
    (hb : b ≠ []) : tcpWrite s b = wrote s b := by
  simp [tcpWrite, wrote, h, hc, hb]

/-- already closed, disconnected at once, closing until the last byte is acknowledged, not
    connected any more -/
theorem tcpClose_cases (s : Sock) {P : Sock → Prop} (closed : s.tcp.devOpen = false → P s)
    (disc : s.tcp.devOpen = true → s.tcp.conn = .connected → s.tcp.unacked = 0 →
      P { s with tcp := { s.tcp with devOpen := false, conn := .unconnected }, dcFlag := true,
                 log := s.log ++ [Obs.tc] })
    (closing : s.tcp.devOpen = true → s.tcp.conn = .connected → s.tcp.unacked ≠ 0 →
      P { s with tcp := { s.tcp with devOpen := false, conn := .closing }, log := s.log ++ [Obs.tc] })
    (other : s.tcp.devOpen = true → s.tcp.conn ≠ .connected →
      P { s with tcp := { s.tcp with devOpen := false }, log := s.log ++ [Obs.tc] }) :
    P (tcpClose s) := by
  unfold tcpClose
  split
  · rename_i hd
    exact closed (by simpa using hd)
  · rename_i hd
    have hd : s.tcp.devOpen = true := by simpa using hd
    dsimp only
    split
    · rename_i hc
      split
      · rename_i hu; exact disc hd hc hu
      · rename_i hu; exact closing hd hc hu
    · rename_i hc
      exact other hd fun e => hc e

theorem tcpClose_closed (s : Sock) (h : s.tcp.devOpen = false) : tcpClose s = s := by
  simp [tcpClose, h]

theorem headBytes_ne_nil (s : Sock) : headBytes s ≠ [] := by
  simp [headBytes, lit]

/-- a read moves bytes from the request buffers to the caller and touches nothing else -/
theorem readData_eq (s : Sock) (n : Nat) :
    ∃ k d, (readData s n).1 = { s with readBuffer := s.readBuffer.drop k, dataRead := d } := by
  unfold readData
  split
  · exact ⟨0, s.dataRead, rfl⟩
  · exact ⟨n, _, rfl⟩

theorem read_eq (s : Sock) (n : Nat) :
    ∃ q k d, (Sock.read s n).1 = { s with qio := q, readBuffer := s.readBuffer.drop k, dataRead := d } := by
  unfold Sock.read
  dsimp only
  split
  · exact ⟨s.qio, 0, s.dataRead, rfl⟩
  · split
    · exact ⟨s.qio.drop n, 0, s.dataRead, rfl⟩
    · split
      · obtain ⟨k, d, hd⟩ := readData_eq { s with qio := s.qio.drop n } (n - (s.qio.take n).length)
        exact ⟨s.qio.drop n, k, d, hd⟩
      · obtain ⟨k, d, hd⟩ := readData_eq { s with qio := s.qio.drop n } chunk
        generalize readData { s with qio := s.qio.drop n } chunk = p at hd ⊢
        obtain ⟨s2, got⟩ := p
        dsimp only at hd
        subst hd
        exact ⟨(s.qio.drop n ++ got).drop (n - (s.qio.take n).length), k, d, rfl⟩

theorem readAll_eq (s : Sock) :
    ∃ q k d, (Sock.readAll s).1 = { s with qio := q, readBuffer := s.readBuffer.drop k, dataRead := d } := by
  unfold Sock.readAll
  dsimp only
  split
  · exact ⟨s.qio, 0, s.dataRead, rfl⟩
  · obtain ⟨k, d, hd⟩ := readData_eq { s with qio := [] } s.readBuffer.length
    exact ⟨[], k, d, hd⟩

theorem apiPrim_alive (env : Env) {s : Sock} (h : s.alive = true) (op : ApiOp) :
    apiPrim env s op =
      match op with
      | .read n   => { (Sock.read s n).1 with log := (Sock.read s n).1.log ++ [Obs.rd (Sock.read s n).2] }
      | .readAll  => { (Sock.readAll s).1 with log := (Sock.readAll s).1.log ++ [Obs.rd (Sock.readAll s).2] }
      | .avail    => { s with log := s.log ++ [Obs.av (bytesAvailable s)] }
      | .snap     => { s with log := s.log ++ [Obs.snap (takeSnap s)] }
      | .status c r => setStatusCode s c r
      | .hdr n v r  => setHeader s n v r
      | .hdrs m     => { s with respHeaders := m.foldl (fun acc e => HeaderMap.insert e.1 e.2 acc) [] }
      | .wh         => writeHeaders s
      | .write bs   => write s bs
      | .err c r    => writeError env s c r
      | .redir p pm => writeRedirect s p pm
      | .json bd c  => writeJson s bd c
      | .close      => Sock.close s
      | .note o     => { s with log := s.log ++ [o] } := by
  unfold apiPrim
  rw [if_neg (by rw [h]; decide)]
  cases op <;> rfl


theorem api_eq (env : Env) (app : App) (s : Sock) (op : ApiOp) :
    api env app s op =
      if (apiPrim env s op).dcFlag then emitDc env app (apiPrim env s op) else apiPrim env s op := rfl

theorem apiPrim_dead (env : Env) {s : Sock} (op : ApiOp) (h : s.alive = false) : apiPrim env s op = s := by
  unfold apiPrim
  rw [h]; rfl

theorem api_of_dcFlag (env : Env) (app : App) (s : Sock) (op : ApiOp)
    (h : (apiPrim env s op).dcFlag = false) : api env app s op = apiPrim env s op := by
  simp [api, h]

theorem api_dead (env : Env) (app : App) {s : Sock} (op : ApiOp) (h : s.alive = false)
    (hf : s.dcFlag = false) : api env app s op = s := by
  rw [api_of_dcFlag env app s op (by rw [apiPrim_dead env op h]; exact hf), apiPrim_dead env op h]

/-- the reaction runs with the flag cleared and `dc` recorded; deletion is scheduled if
    `Socket::close` had been called before the emission -/
theorem emitDc_eq (env : Env) (app : App) (s : Sock) :
    emitDc env app s =
      { (app.onDc { s with dcFlag := false, log := s.log ++ [Obs.dc] }).foldl (apiPrim env)
          { s with dcFlag := false, log := s.log ++ [Obs.dc] } with
        dcFlag := false,
        delPending := ((app.onDc { s with dcFlag := false, log := s.log ++ [Obs.dc] }).foldl (apiPrim env)
          { s with dcFlag := false, log := s.log ++ [Obs.dc] }).delPending || s.closeCalled } := rfl

theorem emitDc_of_nil (env : Env) {app : App} (s : Sock)
    (h : app.onDc { s with dcFlag := false, log := s.log ++ [Obs.dc] } = []) :
    emitDc env app s =
      { s with dcFlag := false, log := s.log ++ [Obs.dc], delPending := s.delPending || s.closeCalled } := by
  rw [emitDc_eq, h]; rfl

theorem step_dead (env : Env) (app : App) {s : Sock} (e : Event) (h : s.alive = false) :
    step env app s e = s := by
  unfold step; simp [h]

theorem step_api (env : Env) (app : App) {s : Sock} (op : ApiOp) (h : s.alive = true) :
    step env app s (.api op) = api env app s op := by
  simp [step, h]

theorem step_new (env : Env) (app : App) (s : Sock) (h : s.alive = true) :
    step env app s .new = { s with initPending := true } := by
  unfold step; rw [if_neg (by rw [h]; decide)]

theorem step_feed (env : Env) (app : App) (s : Sock) (seg : Bytes) (h : s.alive = true) :
    step env app s (.feed seg) =
      onReadyRead env app { s with tcp := { s.tcp with inbox := s.tcp.inbox ++ seg } } := by
  unfold step; rw [if_neg (by rw [h]; decide)]

/-- posted events first (the queued initial read), then deferred deletion -/
theorem step_turn (env : Env) (app : App) (s : Sock) (h : s.alive = true) :
    step env app s .turn =
      (fun s1 : Sock => if s1.delPending then { s1 with alive := false, delPending := false, log := s1.log ++ [Obs.del] }
        else s1)
      (if s.initPending then onReadyRead env app { s with initPending := false } else s) := by
  unfold step; rw [if_neg (by rw [h]; decide)]

theorem step_peerClose (env : Env) (app : App) (s : Sock) (h : s.alive = true) :
    step env app s .peerClose =
      if s.tcp.conn == .unconnected then s else
        emitDc env app
          (onReadChannelFinished env app { s with tcp := { s.tcp with conn := .unconnected } }) := by
  unfold step; rw [if_neg (by rw [h]; decide)]

theorem stepK_alive (env : Env) (app : App) {s : Sock} (k : Nat) (e : Event) (h : s.alive = true) :
    stepK env app (s, k) e = (step env app { s with log := s.log ++ [Obs.ev k] } e, k + 1) := by
  simp [stepK, h]

theorem stepK_dead (env : Env) (app : App) {s : Sock} (k : Nat) (e : Event) (h : s.alive = false) :
    stepK env app (s, k) e = (s, k + 1) := by
  simp [stepK, step, h]

theorem readHeaders_none (env : Env) (app : App) (s : Sock) (h : breakOn CRLF2 s.readBuffer = none) :
    readHeaders env app s = (s, false) := by
  unfold readHeaders; rw [h]

/-- the state in which `headersParsed` is emitted -/
def hpState (s : Sock) (rh : Parser.ReqHead) (p : Bytes) (q : List (Bytes × Bytes)) (rest : Bytes) : Sock :=
  let s1 : Sock := { s with method := rh.method, rawPath := rh.rawPath, reqHeaders := rh.headers, path := p,
                            query := q.foldl (fun m e => qmInsert e.1 e.2 m) s.query,
                            readBuffer := rest, rs := .data }
  if HeaderMap.contains CONTENT_LENGTH_KEY s1.reqHeaders then
    let t := toLongLong (HeaderMap.value CONTENT_LENGTH_KEY s1.reqHeaders)
    { s1 with total := t,
              readBuffer := if t ≥ 0 && (s1.readBuffer.length : Int) > t
                            then s1.readBuffer.take t.toNat else s1.readBuffer }
  else s1

theorem hpState_fields (s : Sock) (rh : Parser.ReqHead) (p : Bytes) (q : List (Bytes × Bytes)) (rest : Bytes) :
    (hpState s rh p q rest).alive = s.alive ∧ (hpState s rh p q rest).ws = s.ws ∧
    (hpState s rh p q rest).ioOpen = s.ioOpen ∧ (hpState s rh p q rest).dcFlag = s.dcFlag ∧
    (hpState s rh p q rest).tcp = s.tcp ∧ (hpState s rh p q rest).code = s.code ∧
    (hpState s rh p q rest).reason = s.reason ∧ (hpState s rh p q rest).respHeaders = s.respHeaders ∧
    (hpState s rh p q rest).delPending = s.delPending ∧ (hpState s rh p q rest).rs = .data ∧
    (hpState s rh p q rest).log = s.log := by
  unfold hpState
  simp only []
  split <;> exact ⟨rfl, rfl, rfl, rfl, rfl, rfl, rfl, rfl, rfl, rfl, rfl⟩

theorem readHeaders_ok (env : Env) (app : App) (s : Sock) {head rest : Bytes} {rh : Parser.ReqHead}
    {p : Bytes} {q : List (Bytes × Bytes)}
    (hb : breakOn CRLF2 s.readBuffer = some (head, rest))
    (hp : Parser.parseRequestHeaders head s.reqHeaders = some rh)
    (hu : env.url rh.rawPath = some (p, q)) :
    readHeaders env app s =
      (emit env app (hpState s rh p q rest) .hp (app.onHp (hpState s rh p q rest)), true) := by
  unfold readHeaders
  simp only [hb, hp, hu]
  rfl

/-- a head that does not parse, or whose request target is not a valid URL, is answered with 400 -/
theorem readHeaders_bad (env : Env) (app : App) (s : Sock) {head rest : Bytes}
    (hb : breakOn CRLF2 s.readBuffer = some (head, rest))
    (hbad : ∀ rh, Parser.parseRequestHeaders head s.reqHeaders = some rh → env.url rh.rawPath = none) :
    readHeaders env app s =
      (if (writeError env s 400 none).dcFlag then emitDc env app (writeError env s 400 none)
       else writeError env s 400 none, false) := by
  unfold readHeaders
  rw [hb]
  simp only
  cases hp : Parser.parseRequestHeaders head s.reqHeaders with
  | none => rfl
  | some rh => simp only [hbad rh hp]

/-- `onReadyRead`, first half -/
def pull (s : Sock) : Sock :=
  { s with readBuffer := s.readBuffer ++ s.tcp.inbox, tcp := { s.tcp with inbox := [] } }

def post (env : Env) (app : App) (r : Sock × Bool) : Sock :=
  if !r.2 then r.1 else
  match r.1.rs with
  | .data => readDataSlot env app r.1
  | .finished => { r.1 with readBuffer := [] }
  | .headers => r.1

theorem post_false (env : Env) (app : App) (s : Sock) : post env app (s, false) = s := rfl

theorem onReadyRead_headers (env : Env) (app : App) (s : Sock) (hrs : s.rs = .headers)
    (hdev : s.tcp.devOpen = true) :
    onReadyRead env app s = post env app (readHeaders env app (pull s)) := by
  unfold onReadyRead
  rw [if_neg (by rw [hrs]; exact RState.noConfusion), if_pos hdev]
  show post env app (if (pull s).rs = .headers then readHeaders env app (pull s) else (pull s, true)) = _
  rw [if_pos (show (pull s).rs = .headers from hrs)]

/-- the end of `ackN`: the last acknowledgement after `close` completes the disconnect -/
def ackTail (env : Env) (app : App) (s : Sock) : Sock :=
  if s.tcp.conn == .closing && s.tcp.unacked = 0 then
    emitDc env app { s with tcp := { s.tcp with conn := .unconnected } }
  else s

theorem ackN_zero (env : Env) (app : App) {s : Sock} {n : Nat} (h : min n s.tcp.unacked = 0) :
    ackN env app s n = s := if_pos h

theorem ackN_pos (env : Env) (app : App) {s : Sock} {n : Nat} (h : ¬ min n s.tcp.unacked = 0) :
    ackN env app s n = ackTail env app (onBytesWritten env app
      { s with tcp := { s.tcp with unacked := s.tcp.unacked - min n s.tcp.unacked } }
      (min n s.tcp.unacked : Nat)) := if_neg h

theorem ackTail_connected (env : Env) (app : App) {s : Sock} (h : s.tcp.conn = .connected) :
    ackTail env app s = s := by
  unfold ackTail
  rw [h]
  rfl

theorem foldl_closed {P : Sock → Prop} {ok : ApiOp → Bool} {f : Sock → ApiOp → Sock}
    (hf : ∀ {s op}, ok op = true → P s → P (f s op)) (ops : List ApiOp)
    (hq : ops.all ok = true) {s : Sock} (h : P s) : P (ops.foldl f s) := by
  induction ops generalizing s with
  | nil => exact h
  | cons op ops ih =>
    simp only [List.all_cons, Bool.and_eq_true] at hq
    exact ih hq.2 (hf hq.1 h)

/-- `P k rest s`: `s` is the state before the `k`-th event, `rest` the events still to come -/
theorem run_induct (env : Env) (app : App) (evs : List Event)
    (P : Nat → List Event → Sock → Prop) (h0 : P 0 evs {})
    (hs : ∀ k e rest s, evs[k]? = some e → P k (e :: rest) s →
      P (k + 1) rest (step env app (if !s.alive then s else { s with log := s.log ++ [.ev k] }) e)) :
    P evs.length [] (Sock.run env app evs) := by
  have key : ∀ (suf pre : List Event) (s : Sock), pre ++ suf = evs → P pre.length suf s →
      P evs.length [] (suf.foldl (stepK env app) (s, pre.length)).1 := by
    intro suf
    induction suf with
    | nil =>
      intro pre s hpre h
      rw [List.append_nil] at hpre
      rw [← hpre]; exact h
    | cons e suf ih =>
      intro pre s hpre h
      have hk : evs[pre.length]? = some e := by
        rw [← hpre, List.getElem?_append_right (Nat.le_refl _), Nat.sub_self]; rfl
      have hl : (pre ++ [e]).length = pre.length + 1 := by
        rw [List.length_append]; rfl
      have := ih (pre ++ [e]) _ (by rw [List.append_assoc]; exact hpre)
        (by rw [hl]; exact hs pre.length e suf s hk h)
      rw [hl] at this
      exact this
  exact key evs [] {} rfl h0

/-- with the guard of `stepK` resolved -/
theorem run_induct_alive (env : Env) (app : App) (evs : List Event)
    (P : Nat → List Event → Sock → Prop) (h0 : P 0 evs {})
    (hdead : ∀ k e rest s, s.alive = false → P k (e :: rest) s → P (k + 1) rest s)
    (hs : ∀ k e rest s, evs[k]? = some e → s.alive = true → P k (e :: rest) s →
      P (k + 1) rest (step env app { s with log := s.log ++ [.ev k] } e)) :
    P evs.length [] (Sock.run env app evs) := by
  refine run_induct env app evs P h0 fun k e rest s hk h => ?_
  rcases Bool.eq_false_or_eq_true s.alive with hal | hal
  · rw [if_neg (by rw [hal]; decide)]
    exact hs k e rest s hk hal h
  · rw [if_pos (by rw [hal]; rfl), step_dead env app e hal]
    exact hdead k e rest s hal h

end Qhttp.Sock
