import Qhttp.Lemmas.C19Step
/-
  C19: the application's own record "by now I have closed the HTTP socket" (`Obs.misc 50 _`,
  the `mark` of the scenario language) and what the history looks like around it.

  `wac l` ("wrote after the application's close", `C19.wroteAfterAppClose`): some `w` follows the
  first record.  The invariant `MS c` ("marked"; `run_MS` with `KS_tc` is what
  `C19.holdsMarked_run` rests on):
      a record in the history  →  the transport's device is closed
      wac s.log = false
      c = true  →  the Socket object is gone, or the transport's device is closed
  The ghost flag `c`: a closing call was issued earlier in the list of API calls being executed;
  a record may be written only when `c` holds.  A call on a Socket
  object that is gone records nothing; a closing call on a live one ends in `tcpClose`, which
  leaves the device closed; a closed device is never reopened, and `tcpWrite` reaches the wire only
  through an open device.
-/
namespace Qhttp.C19L
open Qhttp Qhttp.Obs Qhttp.Sock

/-- `C19.isMark` -/
def isMark : Obs → Bool | .misc 50 _ => true | _ => false

def wac (l : List Obs) : Bool := (l.dropWhile (fun o => !isMark o)).any isW

theorem wac_nil : wac [] = false := rfl

theorem mark_notW {o : Obs} (h : isMark o = true) : isW o = false := by
  cases o <;> first | rfl | simp [isMark] at h

theorem wac_eq (l : List Obs) : wac l = aft isMark isW l := rfl

/-- `o` the device flag, `a` the liveness of the Socket object -/
def MSf (c o a : Bool) (l : List Obs) : Prop :=
  (l.any isMark = true → o = false) ∧ wac l = false ∧ (c = true → a = false ∨ o = false)

def MS (c : Bool) (s : Sock) : Prop := MSf c s.tcp.devOpen s.alive s.log

theorem MSf_init : MSf false true true [] := ⟨by simp, rfl, by simp⟩

theorem MSf_snoc {c o a : Bool} {l : List Obs} (x : Obs) (hw : isW x = false)
    (hm : isMark x = true → o = false) (h : MSf c o a l) : MSf c o a (l ++ [x]) := by
  obtain ⟨h1, h2, h3⟩ := h
  refine ⟨fun hx => ?_, aft_snoc l h2 hw, h3⟩
  simp only [List.any_append, List.any_cons, List.any_nil, Bool.or_false, Bool.or_eq_true] at hx
  rcases hx with hx | hx
  · exact h1 hx
  · exact hm hx

theorem MSf_w {c a : Bool} {l : List Obs} (b : Bytes) (h : MSf c true a l) :
    MSf c true a (l ++ [.w b]) := by
  obtain ⟨h1, h2, h3⟩ := h
  have hn : l.any isMark = false := by
    cases hm : l.any isMark
    · rfl
    · exact absurd (h1 hm) (by decide)
  have hn' : (l ++ [Obs.w b]).any isMark = false := by
    rw [List.any_append, hn]; rfl
  exact ⟨fun hx => (by rw [hn'] at hx; cases hx), aft_of_none hn', h3⟩

theorem MSf_shut {c c' o a : Bool} {l : List Obs} (h : MSf c o a l) : MSf c' false a l :=
  ⟨fun _ => rfl, h.2.1, fun _ => Or.inr rfl⟩

theorem MSf_dead {c c' o a : Bool} {l : List Obs} (h : MSf c o a l) : MSf c' o false l :=
  ⟨h.1, h.2.1, fun _ => Or.inl rfl⟩

theorem MSf_weaken {c c' o a : Bool} {l : List Obs} (h : MSf c' o a l)
    (hc : c = true → c' = true) : MSf c o a l :=
  ⟨h.1, h.2.1, fun x => h.2.2 (hc x)⟩

theorem MS_weaken {c c' : Bool} {s : Sock} (h : MS c' s) (hc : c = true → c' = true) : MS c s :=
  MSf_weaken h hc

/-- the call does not fake a write -/
def nwOp : ApiOp → Bool
  | .note o => !isW o
  | _ => true

def markOp : ApiOp → Bool
  | .note o => isMark o
  | _ => false

/-- `C19.closesOp` -/
def closesOp : ApiOp → Bool
  | .close => true
  | .err _ _ => true
  | .redir _ _ => true
  | .json _ _ => true
  | _ => false

theorem rd_notMark (b : Bytes) : isMark (.rd b) = false := rfl

theorem MS_of_eq {c : Bool} {s s' : Sock} (ho : s'.tcp.devOpen = s.tcp.devOpen)
    (hl : s'.log = s.log) (ha : s'.alive = s.alive) (h : MS c s) : MS c s' := by
  unfold MS at *
  rw [ho, hl, ha]
  exact h

theorem MS_same {c : Bool} {s s' : Sock} (hs : Same s s') (h : MS c s) : MS c s' :=
  MS_of_eq hs.o hs.l hs.a h

theorem MS_tcpWrite {c : Bool} {s : Sock} (b : Bytes) (h : MS c s) : MS c (tcpWrite s b) := by
  unfold tcpWrite
  split
  · rename_i hc
    simp only [Bool.and_eq_true, beq_iff_eq] at hc
    obtain ⟨⟨ho, _⟩, _⟩ := hc
    unfold MS at *
    show MSf c s.tcp.devOpen s.alive (s.log ++ [.w b])
    rw [ho] at h ⊢
    exact MSf_w b h
  · exact h

theorem MS_tcpClose {c c' : Bool} {s : Sock} (h : MS c s) : MS c' (tcpClose s) := by
  obtain ⟨ha, _, ho, hl⟩ := tcpClose_facts s
  unfold MS at *
  rw [ha, ho]
  rcases hl with e | e <;> rw [e]
  · exact MSf_shut h
  · exact MSf_snoc .tc rfl (fun _ => rfl) (MSf_shut h)

theorem MS_note {c : Bool} {s : Sock} (o : Obs) (hw : isW o = false)
    (hm : isMark o = true → s.tcp.devOpen = false) (h : MS c s) :
    MS c { s with log := s.log ++ [o] } :=
  MSf_snoc o hw hm h

/-- the frame rule serves every `note` but a write and the record, which `apiPrim_MS` treats by hand -/
def nmark (o : Obs) : Bool := !isW o && !isMark o

theorem MS_frame (c : Bool) : Frame nmark (MS c) where
  res := fun o h => by cases o <;> first | rfl | cases h
  same := fun _ _ hs h => MS_same hs h
  tw := fun _ b h => MS_tcpWrite b h
  tcl := fun _ _ h => MS_tcpClose h
  note := fun _ o ho h => by
    rw [nmark, Bool.and_eq_true, Bool.not_eq_true', Bool.not_eq_true'] at ho
    exact MS_note o ho.1 (fun x => by rw [ho.2] at x; cases x) h

theorem close_devOpen (s : Sock) : (close s).tcp.devOpen = false := by
  unfold close
  exact (tcpClose_facts _).2.2.1

theorem closesOp_devOpen (env : Env) {s : Sock} {op : ApiOp} (hal : s.alive = true)
    (hc : closesOp op = true) : (apiPrim env s op).tcp.devOpen = false := by
  unfold apiPrim
  simp only [hal, Bool.not_true, Bool.false_eq_true, ↓reduceIte]
  cases op <;> simp only [closesOp, Bool.false_eq_true] at hc
  · unfold writeError; exact close_devOpen _
  · unfold writeRedirect; exact close_devOpen _
  · unfold writeJson; exact close_devOpen _
  · exact close_devOpen _

theorem markOp_note {op : ApiOp} (h : markOp op = true) : ∃ o, op = .note o ∧ isMark o = true := by
  cases op <;> simp only [markOp, Bool.false_eq_true] at h
  exact ⟨_, rfl, h⟩

theorem markOp_closes {op : ApiOp} (h : markOp op = true) : closesOp op = false := by
  obtain ⟨o, rfl, _⟩ := markOp_note h
  rfl

/-- `C19.marksFrom` -/
def marksFrom (c : Bool) : List ApiOp → Bool
  | [] => true
  | op :: rest => (!markOp op || c) && marksFrom (c || closesOp op) rest

theorem mark_allowed {mk c c' : Bool} (hc : c = true → c' = true) (h : (!mk || c) = true) :
    (!mk || c') = true := by
  cases mk
  · rfl
  · exact hc h

theorem mark_needs {mk c : Bool} (h : (!mk || c) = true) (hm : mk = true) : c = true := by
  subst hm; exact h

theorem marksFrom_mono {c c' : Bool} (hc : c = true → c' = true) (ops : List ApiOp)
    (h : marksFrom c ops = true) : marksFrom c' ops = true := by
  induction ops generalizing c c' with
  | nil => rfl
  | cons op ops ih =>
    simp only [marksFrom, Bool.and_eq_true] at h ⊢
    refine ⟨mark_allowed hc h.1, ih (fun hx => ?_) h.2⟩
    cases hcl : closesOp op
    · rw [hcl, Bool.or_false] at hx
      rw [Bool.or_false]; exact hc hx
    · exact Bool.or_true c'

/-- a record needs `c`; a closing call establishes it -/
theorem apiPrim_MS (env : Env) {c : Bool} {s : Sock} {op : ApiOp} (hq : nwOp op = true)
    (hm : markOp op = true → c = true) (h : MS c s) :
    MS (c || closesOp op) (apiPrim env s op) := by
  by_cases hal : s.alive = true
  · by_cases hmk : markOp op = true
    · obtain ⟨o, rfl, ho⟩ := markOp_note hmk
      have hc := hm hmk
      subst hc
      have hd : s.tcp.devOpen = false := by
        rcases h.2.2 rfl with h' | h'
        · rw [hal] at h'; cases h'
        · exact h'
      unfold apiPrim
      rw [if_neg (by rw [hal]; decide)]
      simp only [closesOp, Bool.or_false]
      exact MS_note o (mark_notW ho) (fun _ => hd) h
    · have hmk' : markOp op = false := by simpa using hmk
      have h1 : MS c (apiPrim env s op) := by
        refine apiPrim_frame (MS_frame c) env (fun o e => ?_) h
        subst e
        rw [nmark, show (!isW o) = true from hq, show isMark o = false from hmk']; rfl
      refine ⟨h1.1, h1.2.1, fun hx => ?_⟩
      simp only [Bool.or_eq_true] at hx
      rcases hx with hx | hx
      · exact h1.2.2 hx
      · exact Or.inr (closesOp_devOpen env hal hx)
  · have hal' : s.alive = false := by simpa using hal
    rw [apiPrim_dead env op hal']
    unfold MS at h ⊢
    rw [hal'] at h ⊢
    exact MSf_dead h

def okFrom (c : Bool) (ops : List ApiOp) : Bool := ops.all nwOp && marksFrom c ops

theorem okFrom_cons {c : Bool} {op : ApiOp} {ops : List ApiOp} (h : okFrom c (op :: ops) = true) :
    nwOp op = true ∧ (markOp op = true → c = true) ∧ okFrom (c || closesOp op) ops = true := by
  simp only [okFrom, List.all_cons, marksFrom, Bool.and_eq_true] at h ⊢
  exact ⟨h.1.1, mark_needs h.2.1, h.1.2, h.2.2⟩

theorem okFrom_mono {c c' : Bool} (hc : c = true → c' = true) {ops : List ApiOp}
    (h : okFrom c ops = true) : okFrom c' ops = true := by
  simp only [okFrom, Bool.and_eq_true] at h ⊢
  exact ⟨h.1, marksFrom_mono hc ops h.2⟩

/-- `f`: `apiPrim env` or `api env app`; the flag a closing call raises serves the records after it
    and is dropped at the end -/
theorem foldl_MS {f : Sock → ApiOp → Sock}
    (hf : ∀ {c s op}, nwOp op = true → (markOp op = true → c = true) → MS c s →
      MS (c || closesOp op) (f s op))
    (ops : List ApiOp) {c : Bool} {s : Sock} (hok : okFrom c ops = true) (h : MS c s) :
    MS c (ops.foldl f s) := by
  induction ops generalizing c s with
  | nil => exact h
  | cons op ops ih =>
    obtain ⟨h1, h2, h3⟩ := okFrom_cons hok
    exact MS_weaken (ih h3 (hf h1 h2 h)) (fun x => by rw [x]; rfl)

structure AppM (app : App) : Prop where
  hp  : ∀ s, okFrom false (app.onHp s) = true
  rr  : ∀ s, okFrom false (app.onRr s) = true
  rcf : ∀ s, okFrom false (app.onRcf s) = true
  bw  : ∀ s, okFrom false (app.onBw s) = true
  dc  : ∀ s, okFrom false (app.onDc s) = true

variable {env : Env} {app : App} {c : Bool} {s : Sock}

theorem emitDc_MS (happ : AppM app) (h : MS c s) : MS c (emitDc env app s) := by
  unfold emitDc
  dsimp only
  have h1 : MS c { s with dcFlag := false, log := s.log ++ [.dc] } :=
    MSf_snoc .dc rfl (fun x => by cases x) h
  exact foldl_MS (f := apiPrim env) (apiPrim_MS env) _
    (okFrom_mono (c' := c) (fun x => by cases x) (happ.dc _)) h1

theorem fin_MS (happ : AppM app) (h : MS c s) :
    MS c (if s.dcFlag = true then emitDc env app s else s) := by
  split
  · exact emitDc_MS happ h
  · exact h

theorem api_MS (happ : AppM app) {op : ApiOp} (hq : nwOp op = true)
    (hm : markOp op = true → c = true) (h : MS c s) :
    MS (c || closesOp op) (api env app s op) := by
  unfold api
  exact fin_MS happ (apiPrim_MS env hq hm h)

theorem apis_MS (happ : AppM app) (ops : List ApiOp) (hok : okFrom c ops = true) (h : MS c s) :
    MS c (apis env app s ops) :=
  foldl_MS (f := api env app) (api_MS happ) ops hok h

theorem emit_MS (happ : AppM app) (o : Obs) (hw : isW o = false) (hm : isMark o = false)
    (ops : List ApiOp) (hok : okFrom false ops = true) (h : MS c s) :
    MS c (emit env app s o ops) := by
  unfold emit
  refine apis_MS happ ops (okFrom_mono (fun x => by cases x) hok) ?_
  exact MS_note o hw (fun x => by rw [hm] at x; cases x) h

end Qhttp.C19L
