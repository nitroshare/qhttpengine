import Qhttp.Lemmas.HttpRender
/-
  The 400 response in closed form and what the strict reader `Http.parse` makes of it.
-/
namespace Qhttp.C04L
open Qhttp

def START400 : Bytes :=
  lit ['H','T','T','P','/','1','.','0',' ','4','0','0',' ','B','A','D',' ','R','E','Q','U','E','S','T']

/-- the header block with `Content-Length: d`; nested to the right so that it unfolds from the front -/
def head400 (d : Bytes) : Bytes :=
  START400 ++ (CRLF ++ ((Sock.CONTENT_LENGTH ++ ([COLON, SP] ++ d)) ++
    (CRLF ++ ((Sock.CONTENT_TYPE ++ ([COLON, SP] ++ Sock.TEXT_HTML)) ++ (CRLF2)))))

def msg400 (d body : Bytes) : Http.Msg :=
  { start := START400,
    headers := [(Sock.CONTENT_LENGTH, d), (Sock.CONTENT_TYPE, Sock.TEXT_HTML)],
    body := body }

theorem head400_eq (d : Bytes) :
    head400 d = START400 ++ CRLF ++
      Sock.headerLines [(Sock.CONTENT_LENGTH, d), (Sock.CONTENT_TYPE, Sock.TEXT_HTML)] ++ CRLF := by
  simp only [head400, Sock.headerLines, CRLF2, CRLF, List.append_assoc, List.cons_append,
    List.nil_append, List.append_nil]

theorem parse_head400 (d body : Bytes) (hd : d.all isDigit = true) :
    Http.parse (head400 d ++ body) = some (msg400 d body) := by
  rw [head400_eq]
  apply Http.parse_render
  · decide
  · intro e he
    simp only [List.mem_cons, List.not_mem_nil, or_false] at he
    rcases he with rfl | rfl
    · exact ⟨(by decide : Sock.CONTENT_LENGTH ≠ []), (by decide : COLON ∉ Sock.CONTENT_LENGTH),
        (by decide : CR ∉ Sock.CONTENT_LENGTH),
        fun h => absurd (List.all_eq_true.mp hd CR h) (by decide)⟩
    · exact ⟨(by decide : Sock.CONTENT_TYPE ≠ []), (by decide : COLON ∉ Sock.CONTENT_TYPE),
        (by decide : CR ∉ Sock.CONTENT_TYPE), (by decide : CR ∉ Sock.TEXT_HTML)⟩

theorem statusLine_start400 :
    Http.statusLine START400 =
      some { code := 400, reason := lit ['B','A','D',' ','R','E','Q','U','E','S','T'] } := by
  decide

theorem valuesOf_cl (d : Bytes) (hd : d.all isDigit = true) :
    Http.valuesOf Sock.CONTENT_LENGTH
      [(Sock.CONTENT_LENGTH, d), (Sock.CONTENT_TYPE, Sock.TEXT_HTML)] = [d] := by
  have h2 : (lower Sock.CONTENT_TYPE == lower Sock.CONTENT_LENGTH) = false := by decide
  have h3 : splitF [44, 32] (d.length + 1) none d = [d] :=
    HB.splitAll_of_not_mem fun hm => absurd (List.all_eq_true.mp hd 44 hm) (by decide)
  simp [Http.valuesOf, List.filter, h2, h3]

end Qhttp.C04L
