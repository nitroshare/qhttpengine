import Qhttp.Lemmas.C08Run
/-
  C07/C08 helper lemmas: the composed run when `process` answers inside the `headersParsed` slot
  (404 for an unserved path, the listing for a directory).
-/
namespace Qhttp
namespace C08L
open Qhttp Qhttp.Sock FsHandler

theorem close_write_headers {s : Sock} (hdev : s.tcp.devOpen = true) (hc : s.tcp.conn = .connected)
    (body : Bytes) :
    Sock.close (tcpWrite (writeHeaders s) body) = finished (writeHeaders s) body := by
  have hu : s.tcp.unacked + (headBytes s).length ≠ 0 := by
    cases hH : headBytes s with
    | nil => exact absurd hH (Sock.headBytes_ne_nil s)
    | cons x l => simp
  rw [writeHeaders_eq hdev hc]
  exact close_tcpWrite (by exact hdev) (by exact hc) (by exact hu) body

/-- `write` as the first output call: the head goes out first -/
theorem api_write_first (env : Env) (app : App) {s : Sock} (ha : s.alive = true) (hd : s.dcFlag = false)
    (hio : s.ioOpen = true) (hws : s.ws = .none) (hdev : s.tcp.devOpen = true)
    (hc : s.tcp.conn = .connected) (body : Bytes) :
    api env app s (.write body) = tcpWrite (writeHeaders s) body := by
  have h1 : apiPrim env s (.write body) = tcpWrite (writeHeaders s) body := by
    simp [apiPrim, ha, Sock.write, hio, hws]
  unfold api
  rw [h1, if_neg]
  rw [writeHeaders_eq hdev hc]
  unfold tcpWrite
  split <;> simp [hd]

theorem api_close_answered (env : Env) (app : App) {s : Sock} (ha : s.alive = true) (hd : s.dcFlag = false)
    (hdev : s.tcp.devOpen = true) (hc : s.tcp.conn = .connected) (body : Bytes) :
    api env app (tcpWrite (writeHeaders s) body) .close = finished (writeHeaders s) body := by
  have hu : s.tcp.unacked + (headBytes s).length ≠ 0 := by
    cases hH : headBytes s with
    | nil => exact absurd hH (Sock.headBytes_ne_nil s)
    | cons x l => simp
  rw [writeHeaders_eq hdev hc]
  exact api_close env app (by exact ha) (by exact hd) (by exact hdev) (by exact hc) (by exact hu) body

def pageHdrs (body : Bytes) : HeaderMap :=
  [(Sock.CONTENT_LENGTH, natDigits body.length), (Sock.CONTENT_TYPE, Sock.TEXT_HTML)]

/-- the calls of `processDirectory` -/
theorem apis_dir (env : Env) (app : App) {s : Sock} (ha : s.alive = true) (hd : s.dcFlag = false)
    (hio : s.ioOpen = true) (hws : s.ws = .none)
    (hdev : s.tcp.devOpen = true) (hc : s.tcp.conn = .connected) (hrh : s.respHeaders = []) (body : Bytes) :
    apis env app s [.hdr Sock.CONTENT_TYPE Sock.TEXT_HTML true,
                    .hdr Sock.CONTENT_LENGTH (natDigits body.length) true, .write body, .close] =
      finished (writeHeaders { s with respHeaders := pageHdrs body }) body := by
  have k1 : HeaderMap.keyEq Sock.CONTENT_TYPE Sock.CONTENT_LENGTH = false := by decide
  have k2 : HeaderMap.keyLt Sock.CONTENT_TYPE Sock.CONTENT_LENGTH = false := by decide
  have e : HeaderMap.insert Sock.CONTENT_LENGTH (natDigits body.length) (HeaderMap.remove Sock.CONTENT_LENGTH
      (HeaderMap.insert Sock.CONTENT_TYPE Sock.TEXT_HTML (HeaderMap.remove Sock.CONTENT_TYPE []))) =
      pageHdrs body := by
    simp [HeaderMap.insert, HeaderMap.remove, k1, k2, pageHdrs]
  unfold apis
  rw [List.foldl_cons, api_hdr env app ha hd, List.foldl_cons, api_hdr env app (by exact ha) (by exact hd),
    List.foldl_cons, api_write_first env app (by exact ha) (by exact hd) (by exact hio) (by exact hws)
      (by exact hdev) (by exact hc),
    List.foldl_cons, api_close_answered env app (by exact ha) (by exact hd) (by exact hdev) (by exact hc),
    List.foldl_nil]
  simp only [hrh, e]

def errState (env : Env) (s : Sock) (code : Int) : Sock :=
  { s with code := code, reason := statusReason code,
           respHeaders := pageHdrs (env.errPage code (statusReason code)) }

/-- `writeError` on a fresh response -/
theorem api_err (env : Env) (app : App) {s : Sock} (ha : s.alive = true) (hd : s.dcFlag = false)
    (hio : s.ioOpen = true)
    (hdev : s.tcp.devOpen = true) (hc : s.tcp.conn = .connected) (hrh : s.respHeaders = []) (code : Int) :
    api env app s (.err code none) =
      finished (writeHeaders (errState env s code)) (env.errPage code (statusReason code)) := by
  have e : setHeader (setHeader (setStatusCode s code none) Sock.CONTENT_LENGTH
        (natDigits (env.errPage code (statusReason code)).length) true)
      Sock.CONTENT_TYPE Sock.TEXT_HTML true = errState env s code := by
    simp only [setHeader_replace, setStatusCode, hrh, hdrs_CL_CT, errState, pageHdrs]
  have hw : Sock.write (writeHeaders (errState env s code)) (env.errPage code (statusReason code)) =
      tcpWrite (writeHeaders (errState env s code)) (env.errPage code (statusReason code)) := by
    rw [writeHeaders_eq (by exact hdev) (by exact hc)]
    simp [Sock.write, errState, hio]
  have h1 : apiPrim env s (.err code none) =
      Sock.close (tcpWrite (writeHeaders (errState env s code)) (env.errPage code (statusReason code))) := by
    simp only [apiPrim, ha, Bool.not_true, Bool.false_eq_true, if_false, writeError]
    have hc' : (setStatusCode s code none).code = code := rfl
    have hr' : (setStatusCode s code none).reason = statusReason code := rfl
    rw [hc', hr', e, hw]
  unfold api
  rw [h1, close_write_headers (by exact hdev) (by exact hc), writeHeaders_eq (by exact hdev) (by exact hc),
    if_neg]
  show ¬ s.dcFlag = true
  simp [hd]

def ansHead (c : Int) (rsn : Bytes) (hdrs : HeaderMap) : Bytes :=
  headBytes { ({} : Sock) with code := c, reason := rsn, respHeaders := hdrs }

/-- the socket after a response with these head fields completed inside the slot -/
def ansSock (s : Sock) (req : Bytes) (rh : Parser.ReqHead) (p : Bytes) (q : List (Bytes × Bytes))
    (c : Int) (rsn : Bytes) (hdrs : HeaderMap) (body : Bytes) : Sock :=
  finished (writeHeaders { hpSock (fedIn s req) rh p q with code := c, reason := rsn, respHeaders := hdrs })
    body

theorem ansSock_eq {s : Sock} (h : Fresh s) (req : Bytes) (rh : Parser.ReqHead) (p : Bytes)
    (q : List (Bytes × Bytes)) (c : Int) (rsn : Bytes) (hdrs : HeaderMap) (body : Bytes) :
    ansSock s req rh p q c rsn hdrs body =
      finished
        { s with
            tcp := { s.tcp with inbox := [], wire := s.tcp.wire ++ ansHead c rsn hdrs,
                                unacked := s.tcp.unacked + (ansHead c rsn hdrs).length },
            readBuffer := [], rs := .data, method := rh.method, rawPath := rh.rawPath, path := p,
            query := q.foldl (fun m e => Sock.qmInsert e.1 e.2 m) s.query, reqHeaders := rh.headers,
            code := c, reason := rsn, respHeaders := hdrs,
            ws := .headers, hdrRemaining := (ansHead c rsn hdrs).length,
            log := s.log ++ [Obs.ev (Obs.countP isEv s.log), Obs.hp, Obs.w (ansHead c rsn hdrs)] }
        body := by
  unfold ansSock
  rw [writeHeaders_eq (by exact h.devOpen) (by exact h.conn)]
  simp only [hpSock, fedIn, List.append_assoc, List.cons_append, List.nil_append]
  rfl

theorem feed_answered (env : Env) (fe : FsEnv) {st : FsHandler.St} {req head : Bytes} {rh : Parser.ReqHead}
    {p : Bytes} {q : List (Bytes × Bytes)} {c : Int} {rsn : Bytes} {hdrs : HeaderMap} {body : Bytes}
    (h : Fresh st.sock) (hr : st.routed = false)
    (hq : Whole env req head rh p q)
    (hres : hpResult env fe (fedIn st.sock req) rh p q = ansSock st.sock req rh p q c rsn hdrs body)
    (hnc : copierCfg fe (hpSock (fedIn st.sock req) rh p q) = none) :
    FsHandler.step env fe st (.feed req) =
      { st with sock := ansSock st.sock req rh p q c rsn hdrs body, routed := true } := by
  rw [feed_fresh env fe h hq, hres, ansSock_eq h]
  exact afterRoute_none hr
    (by show _ < Obs.countP Obs.isHp (st.sock.log ++ [_, _, _] ++ _)
        rw [List.append_assoc]; exact hp_counted _ _ _)
    ((plan_sock_congr fe rfl rfl).2.trans hnc)

theorem ansSock_finished {s : Sock} (h : Fresh s) (req : Bytes) (rh : Parser.ReqHead) (p : Bytes)
    (q : List (Bytes × Bytes)) (c : Int) (rsn : Bytes) (hdrs : HeaderMap) (body : Bytes) :
    C03L.Shut (ansSock s req rh p q c rsn hdrs body) ∧
    (C03L.chunks (ansSock s req rh p q c rsn hdrs body).log).flatten = ansHead c rsn hdrs ++ body := by
  obtain ⟨hlo, hch⟩ := headLog h.logOpen h.noWrite (Obs.countP isEv s.log) (ansHead c rsn hdrs)
  rw [ansSock_eq h, finished_chunks]
  constructor
  · exact finished_shut (by exact h.dcFlag) rfl rfl hlo body
  · show (C03L.chunks (s.log ++ [_, _, _])).flatten ++ body = _
    rw [hch]

/-- the composed run for such a response: the wire carries the head and the body -/
theorem run_wire_answered (env : Env) (fe : FsEnv) (req head : Bytes) (rh : Parser.ReqHead)
    (p : Bytes) (q : List (Bytes × Bytes)) (c : Int) (rsn : Bytes) (hdrs : HeaderMap) (body : Bytes)
    (tail : List Event)
    (hq : Whole env req head rh p q)
    (hres : hpResult env fe (fedIn s0.sock req) rh p q = ansSock s0.sock req rh p q c rsn hdrs body)
    (hnc : copierCfg fe (hpSock (fedIn s0.sock req) rh p q) = none)
    (ht : tail.all C03L.allowedEv = true) :
    Obs.wire (FsHandler.run env fe (.new :: .feed req :: tail)).sock.log = ansHead c rsn hdrs ++ body := by
  obtain ⟨hshut, hw⟩ := ansSock_finished fresh_s0 req rh p q c rsn hdrs body
  unfold FsHandler.run
  rw [List.foldl_cons, step_new, List.foldl_cons,
    feed_answered env fe fresh_s0 rfl hq hres hnc]
  exact wire_of_shut env fe tail ht hshut rfl (fun _ _ h => by cases h) hw

theorem hpOps_notFound {fe : FsEnv} {s : Sock} (hp : plan fe (s.path.drop 1) s.reqHeaders = .notFound) :
    hpOps fe s = [.err 404 none] ∧ copierCfg fe s = none := by
  unfold hpOps copierCfg
  rw [hp]
  exact ⟨rfl, rfl⟩

theorem hpOps_dir {fe : FsEnv} {s : Sock} {loc : List Bytes} {d : Bytes}
    (hp : plan fe (s.path.drop 1) s.reqHeaders = .dir loc d) :
    hpOps fe s = [.hdr Sock.CONTENT_TYPE Sock.TEXT_HTML true,
                  .hdr Sock.CONTENT_LENGTH (natDigits (fe.listing loc d).length) true,
                  .write (fe.listing loc d), .close] ∧ copierCfg fe s = none := by
  unfold hpOps copierCfg
  rw [hp]
  exact ⟨rfl, rfl⟩

theorem hpResult_notFound (env : Env) (fe : FsEnv) {s : Sock} (h : Fresh s) (req : Bytes)
    (rh : Parser.ReqHead) (p : Bytes) (q : List (Bytes × Bytes))
    (hp : plan fe (p.drop 1) rh.headers = .notFound) :
    hpResult env fe (fedIn s req) rh p q =
      ansSock s req rh p q 404 (statusReason 404) (pageHdrs (env.errPage 404 (statusReason 404))) (env.errPage 404 (statusReason 404)) := by
  unfold hpResult
  rw [(hpOps_notFound (s := hpSock (fedIn s req) rh p q) hp).1]
  exact api_err env (app fe) (s := hpSock (fedIn s req) rh p q) h.alive h.dcFlag h.ioOpen h.devOpen
    h.conn h.respHeaders 404

theorem hpResult_dir (env : Env) (fe : FsEnv) {s : Sock} (h : Fresh s) (req : Bytes)
    (rh : Parser.ReqHead) (p : Bytes) (q : List (Bytes × Bytes)) (loc : List Bytes) (d : Bytes)
    (hp : plan fe (p.drop 1) rh.headers = .dir loc d) :
    hpResult env fe (fedIn s req) rh p q =
      ansSock s req rh p q 200 (lit ['O','K']) (pageHdrs (fe.listing loc d)) (fe.listing loc d) := by
  have e : ansSock s req rh p q 200 (lit ['O','K']) (pageHdrs (fe.listing loc d)) (fe.listing loc d) =
      finished (writeHeaders { hpSock (fedIn s req) rh p q with respHeaders := pageHdrs (fe.listing loc d) })
        (fe.listing loc d) := by
    unfold ansSock
    rw [← h.code, ← h.reason]
    rfl
  unfold hpResult
  rw [(hpOps_dir (s := hpSock (fedIn s req) rh p q) hp).1, e]
  exact apis_dir env (app fe) (s := hpSock (fedIn s req) rh p q) h.alive h.dcFlag h.ioOpen h.ws
    h.devOpen h.conn h.respHeaders _

/-- an unserved path: the wire carries the 404 error page -/
theorem run_wire_notFound (env : Env) (fe : FsEnv) (req head : Bytes) (rh : Parser.ReqHead)
    (p : Bytes) (q : List (Bytes × Bytes)) (tail : List Event)
    (hq : Whole env req head rh p q)
    (hp : plan fe (p.drop 1) rh.headers = .notFound)
    (ht : tail.all C03L.allowedEv = true) :
    Obs.wire (FsHandler.run env fe (.new :: .feed req :: tail)).sock.log =
      ansHead 404 (statusReason 404) (pageHdrs (env.errPage 404 (statusReason 404))) ++
        env.errPage 404 (statusReason 404) :=
  run_wire_answered env fe req head rh p q _ _ _ _ tail hq
    (hpResult_notFound env fe fresh_s0 req rh p q hp)
    (hpOps_notFound (s := hpSock (fedIn s0.sock req) rh p q) hp).2 ht

/-- a directory: the wire carries the listing -/
theorem run_wire_dir (env : Env) (fe : FsEnv) (req head : Bytes) (rh : Parser.ReqHead)
    (p : Bytes) (q : List (Bytes × Bytes)) (loc : List Bytes) (d : Bytes) (tail : List Event)
    (hq : Whole env req head rh p q)
    (hp : plan fe (p.drop 1) rh.headers = .dir loc d)
    (ht : tail.all C03L.allowedEv = true) :
    Obs.wire (FsHandler.run env fe (.new :: .feed req :: tail)).sock.log =
      ansHead 200 (lit ['O','K']) (pageHdrs (fe.listing loc d)) ++ fe.listing loc d :=
  run_wire_answered env fe req head rh p q _ _ _ _ tail hq
    (hpResult_dir env fe fresh_s0 req rh p q loc d hp)
    (hpOps_dir (s := hpSock (fedIn s0.sock req) rh p q) hp).2 ht

end C08L
end Qhttp
