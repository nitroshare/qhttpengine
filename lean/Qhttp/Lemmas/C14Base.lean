import Qhttp.Model.Copier
import Qhttp.Lemmas.ObsLog
/-
  The copier's observation log (written bytes, counts, event markers, "closed" logs), the
  model's functions in one piece each (`destWrite_eq`, `nextBlock_eq`, `start_eq`, …), and the
  frame property of `Copier.step`: it only appends copier signals.
  The definitions `written`, `isFin`, … are literal copies of those in Props/C14.lean
  (Props imports this file, so they cannot be shared); Props proves them equal by `rfl`.
-/
namespace Qhttp.C14L
open Qhttp Copier

def written (obs : List Obs) : Bytes :=
  obs.flatMap fun o => match o with | .misc 1 b => b | _ => []
def isFin : Obs → Bool | .misc 2 _ => true | _ => false
def isErr : Obs → Bool | .misc 3 _ => true | _ => false
def isWrote : Obs → Bool | .misc 1 _ => true | _ => false
def isMk : Obs → Bool | .ev _ => true | _ => false
/-- copier signal (anything `step` itself may append) -/
def isSig : Obs → Bool | .misc _ _ => true | _ => false

def anyFault (c : Cfg) : Bool :=
  c.srcOpenFails || c.dstOpenFails || c.seekFails || c.readFailAt.isSome || c.writeFailAt.isSome

/-- the position of the first byte copied: `start()` seeks only to a range start > 0, otherwise
    the copy begins where the source stands -/
def firstPos (c : Cfg) : Nat := if rangeFrom c > 0 then (rangeFrom c).toNat else c.prePos

def wanted (c : Cfg) : Bytes :=
  match c.range with
  | none => c.src.drop c.prePos
  | some (f, t) =>
    if f < 0 then [] else
    let p := if f > 0 then f.toNat else c.prePos
    if t < 0 then c.src.drop p else
    if t < p then [] else (c.src.drop p).take (t.toNat + 1 - p)

def rangeOK (c : Cfg) : Bool :=
  match c.range with
  | some (f, t) => f ≥ 0 && (t ≥ firstPos c || t == -1) && firstPos c ≤ c.src.length
  | none => c.prePos ≤ c.src.length

@[simp] theorem cnt_nil (p : Obs → Bool) : Obs.countP p [] = 0 := rfl
@[simp] theorem written_nil : written [] = [] := rfl
theorem written_append (a b : List Obs) : written (a ++ b) = written a ++ written b := by
  simp [written, List.flatMap_append]
theorem written_cons (a : Obs) (l : List Obs) : written (a :: l) = written [a] ++ written l := by
  simp [written]
@[simp] theorem written_wrote (d : Bytes) : written [wrote d] = d := by simp [written, wrote]
@[simp] theorem written_fin : written [fin] = [] := by simp [written, fin]
@[simp] theorem written_err : written [err] = [] := by simp [written, err]
@[simp] theorem written_ev (k : Nat) : written [Obs.ev k] = [] := by simp [written]

/-- the one case analysis over `Obs`: an event marker is an `ev` -/
theorem eq_ev_of_isMk {o : Obs} (h : isMk o = true) : ∃ k, o = Obs.ev k := by
  cases o with
  | ev k => exact ⟨k, rfl⟩
  | _ => cases h

theorem written_of_mk {l : List Obs} (h : ∀ o ∈ l, isMk o = true) : written l = [] := by
  apply List.flatMap_eq_nil_iff.2
  intro o ho
  obtain ⟨k, rfl⟩ := eq_ev_of_isMk (h o ho); rfl

theorem cnt_of_mk {p : Obs → Bool} (hp : ∀ o, isMk o = true → p o = false) {l : List Obs}
    (h : ∀ o ∈ l, isMk o = true) : Obs.countP p l = 0 :=
  Obs.countP_eq_zero.2 fun o ho => hp o (h o ho)

theorem mk_not_fin (o : Obs) (h : isMk o = true) : isFin o = false := by
  obtain ⟨k, rfl⟩ := eq_ev_of_isMk h; rfl
theorem mk_not_err (o : Obs) (h : isMk o = true) : isErr o = false := by
  obtain ⟨k, rfl⟩ := eq_ev_of_isMk h; rfl
theorem mk_not_wrote (o : Obs) (h : isMk o = true) : isWrote o = false := by
  obtain ⟨k, rfl⟩ := eq_ev_of_isMk h; rfl

@[simp] theorem isFin_fin : isFin fin = true := rfl
@[simp] theorem isFin_err : isFin err = false := rfl
@[simp] theorem isFin_wrote (d : Bytes) : isFin (wrote d) = false := rfl
@[simp] theorem isFin_ev (k : Nat) : isFin (Obs.ev k) = false := rfl
@[simp] theorem isErr_fin : isErr fin = false := rfl
@[simp] theorem isErr_err : isErr err = true := rfl
@[simp] theorem isErr_wrote (d : Bytes) : isErr (wrote d) = false := rfl
@[simp] theorem isErr_ev (k : Nat) : isErr (Obs.ev k) = false := rfl
@[simp] theorem isWrote_fin : isWrote fin = false := rfl
@[simp] theorem isWrote_err : isWrote err = false := rfl
@[simp] theorem isWrote_wrote (d : Bytes) : isWrote (wrote d) = true := rfl
@[simp] theorem isWrote_ev (k : Nat) : isWrote (Obs.ev k) = false := rfl
@[simp] theorem isMk_ev (k : Nat) : isMk (Obs.ev k) = true := rfl
@[simp] theorem isSig_fin : isSig fin = true := rfl
@[simp] theorem isSig_err : isSig err = true := rfl
@[simp] theorem isSig_wrote (d : Bytes) : isSig (wrote d) = true := rfl

theorem written_snoc_ev (l : List Obs) (k : Nat) : written (l ++ [Obs.ev k]) = written l := by
  rw [written_append, written_ev, List.append_nil]
theorem cnt_snoc_ev {p : Obs → Bool} (hp : ∀ k, p (Obs.ev k) = false) (l : List Obs) (k : Nat) :
    Obs.countP p (l ++ [Obs.ev k]) = Obs.countP p l := by
  rw [Obs.countP_append, Obs.countP_cons, hp]; rfl

theorem written_err_fin (l : List Obs) : written (l ++ [err, fin]) = written l := by
  rw [written_append, written_cons, written_err, written_fin]; exact List.append_nil _
theorem cntErr_err_fin (l : List Obs) : Obs.countP isErr (l ++ [err, fin]) = Obs.countP isErr l + 1 := by
  rw [Obs.countP_append]; rfl

theorem dropWhile_notFin_of_cnt {l : List Obs} (h : Obs.countP isFin l = 0) :
    l.dropWhile (fun o => !isFin o) = [] := by
  induction l with
  | nil => rfl
  | cons a l ih =>
    rw [Obs.countP_cons] at h
    have ha : isFin a = false := by cases hh : isFin a <;> simp_all
    have hl : Obs.countP isFin l = 0 := by omega
    simp [ha, ih hl]

theorem dropWhile_notFin_append {l1 l2 : List Obs} (h : Obs.countP isFin l1 = 0) :
    (l1 ++ fin :: l2).dropWhile (fun o => !isFin o) = fin :: l2 := by
  induction l1 with
  | nil => simp
  | cons a l ih =>
    rw [Obs.countP_cons] at h
    have ha : isFin a = false := by cases hh : isFin a <;> simp_all
    have hl : Obs.countP isFin l = 0 := by omega
    simp [ha, ih hl]

/-! ### closed logs: exactly one `fin`, nothing but event markers after it -/

def Closed (log : List Obs) : Prop :=
  ∃ l1 l2, log = l1 ++ fin :: l2 ∧ Obs.countP isFin l1 = 0 ∧ ∀ o ∈ l2, isMk o = true

theorem Closed.of_snoc_fin {log : List Obs} (h : Obs.countP isFin log = 0) : Closed (log ++ [fin]) :=
  ⟨log, [], rfl, h, by simp⟩

theorem Closed.of_err_fin {log : List Obs} (h : Obs.countP isFin log = 0) : Closed (log ++ [err, fin]) :=
  ⟨log ++ [err], [], by rw [List.append_assoc]; rfl, by rw [Obs.countP_append, h]; rfl, by simp⟩

theorem Closed.cnt_fin {log : List Obs} (h : Closed log) : Obs.countP isFin log = 1 := by
  obtain ⟨l1, l2, rfl, h1, h2⟩ := h
  rw [Obs.countP_append, Obs.countP_cons, h1, cnt_of_mk mk_not_fin h2]; simp

theorem Closed.dropWhile {log : List Obs} (h : Closed log) :
    ∃ l2, log.dropWhile (fun o => !isFin o) = fin :: l2 ∧ ∀ o ∈ l2, isMk o = true := by
  obtain ⟨l1, l2, rfl, h1, h2⟩ := h
  exact ⟨l2, dropWhile_notFin_append h1, h2⟩

theorem Closed.append_mk {log ms : List Obs} (h : Closed log) (hm : ∀ o ∈ ms, isMk o = true) :
    Closed (log ++ ms) := by
  obtain ⟨l1, l2, rfl, h1, h2⟩ := h
  refine ⟨l1, l2 ++ ms, by simp, h1, ?_⟩
  intro o ho
  rcases List.mem_append.1 ho with ho | ho
  · exact h2 o ho
  · exact hm o ho

theorem Closed.snoc_mk {log : List Obs} (h : Closed log) (k : Nat) : Closed (log ++ [Obs.ev k]) :=
  h.append_mk fun o ho => by rw [List.mem_singleton.1 ho]; rfl

theorem Closed.mem_fin {log : List Obs} (h : Closed log) : fin ∈ log := by
  obtain ⟨l1, l2, rfl, _, _⟩ := h
  simp

theorem not_mem_fin_of_cnt {log : List Obs} (h : Obs.countP isFin log = 0) : fin ∉ log := by
  intro hm
  have := Obs.countP_eq_zero.1 h fin hm
  simp at this

theorem Closed.no_wrote_after {log : List Obs} (h : Closed log) :
    Obs.countP isWrote ((log.dropWhile (fun o => !isFin o)).drop 1) = 0 := by
  obtain ⟨l2, e, h2⟩ := h.dropWhile
  rw [e]; exact cnt_of_mk mk_not_wrote h2

theorem Closed.no_err_after {log : List Obs} (h : Closed log) :
    Obs.countP isErr (log.dropWhile (fun o => !isFin o)) = 0 := by
  obtain ⟨l2, e, h2⟩ := h.dropWhile
  rw [e, Obs.countP_cons, cnt_of_mk mk_not_err h2]; simp

/-- every marker in the log is below the event counter -/
def MInv (log : List Obs) (k : Nat) : Prop := ∀ j, Obs.ev j ∈ log → j < k

theorem dropWhile_ne_mk {L rest : List Obs} {k : Nat} (h : Obs.ev k ∉ L) :
    (L ++ Obs.ev k :: rest).dropWhile (fun o => o != Obs.ev k) = Obs.ev k :: rest := by
  induction L with
  | nil => simp
  | cons a l ih =>
    have ha : a ≠ Obs.ev k := fun e => h (by simp [e])
    have hl : Obs.ev k ∉ l := fun e => h (List.mem_cons_of_mem _ e)
    simp [ha, ih hl]

theorem takeWhile_ne_mk {L rest : List Obs} {k : Nat} (h : Obs.ev k ∉ L) :
    (L ++ Obs.ev k :: rest).takeWhile (fun o => o != Obs.ev k) = L := by
  induction L with
  | nil => simp
  | cons a l ih =>
    have ha : a ≠ Obs.ev k := fun e => h (by simp [e])
    have hl : Obs.ev k ∉ l := fun e => h (List.mem_cons_of_mem _ e)
    simp [ha, ih hl]

/-- the observation of a (possibly empty) successful write -/
def wr (d : Bytes) : List Obs := if d.isEmpty then [] else [wrote d]

@[simp] theorem written_wr (d : Bytes) : written (wr d) = d := by
  unfold wr; split <;> simp_all
theorem wr_sig (d : Bytes) : ∀ o ∈ wr d, isSig o = true := by
  unfold wr; split <;> simp
theorem wr_fin (d : Bytes) : Obs.countP isFin (wr d) = 0 := by
  unfold wr; split <;> simp [Obs.countP_cons]
theorem wr_err (d : Bytes) : Obs.countP isErr (wr d) = 0 := by
  unfold wr; split <;> simp [Obs.countP_cons]

/-- does this `dest->write(data, n)` call return -1 ? -/
def wfail (c : Cfg) (w : Nat) (n : Int) : Bool := n < 0 || c.writeFailAt == some w

theorem destWrite_eq (c : Cfg) (s : St) (data : Bytes) (n : Int) :
    destWrite c s data n =
      ({ s with writes := s.writes + 1,
                log := s.log ++ (if wfail c s.writes n then [] else wr (data.take n.toNat)) }, wfail c s.writes n) := by
  unfold destWrite wr
  simp only []
  cases hw : wfail c s.writes n
  · have : (decide (n < 0) || c.writeFailAt == some s.writes) = false := hw
    simp only [this, Bool.false_eq_true, ↓reduceIte]
    split <;> simp
  · have : (decide (n < 0) || c.writeFailAt == some s.writes) = true := hw
    simp [this]

theorem onReadyRead_eq (c : Cfg) (s : St) (hs : s.stopped = false) :
    onReadyRead c s =
      let data := if s.srcClosed then [] else s.buffered
      let failed := c.writeFailAt == some s.writes
      { s with buffered := if s.srcClosed then s.buffered else [],
               writes := s.writes + 1,
               srcClosed := s.srcClosed || failed,
               log := s.log ++ (if failed then [err] else wr data) } := by
  unfold onReadyRead
  simp only [hs, Bool.false_eq_true, ↓reduceIte, destWrite_eq, wfail]
  have h0 : ∀ k : Nat, ((k : Int) < 0) = False := by intro k; simp
  simp only [h0]
  cases hf : (c.writeFailAt == some s.writes) <;> simp

def nbData (c : Cfg) (pos : Nat) : Bytes := (c.src.drop pos).take c.block
def nbPos (c : Cfg) (pos : Nat) : Nat := pos + (nbData c pos).length
def nbPast (c : Cfg) (pos : Nat) : Bool := rangeTo c != -1 && (nbPos c pos : Int) > rangeTo c
def nbN (c : Cfg) (pos : Nat) : Int :=
  if nbPast c pos then ((nbData c pos).length : Int) - ((nbPos c pos : Int) - rangeTo c - 1) else (nbData c pos).length
def nbD (c : Cfg) (pos : Nat) : Bytes := (nbData c pos).take (nbN c pos).toNat
def nbDone (c : Cfg) (pos : Nat) : Bool := decide (nbPos c pos ≥ c.src.length) || nbPast c pos

theorem nextBlock_eq0 (c : Cfg) (s : St) (hs : s.stopped = false) :
    nextBlock c s =
      if c.readFailAt == some s.reads then
        { s with reads := s.reads + 1, log := s.log ++ [err, fin] }
      else
        let s2 : St := { s with reads := s.reads + 1, pos := nbPos c s.pos, writes := s.writes + 1,
                                log := s.log ++ (if wfail c s.writes (nbN c s.pos) then [] else wr (nbD c s.pos)) }
        if wfail c s.writes (nbN c s.pos) then { s2 with log := s2.log ++ [err, fin] }
        else if nbDone c s.pos then { s2 with log := s2.log ++ [fin] }
        else { s2 with pending := .nextBlock } := by
  unfold nextBlock
  simp only [hs, Bool.false_eq_true, ↓reduceIte, destWrite_eq]
  rfl

/-- `nextBlock` on a copier that was not stopped: read failure / write failure / block written
    (then finished, or re-armed) -/
theorem nextBlock_eq (c : Cfg) (s : St) (hs : s.stopped = false) :
    nextBlock c s =
      if c.readFailAt == some s.reads then
        { s with reads := s.reads + 1, log := s.log ++ [err, fin] }
      else if wfail c s.writes (nbN c s.pos) then
        { s with reads := s.reads + 1, pos := nbPos c s.pos, writes := s.writes + 1, log := s.log ++ [err, fin] }
      else
        { s with reads := s.reads + 1, pos := nbPos c s.pos, writes := s.writes + 1,
                 log := s.log ++ (wr (nbD c s.pos) ++ (if nbDone c s.pos then [fin] else [])),
                 pending := if nbDone c s.pos then s.pending else .nextBlock } := by
  rw [nextBlock_eq0 c s hs]
  cases h1 : (c.readFailAt == some s.reads)
  · cases h2 : wfail c s.writes (nbN c s.pos)
    · cases h3 : nbDone c s.pos <;> simp
    · simp
  · rfl

def seekNeeded (c : Cfg) : Bool := rangeFrom c > 0 && !c.seq
/-- `start()` gives up: a device does not open, or the seek to the range start fails -/
def startFails (c : Cfg) : Bool :=
  c.srcOpenFails || c.dstOpenFails ||
  (seekNeeded c && (c.seekFails || (rangeFrom c).toNat > c.src.length))

theorem start_eq (c : Cfg) (s : St) :
    start c s =
      if startFails c then { s with stopped := false, log := s.log ++ [err, fin] }
      else { s with stopped := false,
                    pos := if seekNeeded c then (rangeFrom c).toNat else s.pos,
                    connected := true,
                    pending := if c.seq then .readyRead else .nextBlock } := by
  cases h1 : c.srcOpenFails
  · cases h2 : c.dstOpenFails
    · cases h4 : seekNeeded c
      · have h4' : (decide (rangeFrom c > 0) && !c.seq) = false := h4
        unfold start startFails
        simp [h1, h2, h4, h4']
      · have h4' : (decide (rangeFrom c > 0) && !c.seq) = true := h4
        unfold start startFails
        simp only [h1, h2, h4, h4', Bool.false_eq_true, if_false, Bool.false_or, Bool.true_and, if_true]
    · unfold start startFails; simp [h1, h2]
  · unfold start startFails; simp [h1]

def Ext (s s' : St) : Prop := ∃ l, s'.log = s.log ++ l ∧ ∀ o ∈ l, isSig o = true

theorem Ext.refl (s : St) : Ext s s := ⟨[], by simp, by simp⟩
theorem Ext.trans {a b c : St} (h1 : Ext a b) (h2 : Ext b c) : Ext a c := by
  obtain ⟨l1, e1, p1⟩ := h1
  obtain ⟨l2, e2, p2⟩ := h2
  refine ⟨l1 ++ l2, by rw [e2, e1, List.append_assoc], ?_⟩
  intro o ho
  rcases List.mem_append.1 ho with ho | ho
  · exact p1 o ho
  · exact p2 o ho

theorem destWrite_ext (c : Cfg) (s : St) (data : Bytes) (n : Int) : Ext s (destWrite c s data n).1 := by
  rw [destWrite_eq]
  refine ⟨_, rfl, ?_⟩
  split
  · simp
  · exact wr_sig _

theorem onReadyRead_ext (c : Cfg) (s : St) : Ext s (onReadyRead c s) := by
  cases hs : s.stopped
  · rw [onReadyRead_eq c s hs]
    refine ⟨_, rfl, ?_⟩
    split
    · simp
    · exact wr_sig _
  · unfold onReadyRead; simp [hs]; exact Ext.refl s

theorem snoc_ext {s s' : St} (h : Ext s s') (o : Obs) (ho : isSig o = true) :
    Ext s { s' with log := s'.log ++ [o] } := by
  obtain ⟨l, e, p⟩ := h
  refine ⟨l ++ [o], by simp [e], ?_⟩
  intro o' ho'
  rcases List.mem_append.1 ho' with ho' | ho'
  · exact p o' ho'
  · simp at ho'; subst ho'; exact ho

theorem onReadChannelFinished_ext (c : Cfg) (s : St) : Ext s (onReadChannelFinished c s) := by
  unfold onReadChannelFinished
  simp only []
  apply snoc_ext _ _ rfl
  split
  · exact onReadyRead_ext c s
  · exact Ext.refl s

theorem start_ext (c : Cfg) (s : St) : Ext s (start c s) := by
  rw [start_eq]
  split
  · exact ⟨[err, fin], rfl, by simp⟩
  · exact ⟨[], (List.append_nil _).symm, by simp⟩

theorem nextBlock_ext (c : Cfg) (s : St) : Ext s (nextBlock c s) := by
  have hef : ∀ o ∈ [err, fin], isSig o = true := by simp
  cases hs : s.stopped
  · rw [nextBlock_eq c s hs]
    cases h1 : (c.readFailAt == some s.reads)
    · cases h2 : wfail c s.writes (nbN c s.pos)
      · simp only [Bool.false_eq_true, ↓reduceIte]
        refine ⟨_, rfl, ?_⟩
        intro o ho
        rcases List.mem_append.1 ho with ho | ho
        · exact wr_sig _ o ho
        · split at ho <;> simp at ho
          subst ho; rfl
      · exact ⟨[err, fin], rfl, hef⟩
    · exact ⟨[err, fin], rfl, hef⟩
  · unfold nextBlock; simp [hs]; exact Ext.refl s

theorem stop_ext (s : St) : Ext s (stop s) := ⟨[fin], rfl, by simp⟩

theorem step_ext (c : Cfg) (s : St) (e : Ev) : Ext s (step c s e) := by
  cases e with
  | start => exact start_ext c s
  | turn =>
    simp only [step]
    split
    · exact Ext.refl s
    · exact nextBlock_ext c { s with pending := .none }
    · exact onReadyRead_ext c { s with pending := .none }
  | stop => exact stop_ext s
  | arrive b =>
    simp only [step]
    split
    · exact Ext.refl s
    · split
      · exact onReadyRead_ext c { s with buffered := s.buffered ++ b }
      · exact Ext.refl s
  | eof =>
    simp only [step]
    split
    · exact Ext.refl s
    · split
      · exact onReadChannelFinished_ext c s
      · exact Ext.refl s
  | arriveQ b =>
    simp only [step]
    split
    · exact Ext.refl s
    · exact ⟨[], by simp, by simp⟩

end Qhttp.C14L
