import Qhttp.Lemmas.ProxyGen
import Qhttp.Lemmas.C02C01
/-
  C12 — the socket under the proxy's application when the accepted head declares no body length
  (`total = -1`: no `Content-Length`, or one that reads as -1): nothing is cut, the request never
  finishes, every byte after the blank line is handed out at once.
-/
namespace Qhttp.ProxyL
open Qhttp Proxy Qhttp.C02

structure ParsedN (env : Env) (head : Bytes) (rh : Parser.ReqHead) : Prop where
  parse : Parser.parseRequestHeaders head [] = some rh
  url : ∃ p q, env.url rh.rawPath = some (p, q)
  nolen : (if HeaderMap.contains Sock.CONTENT_LENGTH_KEY rh.headers
           then toLongLong (HeaderMap.value Sock.CONTENT_LENGTH_KEY rh.headers) else -1) = -1

/-- the socket invariant without a declared length (`fed`: bytes delivered so far): alive, open,
    never finished; before the blank line everything is buffered, after it everything has been
    handed out and the request fields are the head's -/
structure NInv (head : Bytes) (rh : Parser.ReqHead) (fed : Bytes) (s : Sock) : Prop where
  alive : s.alive = true
  ioOpen : s.ioOpen = true
  devOpen : s.tcp.devOpen = true
  dcFlag : s.dcFlag = false
  delPending : s.delPending = false
  inbox : s.tcp.inbox = []
  total : s.total = -1
  qio : s.qio = []
  notFin : s.rs ≠ .finished
  hdr : s.rs = .headers → s.readBuffer = fed ∧ breakOn CRLF2 fed = none ∧ s.reqHeaders = [] ∧
          Obs.reads s.log = [] ∧ Obs.countP Obs.isHp s.log = 0
  dat : s.rs = .data → s.readBuffer = [] ∧ (∃ rest, fed = head ++ CRLF2 ++ rest ∧ Obs.reads s.log = rest) ∧
          Obs.countP Obs.isHp s.log = 1 ∧
          s.method = rh.method ∧ s.rawPath = rh.rawPath ∧ s.reqHeaders = rh.headers

/-- one `readyRead` + `readAll` if anything arrived -/
theorem readDataSlot_nolen (env : Env) (s : Sock) (hl : Live s) (hrs : s.rs = .data)
    (ht : s.total = -1) (hq : s.qio = []) :
    Sock.readDataSlot env Proxy.app s =
      if s.readBuffer.length != 0 then
        { s with qio := [], readBuffer := [], dataRead := s.dataRead + s.readBuffer.length,
                 log := s.log ++ [.rr, .rd s.readBuffer] }
      else s := by
  rw [readDataSlot_eq]
  have c1 : cutS s = s := by unfold cutS; rw [ht]; rfl
  rw [c1]
  have c2 : rrS env Proxy.app s = if s.readBuffer.length != 0 then
        { s with qio := [], readBuffer := [], dataRead := s.dataRead + s.readBuffer.length,
                 log := s.log ++ [.rr, .rd s.readBuffer] } else s := by
    unfold rrS
    split
    · rw [emit_rr_app env s hl.alive hl.ioOpen (by rw [hrs]; simp) hl.dcFlag, hq]; rfl
    · rfl
  rw [c2]
  unfold finS
  split <;> simp [ht]

theorem dataSlot_nolen (env : Env) {head : Bytes} {rh : Parser.ReqHead} {x : Sock} {pre : Bytes}
    (hl : Live x) (hrs : x.rs = .data) (ht : x.total = -1) (hq : x.qio = [])
    (hdev : x.tcp.devOpen = true) (hdel : x.delPending = false) (hin : x.tcp.inbox = [])
    (hf : x.method = rh.method ∧ x.rawPath = rh.rawPath ∧ x.reqHeaders = rh.headers)
    (hrd : Obs.reads x.log = pre) (hhp : Obs.countP Obs.isHp x.log = 1) :
    NInv head rh (head ++ CRLF2 ++ (pre ++ x.readBuffer)) (Sock.readDataSlot env Proxy.app x) ∧
    Grow x (Sock.readDataSlot env Proxy.app x) ∧
    (Sock.readDataSlot env Proxy.app x).initPending = x.initPending := by
  rw [readDataSlot_nolen env x hl hrs ht hq]
  have hnf : x.rs ≠ .finished := by rw [hrs]; simp
  have hnh : x.rs = .headers → False := fun h => absurd (hrs.symm.trans h) (by simp)
  split
  · refine ⟨⟨hl.alive, hl.ioOpen, hdev, hl.dcFlag, hdel, hin, ht, rfl, hnf, fun h => (hnh h).elim, fun _ =>
      ⟨rfl, ⟨pre ++ x.readBuffer, rfl, ?_⟩, ?_, hf⟩⟩, ⟨[.rr, .rd x.readBuffer], rfl, rfl⟩, rfl⟩
    · show Obs.reads (x.log ++ [Obs.rr, Obs.rd x.readBuffer]) = pre ++ x.readBuffer
      rw [Obs.reads_append, hrd]; simp [Obs.reads]
    · show Obs.countP Obs.isHp (x.log ++ [Obs.rr, Obs.rd x.readBuffer]) = 1
      rw [Obs.countP_append]; exact hhp
  · rename_i hlen
    have hb : x.readBuffer = [] := by
      cases h : x.readBuffer with
      | nil => rfl
      | cons y ys => rw [h] at hlen; simp at hlen
    rw [hb, List.append_nil]
    exact ⟨⟨hl.alive, hl.ioOpen, hdev, hl.dcFlag, hdel, hin, ht, hq, hnf, fun h => (hnh h).elim,
      fun _ => ⟨hb, ⟨pre, rfl, hrd⟩, hhp, hf⟩⟩, Grow.refl x, rfl⟩

/-- one `onReadyRead` (`orr_`) delivering `seg` -/
theorem orr_nolen (env : Env) {head : Bytes} {rh : Parser.ReqHead} (hp : ParsedN env head rh)
    (fedF restF fed seg : Bytes) (hfin : breakOn CRLF2 fedF = some (head, restF))
    (hpre : (fed ++ seg) <+: fedF) {s : Sock} (h : NInv head rh fed { s with tcp := { s.tcp with inbox := [] } })
    (hin : s.tcp.inbox = seg) :
    NInv head rh (fed ++ seg) (Sock.onReadyRead env Proxy.app s) ∧
    Grow s (Sock.onReadyRead env Proxy.app s) ∧
    (Sock.onReadyRead env Proxy.app s).initPending = s.initPending := by
  obtain ⟨ha, hio, hdev, hdc, hdel, _, htot, hq, hnf, hhdr, hdat⟩ := h
  simp only at ha hio hdev hdc hdel htot hq hnf hhdr hdat
  rw [onReadyRead_eq, if_neg hnf]
  have hpl : pullS s = { s with readBuffer := s.readBuffer ++ seg, tcp := { s.tcp with inbox := [] } } := by
    unfold pullS; rw [if_pos hdev, hin]
  rw [hpl]
  have h2 : s.rs = .data ∨ s.rs = .headers := by
    cases hrs : s.rs <;> simp_all
  rcases h2 with hrs | hrs
  · obtain ⟨d1, ⟨rest, d2, d3⟩, d4, d5, d6, d7⟩ := hdat hrs
    rw [orrBody_data _ _ _ (by exact hrs)]
    generalize hx : ({ s with readBuffer := s.readBuffer ++ seg, tcp := { s.tcp with inbox := [] } } : Sock) = x
    have x1 : Live x := by rw [← hx]; exact ⟨ha, hio, hdc⟩
    have x2 : x.rs = .data := by rw [← hx]; exact hrs
    have x3 : x.total = -1 := by rw [← hx]; exact htot
    have x4 : x.qio = [] := by rw [← hx]; exact hq
    have x5 : x.readBuffer = seg := by rw [← hx]; show s.readBuffer ++ seg = seg; rw [d1]; rfl
    have x6 : x.log = s.log := by rw [← hx]
    have x7 : x.tcp.devOpen = true ∧ x.delPending = false ∧ x.tcp.inbox = [] ∧ x.initPending = s.initPending ∧
        x.method = rh.method ∧ x.rawPath = rh.rawPath ∧ x.reqHeaders = rh.headers := by
      rw [← hx]; exact ⟨hdev, hdel, rfl, rfl, d5, d6, d7⟩
    obtain ⟨xdev, xdel, xin, xip, xm, xr, xh⟩ := x7
    obtain ⟨n1, n2, n3⟩ := dataSlot_nolen env (head := head) (rh := rh) (pre := rest) x1 x2 x3 x4 xdev xdel xin
      ⟨xm, xr, xh⟩ (by rw [x6]; exact d3) (by rw [x6]; exact d4)
    have hfed : head ++ CRLF2 ++ (rest ++ seg) = fed ++ seg := by rw [d2]; simp
    rw [x5, hfed] at n1
    exact ⟨n1, (Grow.of_log_eq x6).trans n2, n3.trans xip⟩
  · obtain ⟨g1, g2, g3, g4, g5⟩ := hhdr hrs
    cases hbk : breakOn CRLF2 (s.readBuffer ++ seg) with
    | none =>
      rw [orrBody_headers_none _ _ _ (by exact hrs) (by exact hbk)]
      refine ⟨⟨ha, hio, hdev, hdc, hdel, rfl, htot, hq, hnf, fun _ => ⟨by show s.readBuffer ++ seg = fed ++ seg; rw [g1],
        by rw [← g1]; exact hbk, g3, g4, g5⟩, fun h => absurd (hrs.symm.trans h) (by simp)⟩, Grow.of_log_eq rfl, rfl⟩
    | some pr =>
      obtain ⟨h', rest⟩ := pr
      have hbuf : s.readBuffer ++ seg = fed ++ seg := by rw [g1]
      have hhead : h' = head := head_of_prefix hfin hpre (by rw [← hbuf]; exact hbk)
      subst hhead
      have hsplit := Qhttp.breakOn_some hbk
      obtain ⟨p, q, hu⟩ := hp.url
      rw [orrBody_headers _ _ _ (by exact hrs)]
      rw [Sock.readHeaders_ok env Proxy.app _ (by exact hbk)
        (by show Parser.parseRequestHeaders h' s.reqHeaders = some rh; rw [g3]; exact hp.parse) hu]
      rw [emit_hp_app]
      -- the state in which `headersParsed` was emitted
      generalize hse : ({ Sock.hpState { s with readBuffer := s.readBuffer ++ seg, tcp := { s.tcp with inbox := [] } } rh p q rest
        with log := (Sock.hpState { s with readBuffer := s.readBuffer ++ seg, tcp := { s.tcp with inbox := [] } } rh p q rest).log ++ [Obs.hp] } : Sock) = se
      have hG : Sock.hpState { s with readBuffer := s.readBuffer ++ seg, tcp := { s.tcp with inbox := [] } } rh p q rest =
          { s with method := rh.method, rawPath := rh.rawPath, reqHeaders := rh.headers, path := p,
                   query := q.foldl (fun m e => Sock.qmInsert e.1 e.2 m) s.query,
                   readBuffer := rest, rs := .data, total := -1, tcp := { s.tcp with inbox := [] } } := by
        have hnl := hp.nolen
        unfold Sock.hpState
        simp only []
        split
        · rename_i hc
          have hc' : HeaderMap.contains Sock.CONTENT_LENGTH_KEY rh.headers = true := hc
          rw [if_pos hc'] at hnl
          have hnl' : toLongLong (HeaderMap.value Sock.CONTENT_LENGTH_KEY rh.headers) = -1 := hnl
          simp [hnl']
        · simp [htot]
      rw [hG] at hse
      have e1 : se.log = s.log ++ [Obs.hp] := by rw [← hse]
      have e3 : Live se := by rw [← hse]; exact ⟨ha, hio, hdc⟩
      have e4 : se.rs = .data := by rw [← hse]
      have e5 : se.qio = [] := by rw [← hse]; exact hq
      have e6 : se.total = -1 := by rw [← hse]
      have e7 : se.readBuffer = rest := by rw [← hse]
      simp only [Bool.not_true, Bool.false_eq_true, if_false, e4]
      have hfed : fed ++ seg = h' ++ CRLF2 ++ rest := by rw [← hbuf]; exact hsplit
      have hhp : Obs.countP Obs.isHp se.log = 1 := by
        rw [e1, Obs.countP_append, g5]; rfl
      have hrd : Obs.reads se.log = [] := by
        rw [e1, Obs.reads_append, g4]; rfl
      have hf : se.method = rh.method ∧ se.rawPath = rh.rawPath ∧ se.reqHeaders = rh.headers := by
        rw [← hse]; exact ⟨rfl, rfl, rfl⟩
      have hfl : se.alive = true ∧ se.ioOpen = true ∧ se.tcp.devOpen = true ∧ se.dcFlag = false ∧
          se.delPending = false ∧ se.tcp.inbox = [] ∧ se.initPending = s.initPending := by
        rw [← hse]; exact ⟨ha, hio, hdev, hdc, hdel, rfl, rfl⟩
      obtain ⟨fa, fio, fdev, fdc, fdel, fin, fip⟩ := hfl
      obtain ⟨n1, n2, n3⟩ := dataSlot_nolen env (head := h') (rh := rh) (pre := []) e3 e4 e6 e5 fdev fdel fin
        hf hrd hhp
      rw [e7, List.nil_append, ← hfed] at n1
      have g0 : Grow s se := ⟨[.hp], e1, rfl⟩
      exact ⟨n1, g0.trans n2, n3.trans fip⟩

theorem NInv.transfer {head : Bytes} {rh : Parser.ReqHead} {fed : Bytes} {s s' : Sock} (h : NInv head rh fed s)
    (e1 : s'.alive = s.alive) (e2 : s'.ioOpen = s.ioOpen) (e3 : s'.tcp.devOpen = s.tcp.devOpen)
    (e4 : s'.dcFlag = s.dcFlag) (e5 : s'.delPending = s.delPending) (e6 : s'.tcp.inbox = [])
    (e7 : s'.total = s.total) (e8 : s'.qio = s.qio) (e9 : s'.rs = s.rs) (e10 : s'.readBuffer = s.readBuffer)
    (e11 : s'.reqHeaders = s.reqHeaders) (e12 : s'.method = s.method) (e13 : s'.rawPath = s.rawPath)
    (e14 : Obs.reads s'.log = Obs.reads s.log)
    (e15 : Obs.countP Obs.isHp s'.log = Obs.countP Obs.isHp s.log) : NInv head rh fed s' := by
  obtain ⟨ha, hio, hdev, hdc, hdel, _, htot, hq, hnf, hhdr, hdat⟩ := h
  refine ⟨e1.trans ha, e2.trans hio, e3.trans hdev, e4.trans hdc, e5.trans hdel, e6, e7.trans htot,
    e8.trans hq, by rw [e9]; exact hnf, fun h => ?_, fun h => ?_⟩
  · obtain ⟨a, b, c, d, f⟩ := hhdr (e9.symm.trans h)
    exact ⟨e10.trans a, b, e11.trans c, e14.trans d, e15.trans f⟩
  · obtain ⟨a, b, c, d, f, g⟩ := hdat (e9.symm.trans h)
    refine ⟨e10.trans a, ?_, e15.trans c, e12.trans d, e13.trans f, e11.trans g⟩
    obtain ⟨rest, b1, b2⟩ := b
    exact ⟨rest, b1, e14.trans b2⟩

theorem NInv.snoc {head : Bytes} {rh : Parser.ReqHead} {fed : Bytes} {s : Sock} (h : NInv head rh fed s)
    (o : Obs) (h1 : Obs.reads [o] = []) (h2 : Obs.isHp o = false) :
    NInv head rh fed { s with log := s.log ++ [o] } :=
  h.transfer rfl rfl rfl rfl rfl h.inbox rfl rfl rfl rfl rfl rfl rfl
    (by show Obs.reads (s.log ++ [o]) = _; rw [Obs.reads_append, h1, List.append_nil])
    (by show Obs.countP Obs.isHp (s.log ++ [o]) = _; rw [Obs.countP_append]; simp [Obs.countP, h2])

theorem NInv_init (head : Bytes) (rh : Parser.ReqHead) : NInv head rh [] ({} : Sock) :=
  ⟨rfl, rfl, rfl, rfl, rfl, rfl, rfl, rfl, by simp, fun _ => ⟨rfl, by decide, rfl, rfl, rfl⟩,
    fun h => nomatch h⟩

theorem stepK_nolen (env : Env) {head : Bytes} {rh : Parser.ReqHead}
    (hp : ParsedN env head rh) (fedF restF fed : Bytes) (hfin : breakOn CRLF2 fedF = some (head, restF))
    (e : Event) (k : Nat) (he : relaySockEvent e = true) (hpre : (fed ++ evBytesOf e) <+: fedF)
    {s : Sock} (h : NInv head rh fed s) :
    NInv head rh (fed ++ evBytesOf e) (Sock.stepK env Proxy.app (s, k) e).1 ∧
    LogStep s (Sock.stepK env Proxy.app (s, k) e).1 k ∧
    (e = .turn → (Sock.stepK env Proxy.app (s, k) e).1 = turnSock env s k) := by
  have h1 := h.snoc (Obs.ev k) rfl rfl
  obtain rfl | ⟨seg, rfl⟩ | rfl := relaySock_cases he
  · rw [stepK_new env k h.alive]
    simp only [evBytesOf, List.append_nil]
    exact ⟨h1.transfer rfl rfl rfl rfl rfl h1.inbox rfl rfl rfl rfl rfl rfl rfl rfl rfl,
      ⟨Grow.mark (Grow.of_log_eq rfl)⟩, fun h => nomatch h⟩
  · rw [stepK_feed env k seg h.alive]
    obtain ⟨r1, r2, _⟩ := orr_nolen env hp fedF restF fed seg hfin hpre
      (s := { s with log := s.log ++ [Obs.ev k], tcp := { s.tcp with inbox := s.tcp.inbox ++ seg } })
      (h1.transfer rfl rfl rfl rfl rfl rfl rfl rfl rfl rfl rfl rfl rfl rfl rfl)
      (by show s.tcp.inbox ++ seg = seg; rw [h.inbox]; rfl)
    exact ⟨r1, ⟨Grow.mark ((Grow.of_log_eq rfl).trans r2)⟩, fun h => nomatch h⟩
  · simp only [evBytesOf, List.append_nil] at hpre ⊢
    have ht : NInv head rh fed (turnSock env s k) ∧
        Grow { s with log := s.log ++ [Obs.ev k] } (turnSock env s k) := by
      by_cases hip : s.initPending = true
      · rw [turnSock_pos env k hip]
        obtain ⟨r1, r2, _⟩ := orr_nolen env hp fedF restF fed [] hfin (by simpa using hpre)
          (s := { s with log := s.log ++ [Obs.ev k], initPending := false })
          (h1.transfer rfl rfl rfl rfl rfl rfl rfl rfl rfl rfl rfl rfl rfl rfl rfl)
          (by show s.tcp.inbox = []; exact h.inbox)
        rw [List.append_nil] at r1
        exact ⟨r1, (Grow.of_log_eq rfl).trans r2⟩
      · rw [turnSock_neg env k hip]
        exact ⟨h1, Grow.refl _⟩
    rw [stepK_turn env k h.alive, reap_of_not_pending ht.1.delPending]
    exact ⟨ht.1, ⟨Grow.mark ht.2⟩, fun _ => rfl⟩

/-- the upstream server is entitled to every byte after the blank line -/
theorem sockI_nolen (env : Env) (evs : List Event) {head : Bytes} {rh : Parser.ReqHead}
    (hp : ParsedN env head rh) (fedF restF : Bytes) (hfin : breakOn CRLF2 fedF = some (head, restF)) :
    SockI env evs fedF rh restF (NInv head rh) where
  init := NInv_init head rh
  hpCount := by
    intro fed s h
    cases hrs : s.rs with
    | headers => rw [if_pos rfl]; exact (h.hdr hrs).2.2.2.2
    | data => rw [if_neg (by simp)]; exact (h.dat hrs).2.2.1
    | finished => exact absurd hrs h.notFin
  readsNil := fun h hrs => (h.hdr hrs).2.2.2.1
  flags := fun h => ⟨h.alive, h.delPending⟩
  misc := fun b h => h.snoc (Obs.misc 20 b) rfl rfl
  fields := by
    intro fed s h hne
    have : s.rs = .data := by
      cases hrs : s.rs with
      | headers => exact absurd hrs hne
      | data => rfl
      | finished => exact absurd hrs h.notFin
    exact (h.dat this).2.2.2
  step := fun e k h _ he hpre => stepK_nolen env hp fedF restF _ hfin e k he hpre h
  full := by
    intro s h hc
    have := (h.hdr hc).2.1
    rw [hfin] at this; cases this
  readsPre := by
    intro fed s h hpre
    cases hrs : s.rs with
    | headers => rw [(h.hdr hrs).2.2.2.1]; exact List.nil_prefix
    | finished => exact absurd hrs h.notFin
    | data =>
      obtain ⟨rest, e1, e2⟩ := (h.dat hrs).2.1
      rw [e2]
      obtain ⟨t, ht⟩ := hpre
      have hF := Qhttp.breakOn_some hfin
      rw [← ht, e1] at hF
      simp only [List.append_assoc] at hF
      have := List.append_cancel_left (List.append_cancel_left hF)
      exact ⟨t, this⟩
  readsAll := by
    intro s h
    have hne : s.rs = .data := by
      cases hrs : s.rs with
      | headers =>
        have := (h.hdr hrs).2.1
        rw [hfin] at this; cases this
      | data => rfl
      | finished => exact absurd hrs h.notFin
    obtain ⟨rest, e1, e2⟩ := (h.dat hne).2.1
    rw [e2]
    have hF := Qhttp.breakOn_some hfin
    rw [e1] at hF
    simp only [List.append_assoc] at hF
    exact List.append_cancel_left (List.append_cancel_left hF)

end Qhttp.ProxyL
