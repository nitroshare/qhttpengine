import Qhttp.Lemmas.HttpRender
import Qhttp.Lemmas.C01Parser
/-
  The response header multimap under `Socket::setHeader` / `setHeaders`: the map stays sorted and
  well-formed; replacing leaves `csplit v` under the case-folded name, appending adds `csplit v`
  to what was there, and no other name is touched.
-/
namespace Qhttp.C03L
open Qhttp Qhttp.HB Qhttp.Http Qhttp.HeaderMap

/-- split a value at `", "` -/
def csplit (v : Bytes) : List Bytes := splitAll [44, 32] v

def svals (l : List Bytes) : List Bytes := l.flatMap csplit

/-- the comma-separated values carried under a (case-folded) name -/
def vs (n : Bytes) (m : HeaderMap) : List Bytes := svals (HeaderMap.values n m)

theorem csplit_ne_nil (v : Bytes) : csplit v ≠ [] := splitAll_ne_nil v

theorem csplit_join (x v : Bytes) : csplit (x ++ [44, 32] ++ v) = csplit x ++ csplit v :=
  split_pair_append (p := 44) (q := 32) (by decide) x v

theorem valuesOf_eq (n : Bytes) (m : HeaderMap) : Http.valuesOf n m = vs n m := by
  simp only [Http.valuesOf, vs, svals, HeaderMap.values, keyEq, List.flatMap_map]
  rfl

theorem svals_eq_nil {l : List Bytes} : svals l = [] ↔ l = [] := by
  cases l with
  | nil => simp [svals]
  | cons a l => simp [svals, csplit_ne_nil]

/-- what `Socket::setHeader` (socket.cpp) does to the map; `[44, 32]` is its separator `", "` -/
def hset (n v : Bytes) (r : Bool) (m : HeaderMap) : HeaderMap :=
  if r || HeaderMap.count n m == 0 then HeaderMap.insert n v (HeaderMap.remove n m)
  else HeaderMap.replace n (HeaderMap.value n m ++ [44, 32] ++ v) m

theorem setHeader_eq (s : Sock) (n v : Bytes) (r : Bool) :
    Sock.setHeader s n v r = { s with respHeaders := hset n v r s.respHeaders } := by
  simp only [Sock.setHeader, hset]; split <;> rfl

/-- keys never decrease along the map (case-folded order; equal keys may repeat) -/
def Sorted (m : HeaderMap) : Prop := m.Pairwise (fun a c => keyLt c.1 a.1 = false)

def HdrWf (m : HeaderMap) : Prop := ∀ e ∈ m, EntryOk e

theorem mem_insert {k v : Bytes} {m : HeaderMap} {e : Bytes × Bytes} :
    e ∈ HeaderMap.insert k v m ↔ e = (k, v) ∨ e ∈ m := by
  induction m with
  | nil => simp [HeaderMap.insert]
  | cons a m ih =>
    simp only [HeaderMap.insert]; split
    · simp only [List.mem_cons, ih]; constructor <;> (intro h; rcases h with h | h | h <;> simp [h])
    · simp

theorem keyLt_asymm {a c : Bytes} (h : keyLt a c = true) : keyLt c a = false := bytesLt_asymm h

theorem sorted_cons {k v : Bytes} {a : Bytes × Bytes} {m : HeaderMap} (h : Sorted (a :: m))
    (hlt : keyLt a.1 k = false) : Sorted ((k, v) :: a :: m) := by
  refine List.pairwise_cons.mpr ⟨?_, h⟩
  intro e he
  rcases List.mem_cons.mp he with he | he
  · subst he; exact hlt
  · have h3 := (List.pairwise_cons.mp h).1 e he
    cases h4 : keyLt e.1 k with
    | false => rfl
    | true => exact absurd (bytesLt_of_not_lt_of_lt h3 h4) (by rw [show bytesLt (lower a.1) (lower k) = false from hlt]; exact Bool.false_ne_true)

theorem sorted_insert {k v : Bytes} {m : HeaderMap} (h : Sorted m) : Sorted (HeaderMap.insert k v m) := by
  induction m with
  | nil => simp [HeaderMap.insert, Sorted]
  | cons a m ih =>
    obtain ⟨h1, h2⟩ := List.pairwise_cons.mp h
    simp only [HeaderMap.insert]; split
    · rename_i hlt
      refine List.pairwise_cons.mpr ⟨?_, ih h2⟩
      intro e he
      rcases mem_insert.mp he with he | he
      · subst he; exact keyLt_asymm hlt
      · exact h1 e he
    · rename_i hlt
      exact sorted_cons h (by simpa using hlt)

theorem sorted_remove {k : Bytes} {m : HeaderMap} (h : Sorted m) : Sorted (HeaderMap.remove k m) :=
  List.Pairwise.filter _ h

theorem mem_replace {k v : Bytes} {m : HeaderMap} {e : Bytes × Bytes} (h : e ∈ HeaderMap.replace k v m) :
    e = (k, v) ∨ e ∈ m ∨ (e.2 = v ∧ ∃ x, (e.1, x) ∈ m) := by
  induction m with
  | nil => simp [HeaderMap.replace] at h; simp [h]
  | cons a m ih =>
    simp only [HeaderMap.replace] at h
    split at h
    · rcases List.mem_cons.mp h with h | h
      · right; right; subst h; exact ⟨rfl, a.2, by simp⟩
      · right; left; simp [h]
    · split at h
      · rcases List.mem_cons.mp h with h | h
        · right; left; simp [h]
        · rcases ih h with h | h | ⟨h, x, hx⟩
          · left; exact h
          · right; left; simp [h]
          · right; right; exact ⟨h, x, by simp [hx]⟩
      · rcases List.mem_cons.mp h with h | h
        · left; exact h
        · right; left; exact h

theorem sorted_replace {k v : Bytes} {m : HeaderMap} (h : Sorted m) : Sorted (HeaderMap.replace k v m) := by
  induction m with
  | nil => simp [HeaderMap.replace, Sorted]
  | cons a m ih =>
    obtain ⟨h1, h2⟩ := List.pairwise_cons.mp h
    simp only [HeaderMap.replace]; split
    · exact List.pairwise_cons.mpr ⟨h1, h2⟩
    · split
      · rename_i hlt
        refine List.pairwise_cons.mpr ⟨?_, ih h2⟩
        intro e he
        rcases mem_replace he with he | he | ⟨_, x, hx⟩
        · subst he; exact keyLt_asymm hlt
        · exact h1 e he
        · exact h1 (e.1, x) hx
      · rename_i hlt
        exact sorted_cons h (by simpa using hlt)

theorem sorted_hset {n v : Bytes} {r : Bool} {m : HeaderMap} (h : Sorted m) : Sorted (hset n v r m) := by
  simp only [hset]; split
  · exact sorted_insert (sorted_remove h)
  · exact sorted_replace h

theorem sorted_foldl_insert (l : List (Bytes × Bytes)) : ∀ {m : HeaderMap}, Sorted m →
    Sorted (l.foldl (fun acc e => HeaderMap.insert e.1 e.2 acc) m) := by
  induction l with
  | nil => intro m h; exact h
  | cons e l ih => intro m h; exact ih (sorted_insert h)

theorem wf_insert {k v : Bytes} {m : HeaderMap} (h : HdrWf m) (he : EntryOk (k, v)) :
    HdrWf (HeaderMap.insert k v m) := by
  intro e hm
  rcases mem_insert.mp hm with hm | hm
  · subst hm; exact he
  · exact h e hm

theorem wf_remove {k : Bytes} {m : HeaderMap} (h : HdrWf m) : HdrWf (HeaderMap.remove k m) :=
  fun e hm => h e (List.mem_filter.mp hm).1

theorem mem_of_mem_values {k x : Bytes} {m : HeaderMap} (h : x ∈ HeaderMap.values k m) :
    ∃ k', (k', x) ∈ m := by
  simp only [HeaderMap.values, List.mem_map, List.mem_filter] at h
  obtain ⟨e, ⟨he, _⟩, hx⟩ := h
  exact ⟨e.1, by rw [← hx]; exact he⟩

theorem value_CR {k : Bytes} {m : HeaderMap} (h : HdrWf m) : CR ∉ HeaderMap.value k m := by
  simp only [HeaderMap.value]
  split
  · rename_i v t hv
    obtain ⟨k', hk⟩ := mem_of_mem_values (k := k) (x := v) (m := m) (by rw [hv]; simp)
    exact (h _ hk).2.2.2
  · simp

theorem wf_hset {n v : Bytes} {r : Bool} {m : HeaderMap} (h : HdrWf m) (he : EntryOk (n, v)) :
    HdrWf (hset n v r m) := by
  simp only [hset]; split
  · exact wf_insert (wf_remove h) he
  · intro e hm
    have hv : CR ∉ HeaderMap.value n m ++ [44, 32] ++ v := by
      simp only [List.mem_append, not_or]
      exact ⟨⟨value_CR h, by simp [CR]⟩, he.2.2.2⟩
    rcases mem_replace hm with hm | hm | ⟨h2, x, hx⟩
    · subst hm; exact ⟨he.1, he.2.1, he.2.2.1, hv⟩
    · exact h e hm
    · have := h _ hx
      exact ⟨this.1, this.2.1, this.2.2.1, by rw [h2]; exact hv⟩

theorem wf_foldl_insert (l : List (Bytes × Bytes)) (hl : ∀ e ∈ l, EntryOk e) : ∀ {m : HeaderMap}, HdrWf m →
    HdrWf (l.foldl (fun acc e => HeaderMap.insert e.1 e.2 acc) m) := by
  induction l with
  | nil => intro m h; exact h
  | cons e l ih =>
    intro m h
    exact ih (fun e h => hl e (by simp [h])) (wf_insert h (hl e (by simp)))

theorem values_congr {a c : Bytes} (m : HeaderMap) (h : lower a = lower c) :
    HeaderMap.values a m = HeaderMap.values c m := by
  simp only [HeaderMap.values, keyEq, h]

theorem values_remove (k n : Bytes) (m : HeaderMap) :
    HeaderMap.values n (HeaderMap.remove k m) = if keyEq k n then [] else HeaderMap.values n m := by
  by_cases h : keyEq k n = true
  · rw [if_pos h]
    have h' : lower k = lower n := by simpa [keyEq] using h
    simp only [HeaderMap.values, HeaderMap.remove, List.filter_filter, keyEq]
    rw [List.map_eq_nil_iff, List.filter_eq_nil_iff]
    intro e _; simp only [h', Bool.and_eq_true, Bool.not_eq_true', not_and]
    intro h1; simp [h1]
  · rw [if_neg h]
    have h' : ¬ lower k = lower n := by simpa [keyEq] using h
    simp only [HeaderMap.values, HeaderMap.remove, List.filter_filter, keyEq]
    congr 1; apply List.filter_congr
    intro e _
    by_cases h1 : lower e.1 = lower n
    · have : ¬ lower n = lower k := fun e' => h' e'.symm
      simp [h1, this]
    · simp [h1]

theorem count_ne_zero_mem {k : Bytes} {m : HeaderMap} (h : ¬ (HeaderMap.count k m == 0) = true) :
    ∃ e ∈ m, lower e.1 = lower k := by
  have : HeaderMap.values k m ≠ [] := by intro e; apply h; simp [HeaderMap.count, e]
  obtain ⟨x, hx⟩ := List.exists_mem_of_ne_nil _ this
  simp only [HeaderMap.values, List.mem_map, List.mem_filter] at hx
  obtain ⟨e, ⟨he, hk⟩, _⟩ := hx
  exact ⟨e, he, by simpa [keyEq] using hk⟩

theorem values_cons_of_ne {a : Bytes × Bytes} {n : Bytes} (m : HeaderMap) (h : ¬ lower a.1 = lower n) :
    HeaderMap.values n (a :: m) = HeaderMap.values n m := by
  simp [HeaderMap.values, keyEq, h]

theorem values_cons_of_eq {a : Bytes × Bytes} {n : Bytes} (m : HeaderMap) (h : lower a.1 = lower n) :
    HeaderMap.values n (a :: m) = a.2 :: HeaderMap.values n m := by
  simp [HeaderMap.values, keyEq, h]

/-- on a sorted map that has the key, `replace` overwrites the first entry with that key -/
theorem values_replace (k v : Bytes) {m : HeaderMap} (hs : Sorted m) (hc : ∃ e ∈ m, lower e.1 = lower k) :
    HeaderMap.values k (HeaderMap.replace k v m) = v :: (HeaderMap.values k m).tail ∧
    ∀ n, ¬ lower k = lower n → HeaderMap.values n (HeaderMap.replace k v m) = HeaderMap.values n m := by
  induction m with
  | nil => obtain ⟨e, he, _⟩ := hc; simp at he
  | cons a m ih =>
    obtain ⟨k', x⟩ := a
    obtain ⟨h1, h2⟩ := List.pairwise_cons.mp hs
    simp only [HeaderMap.replace]
    by_cases hak : keyEq k' k = true
    · simp only [hak, if_true]
      have hak' : lower k' = lower k := by simpa [keyEq] using hak
      refine ⟨by simp [HeaderMap.values, hak], ?_⟩
      intro n hn
      have : ¬ lower k' = lower n := by rw [hak']; exact hn
      rw [values_cons_of_ne (a := (k', v)) _ this, values_cons_of_ne (a := (k', x)) _ this]
    · simp only [hak, Bool.false_eq_true, if_false]
      have hak' : ¬ lower k' = lower k := by simpa [keyEq] using hak
      have hc' : ∃ e ∈ m, lower e.1 = lower k := by
        obtain ⟨e, he, hek⟩ := hc
        rcases List.mem_cons.mp he with he | he
        · subst he; exact absurd hek hak'
        · exact ⟨e, he, hek⟩
      by_cases hlt : keyLt k' k = true
      · simp only [hlt, if_true]
        obtain ⟨ih1, ih2⟩ := ih h2 hc'
        constructor
        · rw [values_cons_of_ne (a := (k', x)) _ hak', values_cons_of_ne (a := (k', x)) _ hak', ih1]
        · intro n hn
          by_cases han : lower k' = lower n
          · rw [values_cons_of_eq (a := (k', x)) _ han, values_cons_of_eq (a := (k', x)) _ han, ih2 n hn]
          · rw [values_cons_of_ne (a := (k', x)) _ han, values_cons_of_ne (a := (k', x)) _ han, ih2 n hn]
      · exfalso
        obtain ⟨e, he, hek⟩ := hc'
        have h3 := h1 e he
        simp only [keyLt, hek] at h3
        have hlt' : bytesLt (lower k') (lower k) = false := by simpa [keyLt] using hlt
        exact hak' (bytesLt_total hlt' h3)

theorem vs_insert (k v n : Bytes) (m : HeaderMap) :
    (vs n (HeaderMap.insert k v m)).Perm (if keyEq k n then csplit v ++ vs n m else vs n m) := by
  rw [vs, HeaderMap.values_insert]
  split
  · exact List.Perm.of_eq List.flatMap_cons
  · exact List.Perm.refl _

theorem vs_hset_replace (n v n' : Bytes) (m : HeaderMap) :
    (vs n' (hset n v true m)).Perm (if keyEq n n' then csplit v else vs n' m) := by
  simp only [hset, Bool.true_or, if_true]
  refine (vs_insert n v n' _).trans ?_
  simp only [vs, values_remove]
  split <;> simp [svals]

/-- sortedness is what makes `HeaderMap.replace` hit the first entry under the name -/
theorem vs_hset_append (n v n' : Bytes) {m : HeaderMap} (hs : Sorted m) :
    (vs n' (hset n v false m)).Perm (if keyEq n n' then vs n' m ++ csplit v else vs n' m) := by
  simp only [hset, Bool.false_or]
  split
  · rename_i hc
    refine (vs_insert n v n' _).trans ?_
    simp only [vs, values_remove]
    split
    · rename_i hk
      have hk' : lower n = lower n' := by simpa [keyEq] using hk
      have : HeaderMap.values n' m = [] := by
        rw [← values_congr m hk']
        simpa [HeaderMap.count] using hc
      simp [this, svals]
    · exact List.Perm.refl _
  · rename_i hc
    obtain ⟨h1, h2⟩ := values_replace n (HeaderMap.value n m ++ [44, 32] ++ v) hs (count_ne_zero_mem hc)
    split
    · rename_i hk
      have hk' : lower n = lower n' := by simpa [keyEq] using hk
      simp only [vs, ← values_congr _ hk', h1]
      simp only [HeaderMap.value]
      cases hv : HeaderMap.values n m with
      | nil => simp [HeaderMap.count, hv] at hc
      | cons x t =>
        simp only [svals, List.flatMap_cons, List.tail_cons, csplit_join]
        simp only [List.append_assoc]
        exact List.Perm.append_left _ List.perm_append_comm
    · rename_i hk
      have hk' : ¬ lower n = lower n' := by simpa [keyEq] using hk
      simp only [vs, h2 n' hk']
      exact List.Perm.refl _

theorem lower8_idem (c : UInt8) : lower8 (lower8 c) = lower8 c := by
  have h : ∀ n, n < 256 → lower8 (lower8 (UInt8.ofNat n)) = lower8 (UInt8.ofNat n) := by decide +kernel
  have := h c.toNat c.toNat_lt
  simpa using this

theorem lower_idem (x : Bytes) : lower (lower x) = lower x := by
  simp [lower, lower8_idem]

end Qhttp.C03L
