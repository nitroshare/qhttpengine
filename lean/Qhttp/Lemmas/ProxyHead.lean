import Qhttp.Lemmas.ProxyTarget
import Qhttp.Lemmas.HttpRender
import Qhttp.Lemmas.C01Parser
import Qhttp.Lemmas.C03Hdr
/-
  C12 — the upstream request head written by `onUpstreamConnected`: its decomposition into start
  line and forwarded header map, what the forwarded map carries under every name, and that the
  strict reader `Http.parse` reads the head back.
-/
namespace Qhttp.ProxyL
open Qhttp Proxy Qhttp.HB

def HTTP11sp : Bytes := lit [' ','H','T','T','P','/','1','.','1']

def startLine (c : Cfg) (s : Sock) : Bytes :=
  methodToString s.method ++ [SP] ++ target c.path s.rawPath ++ HTTP11sp

/-- the client's values in the order received, each followed by ", ", then the peer address -/
def xffValue (c : Cfg) (h : HeaderMap) : Bytes :=
  ((HeaderMap.values XFF h).reverse.flatMap fun v => v ++ [44, 32]) ++ c.peerIP

def fwd1 (c : Cfg) (h : HeaderMap) : HeaderMap :=
  if (HeaderMap.values XFF h).isEmpty then HeaderMap.insert XFF c.peerIP h
  else HeaderMap.insert XFF (xffValue c h) (HeaderMap.remove XFF h)

def fwdHeaders (c : Cfg) (h : HeaderMap) : HeaderMap :=
  if HeaderMap.contains XRI (fwd1 c h) then fwd1 c h else HeaderMap.insert XRI c.peerIP (fwd1 c h)

theorem upstreamHead_eq (c : Cfg) (s : Sock) :
    upstreamHead c s = startLine c s ++ CRLF ++ Sock.headerLines (fwdHeaders c s.reqHeaders) ++ CRLF := by
  simp only [upstreamHead, startLine, fwdHeaders, fwd1, xffValue, target, encPath, HTTP11sp,
    List.append_assoc, List.cons_append]
  rfl

theorem keyEq_XRI_XFF : HeaderMap.keyEq XRI XFF = false := by decide
theorem keyEq_XFF_XRI : HeaderMap.keyEq XFF XRI = false := by decide

theorem values_fwd1_other (c : Cfg) (h : HeaderMap) (k : Bytes) (hk : HeaderMap.keyEq XFF k = false) :
    HeaderMap.values k (fwd1 c h) = HeaderMap.values k h := by
  unfold fwd1
  split
  · rw [HeaderMap.values_insert, hk]; simp
  · rw [HeaderMap.values_insert, hk, C03L.values_remove, hk]; simp

theorem values_fwd1_xff (c : Cfg) (h : HeaderMap) :
    HeaderMap.values XFF (fwd1 c h) = [xffValue c h] := by
  have hkk : HeaderMap.keyEq XFF XFF = true := by decide
  unfold fwd1
  split
  · rename_i he
    have he' : HeaderMap.values XFF h = [] := List.isEmpty_iff.mp he
    rw [HeaderMap.values_insert, hkk, he']
    simp [xffValue, he']
  · rw [HeaderMap.values_insert, hkk, C03L.values_remove, hkk]; simp

theorem values_fwdHeaders_of_ne_xri (c : Cfg) (h : HeaderMap) (k : Bytes)
    (hk : HeaderMap.keyEq XRI k = false) :
    HeaderMap.values k (fwdHeaders c h) = HeaderMap.values k (fwd1 c h) := by
  unfold fwdHeaders
  split
  · rfl
  · rw [HeaderMap.values_insert, hk]; simp

theorem headers_forwarded (c : Cfg) (h : HeaderMap) (k : Bytes)
    (h1 : HeaderMap.keyEq XFF k = false) (h2 : HeaderMap.keyEq XRI k = false) :
    HeaderMap.values k (fwdHeaders c h) = HeaderMap.values k h := by
  rw [values_fwdHeaders_of_ne_xri c h k h2, values_fwd1_other c h k h1]

theorem xff_ends_with_peer (c : Cfg) (h : HeaderMap) :
    HeaderMap.values XFF (fwdHeaders c h) = [xffValue c h] := by
  rw [values_fwdHeaders_of_ne_xri c h XFF keyEq_XRI_XFF, values_fwd1_xff]

theorem xri (c : Cfg) (h : HeaderMap) :
    HeaderMap.values XRI (fwdHeaders c h) =
      if HeaderMap.contains XRI h then HeaderMap.values XRI h else [c.peerIP] := by
  have hkk : HeaderMap.keyEq XRI XRI = true := by decide
  have e1 : HeaderMap.values XRI (fwd1 c h) = HeaderMap.values XRI h :=
    values_fwd1_other c h XRI keyEq_XFF_XRI
  have hc : HeaderMap.contains XRI (fwd1 c h) = HeaderMap.contains XRI h := by
    have a := HeaderMap.contains_iff_values XRI (fwd1 c h)
    have b := HeaderMap.contains_iff_values XRI h
    rw [e1] at a
    cases h1 : HeaderMap.contains XRI (fwd1 c h) <;> cases h2 : HeaderMap.contains XRI h <;> simp_all
  unfold fwdHeaders
  rw [hc]
  split
  · exact e1
  · rename_i hn
    rw [HeaderMap.values_insert, hkk, e1]
    have : HeaderMap.values XRI h = [] := by
      have b := HeaderMap.contains_iff_values XRI h
      cases hv : HeaderMap.values XRI h with
      | nil => rfl
      | cons x xs => rw [hv] at b; exact absurd (b.mpr (by simp)) hn
    simp [this]

theorem methodToString_of_code {tok : Bytes} {code : Nat} (h : Parser.methodCode tok = some code) :
    methodToString code = tok := by
  have := (Parser.methodCode_eq_some_iff tok code).1 h
  simp only [Parser.methodTable, List.mem_cons, Prod.mk.injEq, List.not_mem_nil, or_false] at this
  rcases this with ⟨rfl, rfl⟩ | ⟨rfl, rfl⟩ | ⟨rfl, rfl⟩ | ⟨rfl, rfl⟩ | ⟨rfl, rfl⟩ | ⟨rfl, rfl⟩ |
    ⟨rfl, rfl⟩ | ⟨rfl, rfl⟩ <;> decide

def eightCodes : List Nat := [1, 2, 4, 8, 16, 32, 64, 128]

theorem methodToString_clean : ∀ code ∈ eightCodes,
    SP ∉ methodToString code ∧ CR ∉ methodToString code ∧
    Parser.methodCode (methodToString code) = some code := by decide

theorem code_mem_eightCodes {tok : Bytes} {code : Nat} (h : Parser.methodCode tok = some code) :
    code ∈ eightCodes := by
  have := (Parser.methodCode_eq_some_iff tok code).1 h
  simp only [Parser.methodTable, List.mem_cons, Prod.mk.injEq, List.not_mem_nil, or_false] at this
  rcases this with ⟨_, rfl⟩ | ⟨_, rfl⟩ | ⟨_, rfl⟩ | ⟨_, rfl⟩ | ⟨_, rfl⟩ | ⟨_, rfl⟩ |
    ⟨_, rfl⟩ | ⟨_, rfl⟩ <;> decide

theorem target_clean (p r : Bytes) :
    SP ∉ target p r ∧ CR ∉ target p r ∧ LF ∉ target p r := by
  have a1 : SP ∉ encPath p := not_mem_encPath p (by decide) (by decide) (by decide) (by decide)
  have a2 : CR ∉ encPath p := not_mem_encPath p (by decide) (by decide) (by decide) (by decide)
  have a3 : LF ∉ encPath p := not_mem_encPath p (by decide) (by decide) (by decide) (by decide)
  unfold target
  simp only [List.mem_append, not_or]
  exact ⟨⟨a1, SP_not_mem_query r⟩, ⟨a2, CR_not_mem_query r⟩, ⟨a3, LF_not_mem_query r⟩⟩

theorem HTTP11sp_eq : HTTP11sp = [SP] ++ Parser.HTTP11 := by decide

theorem startLine_CR (c : Cfg) (s : Sock) (hm : s.method ∈ eightCodes) :
    CR ∉ startLine c s := by
  obtain ⟨_, h2, _⟩ := methodToString_clean _ hm
  obtain ⟨_, t2, _⟩ := target_clean c.path s.rawPath
  unfold startLine
  simp only [List.mem_append, not_or]
  exact ⟨⟨⟨h2, by decide⟩, t2⟩, by decide⟩

theorem startLine_split (c : Cfg) (s : Sock) (hm : s.method ∈ eightCodes) :
    splitF [SP] ((startLine c s).length + 1) none (startLine c s) =
      [methodToString s.method, target c.path s.rawPath, Parser.HTTP11] := by
  obtain ⟨h1, _, _⟩ := methodToString_clean _ hm
  obtain ⟨t1, _, _⟩ := target_clean c.path s.rawPath
  have e : startLine c s =
      methodToString s.method ++ [SP] ++ (target c.path s.rawPath ++ [SP] ++ Parser.HTTP11) := by
    rw [startLine, HTTP11sp_eq]; simp [List.append_assoc]
  show splitAll [SP] (startLine c s) = _
  rw [e, splitAll_found (c := SP) (d := []) _ h1, splitAll_found (c := SP) (d := []) _ t1,
    splitAll_of_not_mem (c := SP) (d := []) (by decide)]

theorem mem_of_mem_trim {x : UInt8} {l : Bytes} (h : x ∈ trim l) : x ∈ l := by
  unfold trim trimR trimL at h
  have h1 := List.mem_reverse.mp h
  have h2 := (List.dropWhile_sublist isSp).subset h1
  have h3 := List.mem_reverse.mp h2
  exact (List.dropWhile_sublist isSp).subset h3

/-- the part of `Http.EntryOk` that `Parser::parseHeaderList` guarantees by itself (it refuses blank names) -/
def NameOk (e : Bytes × Bytes) : Prop := e.1 ≠ [] ∧ COLON ∉ e.1

/-- the part the parser does not guarantee: a lone CR is an ordinary byte for it, lines end at CR LF only -/
def CrFree (e : Bytes × Bytes) : Prop := CR ∉ e.1 ∧ CR ∉ e.2

theorem entryOk_iff (e : Bytes × Bytes) : Http.EntryOk e ↔ NameOk e ∧ CrFree e := by
  unfold Http.EntryOk NameOk CrFree
  constructor
  · rintro ⟨a, b, c, d⟩; exact ⟨⟨a, b⟩, c, d⟩
  · rintro ⟨⟨a, b⟩, c, d⟩; exact ⟨a, b, c, d⟩

theorem hdrWf_iff (m : HeaderMap) : C03L.HdrWf m ↔ (∀ e ∈ m, NameOk e) ∧ (∀ e ∈ m, CrFree e) := by
  unfold C03L.HdrWf
  constructor
  · intro h
    exact ⟨fun e he => ((entryOk_iff e).1 (h e he)).1, fun e he => ((entryOk_iff e).1 (h e he)).2⟩
  · rintro ⟨a, b⟩ e he
    exact (entryOk_iff e).2 ⟨a e he, b e he⟩

theorem nameOk_insertLine {m : HeaderMap} {l : Bytes} (hm : ∀ e ∈ m, NameOk e)
    (hl : Parser.hdrLineB l = true) : ∀ e ∈ Parser.insertLine m l, NameOk e := by
  unfold Parser.insertLine
  unfold Parser.hdrLineB at hl
  cases hb : breakOn [COLON] l with
  | none => exact hm
  | some p =>
    obtain ⟨n, x⟩ := p
    rw [hb] at hl
    simp only [Bool.not_eq_true'] at hl
    intro e he
    rcases C03L.mem_insert.mp he with rfl | he
    · refine ⟨fun c => ?_, fun h => breakOn_singleton_not_mem hb (mem_of_mem_trim h)⟩
      simp only at c
      rw [c] at hl
      cases hl
    · exact hm e he

theorem crFree_insertLine {m : HeaderMap} {l : Bytes} (hm : ∀ e ∈ m, CrFree e) (hl : CR ∉ l) :
    ∀ e ∈ Parser.insertLine m l, CrFree e := by
  unfold Parser.insertLine
  cases hb : breakOn [COLON] l with
  | none => exact hm
  | some p =>
    obtain ⟨n, x⟩ := p
    have hsplit := breakOn_some hb
    intro e he
    rcases C03L.mem_insert.mp he with rfl | he
    · constructor
      · intro h; apply hl; rw [hsplit]; simp [mem_of_mem_trim h]
      · intro h; apply hl; rw [hsplit]; simp [mem_of_mem_trim h]
    · exact hm e he

theorem nameOk_foldl_insertLine (hs : List Bytes) (hl : ∀ l ∈ hs, Parser.hdrLineB l = true) :
    ∀ {m : HeaderMap}, (∀ e ∈ m, NameOk e) → ∀ e ∈ hs.foldl Parser.insertLine m, NameOk e := by
  induction hs with
  | nil => intro m h; exact h
  | cons l rest ih =>
    intro m h
    exact ih (fun l' h' => hl l' (by simp [h'])) (nameOk_insertLine h (hl l (by simp)))

theorem crFree_foldl_insertLine (hs : List Bytes) (hl : ∀ l ∈ hs, CR ∉ l) :
    ∀ {m : HeaderMap}, (∀ e ∈ m, CrFree e) → ∀ e ∈ hs.foldl Parser.insertLine m, CrFree e := by
  induction hs with
  | nil => intro m h; exact h
  | cons l rest ih =>
    intro m h
    exact ih (fun l' h' => hl l' (by simp [h'])) (crFree_insertLine h (hl l (by simp)))

/-- whatever the lines are: a line with a blank name is refused by the parser -/
theorem nameOk_of_parseHeaderList {hs : List Bytes} {m0 m : HeaderMap}
    (h : Parser.parseHeaderList hs m0 = some m) (h0 : ∀ e ∈ m0, NameOk e) : ∀ e ∈ m, NameOk e := by
  rw [Parser.parseHeaderList_eq] at h
  split at h
  · rename_i hl
    cases h; exact nameOk_foldl_insertLine hs hl h0
  · cases h

/-- CR-freeness is a hypothesis: a lone CR inside a line is an ordinary byte for the parser -/
theorem wf_of_parseHeaderList {hs : List Bytes} {m : HeaderMap}
    (h : Parser.parseHeaderList hs [] = some m) (hl : ∀ l ∈ hs, CR ∉ l) : C03L.HdrWf m := by
  rw [hdrWf_iff]
  refine ⟨nameOk_of_parseHeaderList h (fun e he => by cases he), ?_⟩
  rw [Parser.parseHeaderList_eq] at h
  split at h
  · cases h; exact crFree_foldl_insertLine hs hl (fun e he => by cases he)
  · cases h

theorem wf_of_parseHeaderList' {hs : List Bytes} {m : HeaderMap}
    (h : Parser.parseHeaderList hs [] = some m) (hcr : ∀ e ∈ m, CrFree e) : C03L.HdrWf m :=
  (hdrWf_iff m).2 ⟨nameOk_of_parseHeaderList h (fun e he => by cases he), hcr⟩

theorem nameOk_of_parseRequestHeaders {head : Bytes} {rh : Parser.ReqHead}
    (h : Parser.parseRequestHeaders head [] = some rh) : ∀ e ∈ rh.headers, NameOk e := by
  obtain ⟨p0, p2, hp, _, _⟩ := (Parser.parseRequestHeaders_eq_some_iff head [] rh).mp h
  obtain ⟨hs, _, _, _, _, hpl, _⟩ := (Parser.parseHeaders_eq_some_iff _ _ _ _ _ _).1 hp
  exact nameOk_of_parseHeaderList hpl (fun e he => by cases he)

theorem wf_of_parseRequestHeaders {head : Bytes} {rh : Parser.ReqHead}
    (h : Parser.parseRequestHeaders head [] = some rh) (hcr : ∀ e ∈ rh.headers, CrFree e) :
    C03L.HdrWf rh.headers :=
  (hdrWf_iff _).2 ⟨nameOk_of_parseRequestHeaders h, hcr⟩

open Qhttp.Http

/-- every entry is fit for `Http.parse_render_w`: non-empty name without ':', no CR LF in name
    or value -/
def HdrW (m : HeaderMap) : Prop := ∀ e ∈ m, EntryOkW e

theorem hdrW_of_hdrWf {m : HeaderMap} (h : C03L.HdrWf m) : HdrW m :=
  fun e he => entryOkW_of_entryOk (h e he)

theorem hdrW_insert {k v : Bytes} {m : HeaderMap} (h : HdrW m) (he : EntryOkW (k, v)) :
    HdrW (HeaderMap.insert k v m) := by
  intro e hm
  rcases C03L.mem_insert.mp hm with hm | hm
  · subst hm; exact he
  · exact h e hm

theorem hdrW_remove {k : Bytes} {m : HeaderMap} (h : HdrW m) : HdrW (HeaderMap.remove k m) :=
  fun e hm => h e (List.mem_filter.mp hm).1

theorem trim_infix (xs : Bytes) : trim xs <:+: xs := by
  unfold trim trimR trimL
  have h1 : xs.dropWhile isSp <:+ xs := List.dropWhile_suffix isSp
  have h2 : ((xs.dropWhile isSp).reverse.dropWhile isSp).reverse <+: xs.dropWhile isSp := by
    have := List.dropWhile_suffix isSp (l := (xs.dropWhile isSp).reverse)
    have := List.reverse_prefix.mpr this
    simpa using this
  exact h2.isInfix.trans h1.isInfix

theorem noCRLF_of_infix {a l : Bytes} (h : ¬ CRLF <:+: l) (ha : a <:+: l) : ¬ CRLF <:+: a :=
  fun c => h (c.trans ha)

theorem noCRLF_of_CR {l : Bytes} (h : CR ∉ l) : ¬ CRLF <:+: l :=
  fun c => h (CR_mem_of_CRLF_infix c)

theorem noCRLF_sp_cons {l : Bytes} (h : ¬ CRLF <:+: l) : ¬ CRLF <:+: SP :: l := by
  have := not_infix_append_sep (a := []) (c := SP)
    (fun c => by have := c.length_le; simp [CRLF] at this) h (by decide)
  simpa using this

theorem flatMap_commaSp_noCRLF (vs : List Bytes) (t : Bytes) (hv : ∀ v ∈ vs, ¬ CRLF <:+: v)
    (ht : ¬ CRLF <:+: t) : ¬ CRLF <:+: (vs.flatMap fun v => v ++ [44, 32]) ++ t := by
  induction vs with
  | nil => simpa using ht
  | cons v vs ih =>
    have ih := ih (fun v h => hv v (by simp [h]))
    have := not_infix_append_sep (c := 44) (hv v (by simp)) (noCRLF_sp_cons ih) (by decide)
    simpa [List.flatMap_cons, List.append_assoc, SP] using this

theorem xffValue_noCRLF (c : Cfg) (h : HeaderMap) (hh : HdrW h) (hp : CR ∉ c.peerIP) :
    ¬ CRLF <:+: xffValue c h := by
  unfold xffValue
  apply flatMap_commaSp_noCRLF _ _ _ (noCRLF_of_CR hp)
  intro v hv
  obtain ⟨k', he⟩ := C03L.mem_of_mem_values (List.mem_reverse.mp hv)
  exact (hh (k', v) he).2.2.2

theorem hdrW_fwdHeaders (c : Cfg) (h : HeaderMap) (hh : HdrW h) (hp : CR ∉ c.peerIP) :
    HdrW (fwdHeaders c h) := by
  have okXFF : ∀ v, ¬ CRLF <:+: v → EntryOkW (XFF, v) := fun v hv =>
    ⟨(by decide : XFF ≠ []), (by decide : COLON ∉ XFF), noCRLF_of_CR (by decide : CR ∉ XFF), hv⟩
  have okXRI : ∀ v, ¬ CRLF <:+: v → EntryOkW (XRI, v) := fun v hv =>
    ⟨(by decide : XRI ≠ []), (by decide : COLON ∉ XRI), noCRLF_of_CR (by decide : CR ∉ XRI), hv⟩
  have h1 : HdrW (fwd1 c h) := by
    unfold fwd1
    split
    · exact hdrW_insert hh (okXFF _ (noCRLF_of_CR hp))
    · exact hdrW_insert (hdrW_remove hh) (okXFF _ (xffValue_noCRLF c h hh hp))
  unfold fwdHeaders
  split
  · exact h1
  · exact hdrW_insert h1 (okXRI _ (noCRLF_of_CR hp))

theorem startLine_ne_nil (c : Cfg) (s : Sock) : startLine c s ≠ [] := by
  simp [startLine, HTTP11sp, lit]

/-- the client's header entries need only be free of CR LF -/
theorem head_wellformed_w (c : Cfg) (s : Sock) (body : Bytes)
    (hm : s.method ∈ eightCodes) (hh : HdrW s.reqHeaders) (hp : CR ∉ c.peerIP) :
    Http.parse (upstreamHead c s ++ body) =
      some { start := startLine c s, headers := fwdHeaders c s.reqHeaders, body := body } := by
  rw [upstreamHead_eq]
  exact Http.parse_render_w _ _ _ (startLine_ne_nil c s) (noCRLF_of_CR (startLine_CR c s hm))
    (hdrW_fwdHeaders c _ hh hp)

/-- **the head is one well-formed HTTP/1.1 request head**: the strict reader reads back the start
    line, the forwarded header map and whatever follows as the body -/
theorem head_wellformed (c : Cfg) (s : Sock) (body : Bytes)
    (hm : s.method ∈ eightCodes)
    (hh : C03L.HdrWf s.reqHeaders) (hp : CR ∉ c.peerIP) :
    Http.parse (upstreamHead c s ++ body) =
      some { start := startLine c s, headers := fwdHeaders c s.reqHeaders, body := body } :=
  head_wellformed_w c s body hm (hdrW_of_hdrWf hh) hp

theorem hdrW_insertLine {m : HeaderMap} {l : Bytes} (hm : HdrW m)
    (hl : Parser.hdrLineB l = true) (hc : ¬ CRLF <:+: l) : HdrW (Parser.insertLine m l) := by
  have hname := nameOk_insertLine (m := []) (l := l) (fun e he => by cases he) hl
  unfold Parser.insertLine at hname ⊢
  cases hb : breakOn [COLON] l with
  | none => exact hm
  | some p =>
    obtain ⟨n, x⟩ := p
    rw [hb] at hname
    have hsplit := breakOn_some hb
    have hn : n <:+: l := ⟨[], [COLON] ++ x, by rw [hsplit]; simp⟩
    have hx : x <:+: l := ⟨n ++ [COLON], [], by rw [hsplit]; simp⟩
    have h0 := hname (trim n, trim x) (by simp [HeaderMap.insert])
    exact hdrW_insert hm ⟨h0.1, h0.2, noCRLF_of_infix hc ((trim_infix n).trans hn),
      noCRLF_of_infix hc ((trim_infix x).trans hx)⟩

theorem hdrW_of_parseHeaderList {hs : List Bytes} {m0 m : HeaderMap}
    (h : Parser.parseHeaderList hs m0 = some m) (h0 : HdrW m0) (hl : ∀ l ∈ hs, ¬ CRLF <:+: l) :
    HdrW m := by
  rw [Parser.parseHeaderList_eq] at h
  split at h
  · rename_i hb
    cases h
    induction hs generalizing m0 with
    | nil => exact h0
    | cons l rest ih =>
      exact ih (hdrW_insertLine h0 (hb l (by simp)) (hl l (by simp)))
        (fun l' h' => hl l' (by simp [h'])) (fun l' h' => hb l' (by simp [h']))
  · cases h

/-- no side condition: blank names are refused, and header lines are cut at CR LF -/
theorem hdrW_of_parseRequestHeaders {head : Bytes} {rh : Parser.ReqHead}
    (h : Parser.parseRequestHeaders head [] = some rh) : HdrW rh.headers := by
  obtain ⟨p0, p2, hp, _, _⟩ := (Parser.parseRequestHeaders_eq_some_iff head [] rh).mp h
  obtain ⟨hs, _, _, _, hl, hpl, _⟩ := (Parser.parseHeaders_eq_some_iff _ _ _ _ _ _).1 hp
  exact hdrW_of_parseHeaderList hpl (fun e he => by cases he) hl

end Qhttp.ProxyL
