import Qhttp.Lemmas.ProxyUpSock
/-
  C12 — the relay invariant when the upstream server answers at any time: `new`, then client
  segments, event-loop turns and upstream payloads in any order.

  Between two events a run is in one of two phases.
  * `AliveU`: the socket invariant of the relay argument holds, the relay part holds (with whatever
    the upstream server wrote still waiting in `fromUp`), and the proxy's view of the answer
    (`upRead`, `fromUp`, `headersParsed`) is what `Proxy.upScan` reads off the event list.
  * `DeadU`: a complete response head that `Parser::parseResponseHeaders` refuses was delivered;
    the proxy answered 502, `writeError` closed the client's socket.  Nothing is read from the
    client any more; what reached the upstream server stays a prefix of the entitled body.
  One event in the forwarding phase: `astep_up`, `astep_sock`, `astep_turn`; in the closed phase:
  `dstep` (`dfold` over a list); either: `pstep_up`.  The final statement is `run_final_up`, from which
  `C12.holds_run`, `holds_run_all` and `body_in_order` follow.
-/
namespace Qhttp.ProxyL
open Qhttp Proxy Qhttp.C02

structure SockU (evs : List Event) (I : Bytes → Sock → Prop) : Prop where
  dc : ∀ {fed s}, I fed s → s.dcFlag = false
  wsame : ∀ {fed s s'}, I fed s → WSame s s' → I fed s'
  mark : ∀ {fed s} (k : Nat), I fed s → evs[k]? = some .turn → I fed { s with log := s.log ++ [Obs.ev k] }
  hdrIff : ∀ {fed s}, I fed s → (s.rs = .headers ↔ breakOn CRLF2 fed = none)

theorem sockU_len (evs : List Event) (head : Bytes) (N : Nat) (rh : Parser.ReqHead) :
    SockU evs (fun fed s => RInv evs head N fed s ∧ Extra rh s) where
  dc := by
    intro fed s h
    obtain ⟨a, hb, B, hm, _, _⟩ := h.1
    exact hm.dcFlag
  wsame := fun h w => ⟨RInv.wsame h.1 w, Extra.wsame h.2 w⟩
  mark := fun k h hk => ⟨RInv.mark h.1 k hk, Extra.mark h.2 k⟩
  hdrIff := fun h => RInv.hdrIff h.1

theorem sockU_nolen (evs : List Event) (head : Bytes) (rh : Parser.ReqHead) : SockU evs (NInv head rh) where
  dc := fun h => h.dcFlag
  wsame := fun h w => NInv.wsame h w
  mark := fun k h _ => h.snoc (Obs.ev k) rfl rfl
  hdrIff := fun h => NInv.hdrIff h

/-- the state without the payloads that wait for the next turn -/
def clr (st : St) : St := { st with fromUp := [] }

theorem routed_clr (hpB : Nat) (st : St) (s1 : Sock) : routed hpB (clr st) s1 = clr (routed hpB st s1) := by
  rw [routed_eq, routed_eq]
  rfl

theorem connectFlush_clr (c : Cfg) (st : St) : connectFlush c (clr st) = clr (connectFlush c st) := by
  unfold connectFlush clr
  simp only []
  split <;> split <;> rfl

theorem Relay.transfer {c : Cfg} {rh : Parser.ReqHead} {st st' : St} (h : Relay c rh st)
    (e1 : st'.seenRd = st.seenRd) (e2 : st'.fromUp = st.fromUp) (e3 : st'.upClosing = st.upClosing)
    (e4 : st'.conn = st.conn) (e5 : st'.buf = st.buf) (e6 : st'.toUp = st.toUp)
    (e7 : st'.headersWritten = st.headersWritten) (e8 : st'.sock.rs = st.sock.rs)
    (l1 : rdsOf st'.sock.log = rdsOf st.sock.log) (l2 : upBytes st'.sock.log = upBytes st.sock.log)
    (l3 : Obs.reads st'.sock.log = Obs.reads st.sock.log) : Relay c rh st' := by
  obtain ⟨seen, hfu, huc, hcn, hnone, hcing, hced, hncl⟩ := h
  refine ⟨by rw [e1, l1]; exact seen, e2.trans hfu, e3.trans huc, by rw [e4, e8]; exact hcn, ?_, ?_, ?_,
    by rw [e4]; exact hncl⟩
  · intro hh
    obtain ⟨a, b, c', d⟩ := hnone (e4.symm.trans hh)
    exact ⟨e5.trans a, e6.trans b, e7.trans c', l2.trans d⟩
  · intro hh
    obtain ⟨a, b, c', d⟩ := hcing (e4.symm.trans hh)
    exact ⟨e6.trans a, e7.trans b, l2.trans c', by rw [e5, l3]; exact d⟩
  · intro hh
    obtain ⟨a, b, d, c1, c2⟩ := hced (e4.symm.trans hh)
    exact ⟨e5.trans a, e7.trans b, d, l2.trans c1, by rw [e6, l3]; exact c2⟩

/-- a complete response head lies within `got`; `ok`: `Parser::parseResponseHeaders` accepts it -/
def HeadSeen (got : Bytes) (ok : Bool) : Prop :=
  ∃ p h r, p <+: got ∧ breakOn CRLF2 p = some (h, r) ∧ (Parser.parseResponseHeaders h).isSome = ok

theorem HeadSeen.mono {got got' : Bytes} {ok : Bool} (h : HeadSeen got ok) (hp : got <+: got') :
    HeadSeen got' ok := by
  obtain ⟨p, hd, r, h1, h2, h3⟩ := h
  exact ⟨p, hd, r, h1.trans hp, h2, h3⟩

theorem HeadSeen.decides {got : Bytes} {ok : Bool} (h : HeadSeen got ok) :
    (match breakOn CRLF2 got with
     | none => true
     | some (hd, _) => (Parser.parseResponseHeaders hd).isSome) = ok := by
  obtain ⟨p, hd, r, h1, h2, h3⟩ := h
  obtain ⟨t, _, ht⟩ := C02L.breakOn_prefix CRLF2 p got hd r h1 h2
  rw [ht]; exact h3

structure UpLink (u : UpScan) (st : St) : Prop where
  conn : u.conn = true ↔ st.conn = .connected
  pend : st.conn ≠ .connected → st.fromUp = []
  acc : st.headersParsed = false → st.upRead ++ st.fromUp.flatten = u.got ∧ breakOn CRLF2 st.upRead = none
  ok : st.headersParsed = true → HeadSeen u.got true

structure AliveU (I : Bytes → Sock → Prop) (c : Cfg) (rh : Parser.ReqHead) (n : Nat) (fed : Bytes)
    (u : UpScan) (st : St) : Prop where
  inv : I fed st.sock
  relay : Relay c rh (clr st)
  nev : countEv st.sock.log = n
  ufed : u.fed = fed
  link : UpLink u st

/-- after the 502: the client's socket is closed, what was forwarded stays -/
structure DeadU (c : Cfg) (rh : Parser.ReqHead) (ent : Bytes) (got : Bytes) (st : St) : Prop where
  closed : ClosedS st.sock
  conn : st.conn = .connected
  hw : st.headersWritten = true
  buf : st.buf = []
  upClosing : st.upClosing = false
  seen : st.seenRd = (rdsOf st.sock.log).length
  up : ∃ d, upBytes st.sock.log = upstreamHead c (reqSock rh) ++ d ∧ d ++ st.toUp = Obs.reads st.sock.log
  pre : Obs.reads st.sock.log <+: ent
  bad : HeadSeen got false

theorem DeadU.of_drel {c : Cfg} {rh : Parser.ReqHead} {ent got : Bytes} {st st' : St}
    (h : DeadU c rh ent got st) (d : DRel st.sock st'.sock)
    (e1 : st'.conn = st.conn) (e2 : st'.headersWritten = st.headersWritten) (e3 : st'.buf = st.buf)
    (e4 : st'.upClosing = st.upClosing) (e5 : st'.seenRd = st.seenRd) (e6 : st'.toUp = st.toUp) :
    DeadU c rh ent got st' := by
  obtain ⟨l1, l2, l3⟩ := d.logs
  obtain ⟨x, u1, u2⟩ := h.up
  exact ⟨d.closed h.closed, e1.trans h.conn, e2.trans h.hw, e3.trans h.buf, e4.trans h.upClosing,
    by rw [e5, l1]; exact h.seen, ⟨x, l2.trans u1, by rw [e6, l3]; exact u2⟩, by rw [l3]; exact h.pre, h.bad⟩

theorem DeadU.mono {c : Cfg} {rh : Parser.ReqHead} {ent got got' : Bytes} {st : St}
    (h : DeadU c rh ent got st) (hp : got <+: got') : DeadU c rh ent got' st :=
  ⟨h.closed, h.conn, h.hw, h.buf, h.upClosing, h.seen, h.up, h.pre, h.bad.mono hp⟩

/-- the four calls that relay a response head: `setStatusCode; setHeaders; writeHeaders; write` -/
def relayedSock (env : Env) (s : Sock) (code : Int) (reason : Bytes) (hs : HeaderMap) (rest : Bytes) : Sock :=
  let s := Sock.api env Proxy.app s (.status code (some reason))
  let s := if s.alive then { s with respHeaders := hs } else s
  let s := Sock.api env Proxy.app s .wh
  Sock.api env Proxy.app s (.write rest)

/-- `onUpstreamReadyRead` (`ourr_` in lemma names) by cases -/
theorem ourr_eq (env : Env) (st : St) (chunk : Bytes) :
    onUpstreamReadyRead env st chunk =
      if st.headersParsed then { st with sock := Sock.api env Proxy.app st.sock (.write chunk) } else
      match breakOn CRLF2 (st.upRead ++ chunk) with
      | none => { st with upRead := st.upRead ++ chunk }
      | some (head, rest) =>
        match Parser.parseResponseHeaders head with
        | none => { st with upRead := st.upRead ++ chunk, sock := Sock.api env Proxy.app st.sock (.err 502 none) }
        | some (code, reason, hs) =>
          { st with sock := relayedSock env st.sock code reason hs rest, headersParsed := true, upRead := [] } := rfl

theorem relayedSock_wsame (env : Env) (s : Sock) (code : Int) (reason : Bytes) (hs : HeaderMap) (rest : Bytes)
    (hdc : s.dcFlag = false) : WSame s (relayedSock env s code reason hs rest) := by
  unfold relayedSock
  simp only []
  have w1 := api_status_wsame env s code (some reason) hdc
  have w2 : WSame (Sock.api env Proxy.app s (.status code (some reason)))
      (if (Sock.api env Proxy.app s (.status code (some reason))).alive then
        { Sock.api env Proxy.app s (.status code (some reason)) with respHeaders := hs }
       else Sock.api env Proxy.app s (.status code (some reason))) := by
    split
    · exact respHeaders_wsame _ hs
    · exact WSame.refl _
  have w12 := w1.trans w2
  have w3 := api_wh_wsame env _ (w12.dcFlag.trans hdc)
  have w123 := w12.trans w3
  exact w123.trans (api_write_wsame env _ rest (w123.dcFlag.trans hdc))

theorem relayedSock_drel (env : Env) (s : Sock) (code : Int) (reason : Bytes) (hs : HeaderMap) (rest : Bytes) :
    DRel s (relayedSock env s code reason hs rest) := by
  unfold relayedSock
  simp only []
  have w1 := api_status_drel env s code (some reason)
  have w2 : DRel (Sock.api env Proxy.app s (.status code (some reason)))
      (if (Sock.api env Proxy.app s (.status code (some reason))).alive then
        { Sock.api env Proxy.app s (.status code (some reason)) with respHeaders := hs }
       else Sock.api env Proxy.app s (.status code (some reason))) := by
    split
    · exact (respHeaders_wsame _ hs).drel
    · exact DRel.refl _
  exact ((w1.trans w2).trans (api_wh_drel env _)).trans (api_write_drel env _ rest)

theorem ourr_dead (env : Env) {c : Cfg} {rh : Parser.ReqHead} {ent got : Bytes} {st : St}
    (h : DeadU c rh ent got st) (chunk : Bytes) : DeadU c rh ent got (onUpstreamReadyRead env st chunk) := by
  rw [ourr_eq]
  split
  · exact h.of_drel (api_write_drel env _ chunk) rfl rfl rfl rfl rfl rfl
  · split
    · exact h.of_drel (DRel.refl _) rfl rfl rfl rfl rfl rfl
    · split
      · exact h.of_drel (api_err_drel env _ 502 none) rfl rfl rfl rfl rfl rfl
      · exact h.of_drel (relayedSock_drel env _ _ _ _ _) rfl rfl rfl rfl rfl rfl

theorem deliver_dead (env : Env) {c : Cfg} {rh : Parser.ReqHead} {ent got : Bytes} (cs : List Bytes) :
    ∀ {st : St}, DeadU c rh ent got st → DeadU c rh ent got (deliverAll env cs st) := by
  induction cs with
  | nil => intro st h; exact h
  | cons ch cs ih => intro st h; exact ih (ourr_dead env h ch)

/-- the part of the forwarding phase `deliverAll` works on: connected, nothing waiting -/
structure ACore (I : Bytes → Sock → Prop) (c : Cfg) (rh : Parser.ReqHead) (n : Nat) (fed : Bytes)
    (st : St) : Prop where
  inv : I fed st.sock
  relay : Relay c rh st
  nev : countEv st.sock.log = n
  conn : st.conn = .connected

section deliver
variable {env : Env} {evs : List Event} {fedF : Bytes} {rh : Parser.ReqHead} {ent : Bytes}
  {I : Bytes → Sock → Prop}

theorem ACore.step_w (hU : SockU evs I) {c : Cfg} {n : Nat} {fed : Bytes} {st : St}
    (h : ACore I c rh n fed st) {s' : Sock} (w : WSame st.sock s') (hp' : Bool) (ur' : Bytes) :
    ACore I c rh n fed { st with sock := s', headersParsed := hp', upRead := ur' } :=
  ⟨hU.wsame h.inv w, h.relay.transfer rfl rfl rfl rfl rfl rfl rfl w.rs w.logs.1 w.logs.2.1 w.logs.2.2.2.1,
    by show countEv s'.log = n; rw [w.logs.2.2.1]; exact h.nev, h.conn⟩

theorem ACore.dead (hI : SockI env evs fedF rh ent I) {c : Cfg} {n : Nat} {fed : Bytes} {st : St}
    (h : ACore I c rh n fed st) (hpre : fed <+: fedF) {got : Bytes} (hbad : HeadSeen got false) (ur : Bytes) :
    DeadU c rh ent got { st with upRead := ur, sock := Sock.api env Proxy.app st.sock (.err 502 none) } := by
  have d := api_err_drel env st.sock 502 none
  obtain ⟨l1, l2, l3⟩ := d.logs
  obtain ⟨b1, b2, x, b3, b4⟩ := h.relay.connected h.conn
  refine ⟨api_err_closed env st.sock 502 none (hI.flags h.inv).1, h.conn, b2, b1, h.relay.upClosing, ?_,
    ⟨x, l2.trans b3, ?_⟩, ?_, hbad⟩
  · show st.seenRd = (rdsOf (Sock.api env Proxy.app st.sock (.err 502 none)).log).length
    rw [l1]; exact h.relay.seen
  · show x ++ st.toUp = Obs.reads (Sock.api env Proxy.app st.sock (.err 502 none)).log
    rw [l3]; exact b4
  · show Obs.reads (Sock.api env Proxy.app st.sock (.err 502 none)).log <+: ent
    rw [l3]; exact hI.readsPre h.inv hpre

def DelOut (I : Bytes → Sock → Prop) (c : Cfg) (rh : Parser.ReqHead) (ent : Bytes) (n : Nat) (fed got toUp0 : Bytes)
    (st' : St) : Prop :=
  (ACore I c rh n fed st' ∧ st'.toUp = toUp0 ∧
    (st'.headersParsed = false → st'.upRead = got ∧ breakOn CRLF2 st'.upRead = none) ∧
    (st'.headersParsed = true → HeadSeen got true)) ∨
  DeadU c rh ent got st'

/-- every chunking of the answer: either the forwarding phase goes on (nothing of the request side
    changed, `toUp` untouched) and accumulator / `headersParsed` are what the bytes sent so far
    determine, or one chunk completed a head the parser refuses and the run is in the closed phase -/
theorem deliver_alive (hI : SockI env evs fedF rh ent I) (hU : SockU evs I) (c : Cfg) (n : Nat) (fed : Bytes)
    (hpre : fed <+: fedF) (got : Bytes) (cs : List Bytes) : ∀ (st : St), ACore I c rh n fed st →
    (st.headersParsed = false → st.upRead ++ cs.flatten = got ∧ breakOn CRLF2 st.upRead = none) →
    (st.headersParsed = true → HeadSeen got true) →
    DelOut I c rh ent n fed got st.toUp (deliverAll env cs st) := by
  induction cs with
  | nil =>
    intro st h h1 h2
    refine Or.inl ⟨h, rfl, fun hp => ?_, h2⟩
    have := h1 hp
    simp only [List.flatten_nil, List.append_nil] at this
    exact this
  | cons ch cs ih =>
    intro st h h1 h2
    show DelOut I c rh ent n fed got st.toUp (deliverAll env cs (onUpstreamReadyRead env st ch))
    have hdc := hU.dc h.inv
    rw [ourr_eq]
    by_cases hp : st.headersParsed = true
    · -- the head was relayed before: the chunk is passed on
      rw [if_pos hp]
      have w := api_write_wsame env st.sock ch hdc
      have hA := h.step_w hU w st.headersParsed st.upRead
      exact ih _ hA (fun hh => absurd hp (by rw [show st.headersParsed = false from hh]; simp)) (fun _ => h2 hp)
    · have hp' : st.headersParsed = false := by simpa using hp
      rw [if_neg hp]
      obtain ⟨a1, a2⟩ := h1 hp'
      have hgot : (st.upRead ++ ch) ++ cs.flatten = got := by
        rw [← a1]; simp
      cases hb : breakOn CRLF2 (st.upRead ++ ch) with
      | none =>
        simp only []
        have hA : ACore I c rh n fed { st with upRead := st.upRead ++ ch } :=
          ⟨h.inv, h.relay.transfer rfl rfl rfl rfl rfl rfl rfl rfl rfl rfl rfl, h.nev, h.conn⟩
        exact ih _ hA (fun _ => ⟨hgot, hb⟩) (fun hh => absurd hp' (by rw [show st.headersParsed = true from hh]; simp))
      | some pr =>
        obtain ⟨hd, rest⟩ := pr
        simp only []
        have hseen : ∀ ok, (Parser.parseResponseHeaders hd).isSome = ok → HeadSeen got ok :=
          fun ok hk => ⟨st.upRead ++ ch, hd, rest, ⟨cs.flatten, hgot⟩, hb, hk⟩
        cases hpr : Parser.parseResponseHeaders hd with
        | none =>
          simp only []
          exact Or.inr (deliver_dead env cs (h.dead hI hpre (hseen false (by rw [hpr]; rfl)) _))
        | some tr =>
          obtain ⟨code, reason, hs⟩ := tr
          simp only []
          have w := relayedSock_wsame env st.sock code reason hs rest hdc
          have hA := h.step_w hU w true []
          have hok := hseen true (by rw [hpr]; rfl)
          exact ih _ hA (fun hh => by cases hh) (fun _ => hok)

end deliver

theorem upScanStep_fed (u : UpScan) (e : PEv) (he : relayPEvU e = true) :
    (upScanStep u e).fed = u.fed ++ evBytesOf (proj e) := by
  cases e with
  | sock ev => cases ev <;> simp [relayPEvU, relayPEv] at he <;> simp [upScanStep, proj, evBytesOf]
  | turn => simp [upScanStep, proj, evBytesOf]
  | up b =>
    simp only [upScanStep, proj, evBytesOf, List.append_nil]
    split <;> rfl
  | upClose => simp [relayPEvU, relayPEv] at he

theorem upScanStep_sock (u : UpScan) (ev : Event) :
    (upScanStep u (.sock ev)).conn = u.conn ∧ (upScanStep u (.sock ev)).got = u.got := by
  cases ev <;> exact ⟨rfl, rfl⟩

theorem upScanStep_got (u : UpScan) (e : PEv) : u.got <+: (upScanStep u e).got := by
  cases e with
  | sock ev => rw [(upScanStep_sock u ev).2]; exact List.prefix_refl _
  | turn => exact List.prefix_refl _
  | up b =>
    simp only [upScanStep]
    split
    · exact List.prefix_append _ _
    · exact List.prefix_refl _
  | upClose => exact List.prefix_refl _

theorem routed_dead (hpB : Nat) (st : St) (s1 : Sock) (h1 : st.conn = .connected) (h2 : st.headersWritten = true)
    (h3 : st.seenRd = (rdsOf st.sock.log).length) (h4 : rdsOf s1.log = rdsOf st.sock.log) :
    routed hpB st s1 = { st with sock := s1 } := by
  obtain ⟨sock, conn, buf, hw, hpd, upRead, toUp, fromUp, upClosing, errored, seenRd⟩ := st
  simp only at h1 h2 h3 h4
  subst h1 h2 h3
  simp [routed, relayReads, afterRoute, h4]

theorem marker_drel (st : St) : DRel st.sock (marker st).sock := by
  rw [marker_def]; split
  · exact DRel.one _ _ rfl
  · exact DRel.refl _

theorem flush_dead (env : Env) {c : Cfg} {rh : Parser.ReqHead} {ent got : Bytes} {st : St}
    (h : DeadU c rh ent got st) : DeadU c rh ent got (connectFlushR env c st) := by
  obtain ⟨hcl, hcn, hhw, hbuf, huc, hseen, ⟨d, u1, u2⟩, hpre, hbad⟩ := h
  obtain ⟨s', e, _, r1, r2, l1, l2, l3⟩ := flush_connected c hcn
  rw [connectFlushR_connected env c hcn, e]
  exact ⟨⟨r1.trans hcl.1, r2.trans hcl.2⟩, hcn, hhw, hbuf, huc, hseen.trans (congrArg List.length l1.symm),
    ⟨d ++ st.toUp, l2.trans (by rw [u1, List.append_assoc]), (List.append_nil _).trans (u2.trans l3.symm)⟩,
    l3 ▸ hpre, hbad⟩

theorem closePhase_id (env : Env) (st : St) (h : st.upClosing = false) : closePhase env st = st := by
  unfold closePhase
  rw [if_neg (by simp [h])]

theorem tail_dead (env : Env) {c : Cfg} {rh : Parser.ReqHead} {ent got : Bytes} {st : St}
    (h : DeadU c rh ent got st) : DeadU c rh ent got (delPhase (closePhase env st)) := by
  rw [closePhase_id env st h.upClosing]
  exact h.of_drel (del_drel st.sock) rfl rfl rfl rfl rfl rfl

theorem deliverPhase_dead (env : Env) {c : Cfg} {rh : Parser.ReqHead} {ent got : Bytes} {st : St}
    (h : DeadU c rh ent got st) : DeadU c rh ent got (deliverPhase env st) := by
  unfold deliverPhase
  rw [if_pos (by simp [h.conn])]
  exact deliver_dead env _ (h.of_drel (st' := { st with fromUp := [] }) (DRel.refl _) rfl rfl rfl rfl rfl rfl)

/-- the closed phase is stable: nothing more is read from the client, nothing more goes upstream
    than what was in flight -/
theorem dstep (env : Env) (c : Cfg) {rh : Parser.ReqHead} {ent : Bytes} (u : UpScan) (e : PEv)
    (he : relayPEvU e = true) {st : St} (h : DeadU c rh ent u.got st) :
    DeadU c rh ent (upScanStep u e).got (step env c st e) := by
  refine DeadU.mono ?_ (upScanStep_got u e)
  cases e with
  | upClose => simp [relayPEvU, relayPEv] at he
  | up b =>
    rw [step_up_eq]
    split
    · exact h.of_drel (marker_drel st) rfl rfl rfl rfl rfl rfl
    · exact h.of_drel (marker_drel st) rfl rfl rfl rfl rfl rfl
  | sock ev =>
    show DeadU c rh ent u.got (sockEvent env st ev)
    rw [sockEvent_eq]
    obtain ⟨d1, _⟩ := stepK_closed env st.sock (countEv st.sock.log) ev (relaySock_projU (e := .sock ev) he) h.closed
    rw [routed_dead _ st _ h.conn h.hw h.seen d1.logs.1]
    exact h.of_drel d1 rfl rfl rfl rfl rfl rfl
  | turn =>
    show DeadU c rh ent u.got (turn env c st)
    rw [turn_eq0]
    split
    · exact h
    · have d1 := turnSock_closed env st.sock (countEv st.sock.log) h.closed
      rw [routed_dead _ st _ h.conn h.hw h.seen d1.logs.1]
      have h1 : DeadU c rh ent u.got { st with sock := turnSock env st.sock (countEv st.sock.log) } :=
        h.of_drel d1 rfl rfl rfl rfl rfl rfl
      exact tail_dead env (deliverPhase_dead env (flush_dead env h1))

section alive
variable {env : Env} {evs : List Event} {fedF : Bytes} {rh : Parser.ReqHead} {ent : Bytes}
  {I : Bytes → Sock → Prop}

/-- the payload waits for the next turn (or is lost when there is no connection yet) -/
theorem astep_up (hU : SockU evs I) (c : Cfg) (n : Nat) (fed : Bytes) (u : UpScan) (b : Bytes)
    (hk : evs[n]? = some .turn) (ha : ∀ {fed s}, I fed s → s.alive = true) {st : St}
    (h : AliveU I c rh n fed u st) :
    AliveU I c rh (n + 1) fed (upScanStep u (.up b)) (step env c st (.up b)) ∧
    (step env c st (.up b)).conn = st.conn ∧ (step env c st (.up b)).toUp = st.toUp := by
  obtain ⟨hR, hP, hn, hf, hL⟩ := h
  have hm := marker_alive st (ha hR)
  have hsk : (marker st).sock = { st.sock with log := st.sock.log ++ [Obs.ev n] } := by rw [hm, hn]
  have hR1 : I fed (marker st).sock := by rw [hsk]; exact hU.mark n hR hk
  have l1 : rdsOf (marker st).sock.log = rdsOf st.sock.log := by
    rw [hsk]; show rdsOf (st.sock.log ++ [Obs.ev n]) = _; rw [rdsOf_append]; simp [rdsOf]
  have l2 : upBytes (marker st).sock.log = upBytes st.sock.log := by
    rw [hsk]; show upBytes (st.sock.log ++ [Obs.ev n]) = _; rw [upBytes_append]; simp [upBytes]
  have l3 : Obs.reads (marker st).sock.log = Obs.reads st.sock.log := by
    rw [hsk]; show Obs.reads (st.sock.log ++ [Obs.ev n]) = _; rw [Obs.reads_append]; simp [Obs.reads]
  have l4 : countEv (marker st).sock.log = n + 1 := by
    rw [hsk]; show countEv (st.sock.log ++ [Obs.ev n]) = _; rw [countEv_append, hn]; rfl
  have hrs : (marker st).sock.rs = st.sock.rs := by rw [hsk]
  rw [step_up_eq]
  by_cases hc : st.conn = .connected
  · rw [if_pos hc]
    have hu : u.conn = true := hL.conn.mpr hc
    have hu' : upScanStep u (.up b) = { u with got := u.got ++ b } := by simp [upScanStep, hu]
    rw [hu']
    refine ⟨⟨hR1, hP.transfer rfl rfl rfl rfl rfl rfl rfl hrs l1 l2 l3, l4, hf,
      ⟨⟨fun _ => hc, fun _ => hu⟩, fun h' => absurd hc h', fun hp => ?_, fun hp => (hL.ok hp).mono (List.prefix_append _ _)⟩⟩,
      rfl, rfl⟩
    obtain ⟨a1, a2⟩ := hL.acc hp
    refine ⟨?_, a2⟩
    show st.upRead ++ (st.fromUp ++ [b]).flatten = u.got ++ b
    rw [← a1]; simp
  · rw [if_neg hc]
    have hu : u.conn = false := by
      cases hh : u.conn with
      | false => rfl
      | true => exact absurd (hL.conn.mp hh) hc
    have hu' : upScanStep u (.up b) = u := by simp [upScanStep, hu]
    rw [hu']
    exact ⟨⟨hR1, hP.transfer rfl rfl rfl rfl rfl rfl rfl hrs l1 l2 l3, l4, hf,
      ⟨hL.conn, hL.pend, hL.acc, hL.ok⟩⟩, rfl, rfl⟩

theorem step_sock_clr (c : Cfg) (st : St) (ev : Event) :
    step env c (clr st) (.sock ev) = clr (step env c st (.sock ev)) := by
  show sockEvent env (clr st) ev = clr (sockEvent env st ev)
  rw [sockEvent_eq, sockEvent_eq]
  exact routed_clr _ st _

theorem flushed_clr (c : Cfg) (st : St) (n : Nat) : flushed env c (clr st) n = clr (flushed env c st n) := by
  show connectFlush c (routed _ (clr st) _) = _
  rw [routed_clr, connectFlush_clr]
  rfl

theorem astep_sock (hI : SockI env evs fedF rh ent I) (c : Cfg) (n : Nat) (fed : Bytes) (u : UpScan) (ev : Event)
    (he : relayPEvU (.sock ev) = true) (hk : evs[n]? = some ev) (hpre : (fed ++ evBytesOf ev) <+: fedF) {st : St}
    (h : AliveU I c rh n fed u st) :
    AliveU I c rh (n + 1) (fed ++ evBytesOf ev) (upScanStep u (.sock ev)) (step env c st (.sock ev)) := by
  obtain ⟨hR, hP, hn, hf, hL⟩ := h
  obtain ⟨i1, i2, i3⟩ := sock_gen hI c fed ev (relaySock_projU (e := .sock ev) he) n hk hpre (st := clr st) ⟨hR, hP, hn⟩
  have k1 : ∀ x : St, (clr x).sock = x.sock := fun _ => rfl
  rw [step_sock_clr] at i1 i2 i3
  rw [k1] at i1 i3
  obtain ⟨f1, f2, f3, f4, f5⟩ := routed_frame (Obs.countP Obs.isHp st.sock.log) st
    (Sock.stepK env Proxy.app (st.sock, countEv st.sock.log) ev).1
  rw [← sockEvent_eq] at f1 f2 f3 f4 f5
  obtain ⟨s1, s2⟩ := upScanStep_sock u ev
  show AliveU _ _ _ _ _ _ (sockEvent env st ev)
  refine ⟨i1, i2, i3, ?_, ⟨?_, ?_, ?_, ?_⟩⟩
  · rw [upScanStep_fed u _ he, hf]; rfl
  · rw [s1, f5]; exact hL.conn
  · intro hc; rw [f1]; exact hL.pend (fun h' => hc (f5.mpr h'))
  · intro hp; rw [f4, f1, s2]; exact hL.acc (f3.symm.trans hp)
  · intro hp; rw [s2]; exact hL.ok (f3.symm.trans hp)

theorem turn_pre (hI : SockI env evs fedF rh ent I) (c : Cfg) (hc : c.refuse = false) (n : Nat) (fed : Bytes)
    (u : UpScan) (hk : evs[n]? = some .turn) (hpre : fed <+: fedF) {st : St} (h : AliveU I c rh n fed u st) :
    I fed (flushed env c st n).sock ∧ countEv (flushed env c st n).sock.log = n + 1 ∧
    Relay c rh (clr (flushed env c st n)) ∧
    (st.sock.rs ≠ .headers → (flushed env c st n).conn = .connected ∧ (flushed env c st n).toUp = []) ∧
    step env c st .turn = delPhase (closePhase env (deliverPhase env (flushed env c st n))) ∧
    (flushed env c st n).fromUp = st.fromUp ∧ (flushed env c st n).headersParsed = st.headersParsed ∧
    (flushed env c st n).upRead = st.upRead ∧
    (st.conn = .connected → (flushed env c st n).conn = .connected) ∧
    (flushed env c st n).conn ≠ .connecting := by
  obtain ⟨hR, hP, hn, hf, hL⟩ := h
  obtain ⟨⟨i1, i2, i3⟩, hup⟩ := flushed_gen hI c fed n hk hpre (st := clr st) ⟨hR, hP, hn⟩
  rw [flushed_clr] at i1 i2 i3 hup
  -- `clr` does not touch the socket, the connection state or `toUp` (said by rewriting: unfolding
  -- `flushed` to see it is slow)
  have k1 : ∀ x : St, (clr x).sock = x.sock := fun _ => rfl
  have k2 : ∀ x : St, (clr x).conn = x.conn := fun _ => rfl
  have k3 : ∀ x : St, (clr x).toUp = x.toUp := fun _ => rfl
  rw [k1] at i1 i3
  rw [k1, k2, k3] at hup
  obtain ⟨r1, r2, r3, r4, r5⟩ := routed_frame (Obs.countP Obs.isHp st.sock.log) st (turnSock env st.sock n)
  obtain ⟨g1, g2, g3, g4, g5, g6⟩ := connectFlush_frame c (routed (Obs.countP Obs.isHp st.sock.log) st (turnSock env st.sock n))
  refine ⟨i1, i3, i2, hup, ?_, g1.trans r1, g3.trans r3, g4.trans r4, fun h' => g5 (r5.mpr h'), g6⟩
  show turn env c st = _
  rw [turn_eq0, if_neg (by simp [(hI.flags hR).1]), connectFlushR_eq env c _ hc, hn]
  rfl

theorem delPhase_id (st : St) (h : st.sock.delPending = false) : delPhase st = st := by
  unfold delPhase
  rw [if_neg (by simp [h])]

theorem deliverPhase_conn (env : Env) (st : St) (h : st.conn = .connected) :
    deliverPhase env st = deliverAll env st.fromUp (clr st) := by
  unfold deliverPhase
  rw [if_pos (by simp [h])]
  rfl

theorem deliverPhase_nconn (env : Env) (st : St) (h : st.conn ≠ .connected) : deliverPhase env st = st := by
  unfold deliverPhase
  rw [if_neg (by simpa using h)]

/-- one turn with payloads of the upstream server waiting: client side and connection as if the
    upstream server were silent (`turn_pre`), then the payloads are delivered; a refused response
    head ends the forwarding phase -/
theorem astep_turn (hI : SockI env evs fedF rh ent I) (hU : SockU evs I) (c : Cfg) (hc : c.refuse = false)
    (n : Nat) (fed : Bytes) (u : UpScan) (hk : evs[n]? = some .turn) (hpre : fed <+: fedF) {st : St}
    (h : AliveU I c rh n fed u st) :
    (AliveU I c rh (n + 1) fed (upScanStep u .turn) (step env c st .turn) ∧
      (st.sock.rs ≠ .headers → (step env c st .turn).conn = .connected ∧ (step env c st .turn).toUp = [])) ∨
    DeadU c rh ent (upScanStep u .turn).got (step env c st .turn) := by
  obtain ⟨p1, p2, p3, p4, p5, p6, p7, p8, p9, p10⟩ := turn_pre hI c hc n fed u hk hpre h
  obtain ⟨hR, hP, hn, hf, hL⟩ := h
  rw [p5]
  generalize flushed env c st n = st2 at p1 p2 p3 p4 p6 p7 p8 p9 p10 ⊢
  have hiff := hU.hdrIff p1
  have hconn2 : st2.conn = .connected ↔ breakOn CRLF2 fed ≠ none := by
    constructor
    · intro hc2 hb
      have : st2.conn = .none := p3.connNone.mpr (hiff.mpr hb)
      rw [hc2] at this; cases this
    · intro hb
      have hne : st2.conn ≠ .none := fun h' => hb (hiff.mp (p3.connNone.mp h'))
      cases hcc : st2.conn with
      | none => exact absurd hcc hne
      | connecting => exact absurd hcc p10
      | connected => rfl
      | closed => exact absurd hcc p3.notClosed
  have hu' : (upScanStep u .turn).conn = true ↔ breakOn CRLF2 fed ≠ none := by
    show (u.conn || (breakOn CRLF2 u.fed).isSome) = true ↔ _
    rw [hf, Bool.or_eq_true]
    constructor
    · rintro (h1 | h1)
      · intro hb
        have hc0 : st.conn = .connected := hL.conn.mp h1
        have : st.conn = .none := hP.connNone.mpr ((hU.hdrIff hR).mpr hb)
        rw [hc0] at this; cases this
      · intro hb; rw [hb] at h1; cases h1
    · intro hb
      right
      cases hbb : breakOn CRLF2 fed with
      | none => exact absurd hbb hb
      | some x => rfl
  by_cases hc2 : st2.conn = .connected
  · rw [deliverPhase_conn env st2 hc2]
    have hA : ACore I c rh (n + 1) fed (clr st2) := ⟨p1, p3, p2, hc2⟩
    have hD := deliver_alive hI hU c (n + 1) fed hpre u.got st2.fromUp (clr st2) hA
      (fun hp => by
        show st2.upRead ++ st2.fromUp.flatten = u.got ∧ breakOn CRLF2 st2.upRead = none
        rw [p6, p8]; exact hL.acc (p7.symm.trans hp))
      (fun hp => hL.ok (p7.symm.trans hp))
    generalize deliverAll env st2.fromUp (clr st2) = st3 at hD ⊢
    rcases hD with ⟨a1, a2, a3, a4⟩ | hdead
    · rw [closePhase_id env st3 a1.relay.upClosing, delPhase_id st3 (hI.flags a1.inv).2]
      left
      refine ⟨⟨a1.inv, a1.relay.transfer (st' := clr st3) rfl a1.relay.fromUp.symm rfl rfl rfl rfl rfl rfl rfl rfl rfl,
        a1.nev, hf, ⟨⟨fun _ => a1.conn, fun _ => hu'.mpr (hconn2.mp hc2)⟩, fun h' => absurd a1.conn h', fun hp => ?_, a4⟩⟩,
        fun hne => ⟨a1.conn, a2.trans (p4 hne).2⟩⟩
      obtain ⟨b1, b2⟩ := a3 hp
      refine ⟨?_, b2⟩
      show st3.upRead ++ st3.fromUp.flatten = u.got
      rw [a1.relay.fromUp]
      simpa using b1
    · right
      exact tail_dead env hdead
  · rw [deliverPhase_nconn env st2 hc2, closePhase_id env st2 p3.upClosing, delPhase_id st2 (hI.flags p1).2]
    left
    refine ⟨⟨p1, p3, p2, hf, ⟨hu'.trans hconn2.symm, fun _ => p6.trans (hL.pend (fun h' => hc2 (p9 h'))),
      fun hp => ?_, fun hp => hL.ok (p7.symm.trans hp)⟩⟩, fun hne => absurd (p4 hne).1 hc2⟩
    rw [p8, p6]; exact hL.acc (p7.symm.trans hp)

end alive

/-- between two events of a run: forwarding, or closed after a refused response head -/
def PU (I : Bytes → Sock → Prop) (c : Cfg) (rh : Parser.ReqHead) (ent : Bytes) (n : Nat) (fed : Bytes)
    (u : UpScan) (st : St) : Prop :=
  AliveU I c rh n fed u st ∨ DeadU c rh ent u.got st

section runs
variable {env : Env} {evs : List Event} {fedF : Bytes} {rh : Parser.ReqHead} {ent : Bytes}
  {I : Bytes → Sock → Prop}

theorem pstep_up (hI : SockI env evs fedF rh ent I) (hU : SockU evs I) (c : Cfg) (hc : c.refuse = false)
    (fed : Bytes) (u : UpScan) (e : PEv) (he : relayPEvU e = true) (n : Nat) (hk : evs[n]? = some (proj e))
    (hpre : (fed ++ evBytesOf (proj e)) <+: fedF) {st : St} (h : PU I c rh ent n fed u st) :
    PU I c rh ent (n + 1) (fed ++ evBytesOf (proj e)) (upScanStep u e) (step env c st e) := by
  rcases h with h | h
  · cases e with
    | upClose => simp [relayPEvU, relayPEv] at he
    | sock ev => exact Or.inl (astep_sock hI c n fed u ev he hk hpre h)
    | turn =>
      simp only [proj, evBytesOf, List.append_nil] at hpre ⊢
      rcases astep_turn hI hU c hc n fed u hk hpre h with ⟨a, _⟩ | d
      · exact Or.inl a
      · exact Or.inr d
    | up b =>
      simp only [proj, evBytesOf, List.append_nil] at hpre ⊢
      exact Or.inl (astep_up hU c n fed u b hk (fun h' => (hI.flags h').1) h).1
  · exact Or.inr (dstep env c u e he h)

theorem PU_init (hI : SockI env evs fedF rh ent I) (c : Cfg) : PU I c rh ent 0 [] ({} : UpScan) ({} : St) := by
  refine Or.inl ⟨hI.init, ?_, rfl, rfl, ⟨?_, fun _ => rfl, fun _ => ⟨rfl, by decide⟩, fun h => by cases h⟩⟩
  · exact ⟨rfl, rfl, rfl, ⟨fun _ => rfl, fun _ => rfl⟩, fun _ => ⟨rfl, rfl, rfl, rfl⟩,
      (fun h => nomatch h), (fun h => nomatch h), (fun h => nomatch h)⟩
  · exact ⟨fun h => (by cases h), fun h => (by cases h)⟩

end runs

theorem upScan_append (a b : List PEv) : upScan (a ++ b) = b.foldl upScanStep (upScan a) := by
  simp [upScan, List.foldl_append]

theorem prun_up {env : Env} {pevs : List PEv} {rh : Parser.ReqHead} {ent : Bytes}
    {I : Bytes → Sock → Prop} (hI : SockI env (pevs.map proj) (fedP pevs) rh ent I)
    (hU : SockU (pevs.map proj) I) (c : Cfg) (hc : c.refuse = false)
    (pre post : List PEv) (hevs : pevs = pre ++ post) (hok : ∀ e ∈ pre, relayPEvU e = true) :
    PU I c rh ent pre.length (fedP pre) (upScan pre) (Proxy.run env c pre) := by
  refine (run_induct env c pevs (fun pre st => (∀ e ∈ pre, relayPEvU e = true) →
    PU I c rh ent pre.length (fedP pre) (upScan pre) st) (fun _ => PU_init hI c) ?_ pre post hevs) hok
  intro pre e post st hsp h hok
  rw [fedP_append, fedP_single, List.length_append, List.length_singleton, upScan_append]
  exact pstep_up hI hU c hc (fedP pre) (upScan pre) e (hok e (by simp)) pre.length (proj_at_split hsp)
    (fedP_prefix_split hsp) (h (fun e' he' => hok e' (by simp [he'])))

theorem dfold (env : Env) (c : Cfg) {rh : Parser.ReqHead} {ent : Bytes} :
    ∀ (l : List PEv) (u : UpScan) (st : St), (∀ e ∈ l, relayPEvU e = true) → DeadU c rh ent u.got st →
      DeadU c rh ent (l.foldl upScanStep u).got (l.foldl (step env c) st) := by
  intro l
  induction l with
  | nil => intro u st _ h; exact h
  | cons e l ih =>
    intro u st hok h
    exact ih _ _ (fun e' he' => hok e' (by simp [he'])) (dstep env c u e (hok e (by simp)) h)

theorem ups_frame (env : Env) (c : Cfg) : ∀ (post : List PEv) (st : St), (∀ e ∈ post, ∃ b, e = PEv.up b) →
    (post.foldl (step env c) st).conn = st.conn ∧ (post.foldl (step env c) st).toUp = st.toUp := by
  intro post
  induction post with
  | nil => intro st _; exact ⟨rfl, rfl⟩
  | cons e post ih =>
    intro st hall
    obtain ⟨b, rfl⟩ := hall e (by simp)
    obtain ⟨i1, i2⟩ := ih (step env c st (.up b)) (fun e' he' => hall e' (by simp [he']))
    rw [List.foldl_cons, i1, i2, step_up_eq]
    split <;> exact ⟨rfl, rfl⟩

theorem fedP_ups : ∀ (post : List PEv), (∀ e ∈ post, ∃ b, e = PEv.up b) → fedP post = [] := by
  intro post
  induction post with
  | nil => intro _; rfl
  | cons e post ih =>
    intro hall
    obtain ⟨b, rfl⟩ := hall (e) (by simp)
    have : PEv.up b :: post = [PEv.up b] ++ post := rfl
    rw [this, fedP_append, fedP_single, ih (fun e' he' => hall e' (by simp [he']))]
    rfl

/-- after the last event-loop turn only upstream payloads follow -/
def TurnTail (pevs : List PEv) : Prop :=
  ∃ pre post, pevs = pre ++ PEv.turn :: post ∧ ∀ e ∈ post, ∃ b, e = PEv.up b

/-- **the relay invariant at the end of a run** `new (feed | turn | up)*`: either nothing has
    reached the upstream server yet (and the run is no `TurnTail`), or it received the request head
    followed by a prefix `d` of the entitled body — all of it when a turn has run since the stream
    was complete and the answer, as far as sent, is not one the proxy turns into a 502 -/
theorem run_final_up {env : Env} {pevs : List PEv} {rh : Parser.ReqHead} {ent : Bytes}
    {I : Bytes → Sock → Prop} (hI : SockI env (pevs.map proj) (fedP pevs) rh ent I)
    (hU : SockU (pevs.map proj) I) (c : Cfg) (hc : c.refuse = false)
    (hok : ∀ e ∈ pevs, relayPEvU e = true) :
    (upBytes (Proxy.run env c pevs).sock.log = [] ∧ ¬ TurnTail pevs) ∨
    ∃ d, upBytes (Proxy.run env c pevs).sock.log = upstreamHead c (reqSock rh) ++ d ∧
      d <+: ent ∧ (TurnTail pevs → upHeadOk pevs = true → d = ent) := by
  have cdead : DeadU c rh ent (upScan pevs).got (Proxy.run env c pevs) →
      ∃ d, upBytes (Proxy.run env c pevs).sock.log = upstreamHead c (reqSock rh) ++ d ∧
        d <+: ent ∧ (TurnTail pevs → upHeadOk pevs = true → d = ent) := by
    intro h
    obtain ⟨d, u1, u2⟩ := h.up
    refine ⟨d, u1, (List.prefix_append d _).trans (by rw [u2]; exact h.pre), fun _ hk => ?_⟩
    have := h.bad.decides
    have hk' : (match breakOn CRLF2 (upScan pevs).got with
      | none => true
      | some (hd, _) => (Parser.parseResponseHeaders hd).isSome) = true := hk
    rw [this] at hk'; cases hk'
  have calive : AliveU I c rh pevs.length (fedP pevs) (upScan pevs) (Proxy.run env c pevs) →
      (TurnTail pevs → (Proxy.run env c pevs).conn = .connected ∧ (Proxy.run env c pevs).toUp = []) →
      (upBytes (Proxy.run env c pevs).sock.log = [] ∧ ¬ TurnTail pevs) ∨
      ∃ d, upBytes (Proxy.run env c pevs).sock.log = upstreamHead c (reqSock rh) ++ d ∧
        d <+: ent ∧ (TurnTail pevs → upHeadOk pevs = true → d = ent) := by
    intro h hturn
    exact (final_of_relay hI (st := clr (Proxy.run env c pevs)) h.inv h.relay hturn).imp id fun ⟨d, e1, e2, e3⟩ => ⟨d, e1, e2, fun h _ => e3 h⟩
  have hF := prun_up hI hU c hc pevs [] (by simp) hok
  by_cases hT : TurnTail pevs
  · obtain ⟨pre, post, hpe, hall⟩ := hT
    have hT : TurnTail pevs := ⟨pre, post, hpe, hall⟩
    have hokpost : ∀ e ∈ post, relayPEvU e = true := by
      intro e he; obtain ⟨b, rfl⟩ := hall e he; rfl
    have hrun : Proxy.run env c pevs = post.foldl (step env c) (step env c (Proxy.run env c pre) .turn) := by
      rw [hpe]; simp [Proxy.run, List.foldl_append]
    have hscan : upScan pevs = post.foldl upScanStep (upScanStep (upScan pre) .turn) := by
      rw [hpe, upScan_append]; rfl
    have hIp := prun_up hI hU c hc pre (PEv.turn :: post) hpe (fun e he => hok e (by rw [hpe]; simp [he]))
    have hfp : fedP pre = fedP pevs := by
      rw [hpe, fedP_append]
      have : PEv.turn :: post = [PEv.turn] ++ post := rfl
      rw [this, fedP_append, fedP_single, fedP_ups post hall]
      simp [proj, evBytesOf]
    rcases hIp with ha | hd
    · have hk : (pevs.map proj)[pre.length]? = some Event.turn := by rw [hpe]; simp [proj]
      rcases astep_turn hI hU c hc pre.length (fedP pre) (upScan pre) hk (by rw [hfp]; exact List.prefix_refl _) ha
        with ⟨_, a2⟩ | d2
      · have hfacts := a2 (hI.full (by rw [← hfp]; exact ha.inv))
        obtain ⟨i1, i2⟩ := ups_frame env c post (step env c (Proxy.run env c pre) .turn) hall
        rcases hF with hfa | hfd
        · exact calive hfa (fun _ => by rw [hrun, i1, i2]; exact hfacts)
        · exact Or.inr (cdead hfd)
      · have := dfold env c post _ _ hokpost d2
        rw [← hrun, ← hscan] at this
        exact Or.inr (cdead this)
    · have := dfold env c (PEv.turn :: post) _ _
        (fun e he => hok e (by rw [hpe]; simp; exact Or.inr (by simpa using he))) hd
      have hrun' : Proxy.run env c pevs = (PEv.turn :: post).foldl (step env c) (Proxy.run env c pre) := by
        rw [hrun]; rfl
      have hscan' : upScan pevs = (PEv.turn :: post).foldl upScanStep (upScan pre) := by
        rw [hscan]; rfl
      rw [← hrun', ← hscan'] at this
      exact Or.inr (cdead this)
  · rcases hF with hfa | hfd
    · exact calive hfa (fun h => absurd h hT)
    · exact Or.inr (cdead hfd)

end Qhttp.ProxyL
