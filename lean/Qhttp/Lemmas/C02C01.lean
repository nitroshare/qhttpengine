import Qhttp.Lemmas.C02Run
import Qhttp.Props.C01
/-
  The socket-level part of C01 (`C02.C01_holds_run` in Props/C02.lean): with the application
  `@hp snap @end` (the harness's scenario syntax: the slot of `headersParsed` snapshots the
  accessors), `headersParsed` is emitted iff the head before the first blank line is acceptable,
  and the snapshot is the expected one (`run_c1`).
-/
namespace Qhttp.C02
open Qhttp

/-- `@hp snap @end` -/
def snapApp : App := Script.app { onHp := [.snap] }

/-- observations that neither are `headersParsed` nor a snapshot -/
def quietObs : Obs → Bool
  | .hp => false | .snap _ => false | _ => true

/-- the history only grew, by quiet observations -/
def Quiet (s s' : Sock) : Prop := ∃ l, s'.log = s.log ++ l ∧ l.all quietObs = true

theorem Quiet.refl (s : Sock) : Quiet s s := ⟨[], by simp, rfl⟩
theorem Quiet.of_log_eq {s s' : Sock} (h : s'.log = s.log) : Quiet s s' := ⟨[], by simp [h], rfl⟩
theorem Quiet.trans {s1 s2 s3 : Sock} (h1 : Quiet s1 s2) (h2 : Quiet s2 s3) : Quiet s1 s3 := by
  obtain ⟨l1, e1, q1⟩ := h1
  obtain ⟨l2, e2, q2⟩ := h2
  exact ⟨l1 ++ l2, by rw [e2, e1, List.append_assoc], by rw [List.all_append, q1, q2]; rfl⟩
theorem Quiet.one (s : Sock) (o : Obs) (h : quietObs o = true) : Quiet s { s with log := s.log ++ [o] } :=
  ⟨[o], rfl, by simp [h]⟩

theorem countHp_quiet (l l' : List Obs) (h : l'.all quietObs = true) :
    Obs.countP Obs.isHp (l ++ l') = Obs.countP Obs.isHp l := by
  have : l'.filter Obs.isHp = [] := List.filter_eq_nil_iff.mpr fun o ho hp => by
    have hq := List.all_eq_true.mp h o ho
    cases o with
    | hp => exact Bool.false_ne_true hq
    | _ => exact Bool.false_ne_true hp
  rw [Obs.countP_append]
  show _ + (l'.filter Obs.isHp).length = _
  rw [this]; rfl

theorem firstSnap_append (l l' : List Obs) :
    C01.firstSnap (l ++ l') = (C01.firstSnap l).or (C01.firstSnap l') := by
  induction l with
  | nil => rfl
  | cons o l ih =>
    cases o with
    | snap x => rfl
    | _ => exact ih

theorem firstSnap_of_quiet (l : List Obs) (h : l.all quietObs = true) : C01.firstSnap l = none := by
  induction l with
  | nil => rfl
  | cons o l ih =>
    rw [List.all_cons, Bool.and_eq_true] at h
    cases o with
    | snap x => exact absurd h.1 Bool.false_ne_true
    | _ => exact ih h.2

theorem firstSnap_quiet (l l' : List Obs) (h : l'.all quietObs = true) :
    C01.firstSnap (l ++ l') = C01.firstSnap l := by
  rw [firstSnap_append, firstSnap_of_quiet l' h, Option.or_none]

theorem Quiet.countHp {s s' : Sock} (h : Quiet s s') :
    Obs.countP Obs.isHp s'.log = Obs.countP Obs.isHp s.log := by
  obtain ⟨l, e, q⟩ := h; rw [e, countHp_quiet _ _ q]

theorem Quiet.firstSnap {s s' : Sock} (h : Quiet s s') :
    C01.firstSnap s'.log = C01.firstSnap s.log := by
  obtain ⟨l, e, q⟩ := h; rw [e, firstSnap_quiet _ _ q]

/-- a quiet step that keeps the socket alive and in its request phase -/
structure QStep (s s' : Sock) : Prop where
  quiet : Quiet s s'
  alive : s'.alive = s.alive
  rs : s'.rs = s.rs

theorem QStep.refl (s : Sock) : QStep s s := ⟨Quiet.refl s, rfl, rfl⟩
theorem QStep.trans {s1 s2 s3 : Sock} (h1 : QStep s1 s2) (h2 : QStep s2 s3) : QStep s1 s3 :=
  ⟨h1.quiet.trans h2.quiet, h2.alive.trans h1.alive, h2.rs.trans h1.rs⟩

theorem tcpWrite_q (s : Sock) (b : Bytes) : QStep s (Sock.tcpWrite s b) := by
  unfold Sock.tcpWrite
  split
  · exact ⟨Quiet.one _ _ rfl, rfl, rfl⟩
  · exact QStep.refl s

theorem tcpClose_q (s : Sock) : QStep s (Sock.tcpClose s) :=
  Sock.tcpClose_cases (P := QStep s) s (fun _ => QStep.refl s) (fun _ _ _ => ⟨⟨[Obs.tc], rfl, rfl⟩, rfl, rfl⟩)
    (fun _ _ _ => ⟨⟨[Obs.tc], rfl, rfl⟩, rfl, rfl⟩) (fun _ _ => ⟨⟨[Obs.tc], rfl, rfl⟩, rfl, rfl⟩)

theorem writeHeaders_q (s : Sock) : QStep s (Sock.writeHeaders s) := by
  have h1 : QStep s { s with ws := .headers, hdrRemaining := (Sock.headBytes s).length } :=
    ⟨Quiet.of_log_eq rfl, rfl, rfl⟩
  exact h1.trans (tcpWrite_q _ _)

theorem write_q (s : Sock) (b : Bytes) : QStep s (Sock.write s b) := by
  unfold Sock.write
  split
  · exact QStep.refl s
  · simp only []
    split
    · exact (writeHeaders_q s).trans (tcpWrite_q _ _)
    · exact tcpWrite_q _ _

theorem close_q {s s1 : Sock} (h : QStep s s1) : Quiet s (Sock.close s1) ∧ (Sock.close s1).alive = s.alive ∧
    (Sock.close s1).rs = .finished := by
  have h2 := tcpClose_q { s1 with ioOpen := false, qio := [], rs := .finished, ws := .finished, closeCalled := true }
  exact ⟨(h.quiet.trans (Quiet.of_log_eq rfl)).trans h2.quiet, h2.alive.trans h.alive, h2.rs⟩

theorem setHeader_q (s : Sock) (n v : Bytes) (r : Bool) : QStep s (Sock.setHeader s n v r) := by
  unfold Sock.setHeader
  split <;> exact ⟨Quiet.of_log_eq rfl, rfl, rfl⟩

theorem writeError_q (env : Env) (s : Sock) (c : Int) (r : Option Bytes) :
    Quiet s (Sock.writeError env s c r) ∧ (Sock.writeError env s c r).alive = s.alive ∧
    (Sock.writeError env s c r).rs = .finished := by
  have h0 : QStep s (Sock.setStatusCode s c r) := ⟨Quiet.of_log_eq rfl, rfl, rfl⟩
  have h := ((((h0.trans (setHeader_q _ Sock.CONTENT_LENGTH
    (natDigits (env.errPage (Sock.setStatusCode s c r).code (Sock.setStatusCode s c r).reason).length) true)).trans
    (setHeader_q _ Sock.CONTENT_TYPE Sock.TEXT_HTML true)).trans (writeHeaders_q _)).trans
    (write_q _ (env.errPage (Sock.setStatusCode s c r).code (Sock.setStatusCode s c r).reason)))
  exact close_q h

theorem emitDc_snap_q (env : Env) (s : Sock) : QStep s (Sock.emitDc env snapApp s) := by
  unfold Sock.emitDc
  exact ⟨Quiet.one _ _ rfl, rfl, rfl⟩

/-- quiet and still past the head -/
structure BStep (s s' : Sock) : Prop where
  quiet : Quiet s s'
  alive : s'.alive = s.alive
  rs : s'.rs ≠ .headers

theorem readDataSlot_snap (env : Env) (s : Sock) (h : s.rs ≠ .headers) :
    BStep s (Sock.readDataSlot env snapApp s) := by
  rw [readDataSlot_eq]
  have c1 : QStep s (cutS s) := by
    unfold cutS; split
    · exact ⟨Quiet.of_log_eq rfl, rfl, rfl⟩
    · exact QStep.refl s
  have c2 : QStep (cutS s) (rrS env snapApp (cutS s)) := by
    unfold rrS; split
    · exact ⟨Quiet.one _ _ rfl, rfl, rfl⟩
    · exact QStep.refl _
  have c12 := c1.trans c2
  generalize rrS env snapApp (cutS s) = s2 at c12
  unfold finS
  split
  · -- `snapApp` does not react to `readChannelFinished`: the state stays `finished`
    exact ⟨c12.quiet.trans (Quiet.one _ _ rfl), c12.alive,
      by show RState.finished ≠ RState.headers; exact RState.noConfusion⟩
  · exact ⟨c12.quiet, c12.alive, by rw [c12.rs]; exact h⟩

theorem onReadyRead_snap_body (env : Env) (s : Sock) (h : s.rs ≠ .headers) :
    BStep s (Sock.onReadyRead env snapApp s) := by
  rw [onReadyRead_eq]
  split
  · split
    · exact ⟨Quiet.of_log_eq rfl, rfl, h⟩
    · exact ⟨Quiet.refl s, rfl, h⟩
  · rename_i hf
    have hd : s.rs = .data := by
      cases hrs : s.rs <;> simp_all
    have hp : QStep s (pullS s) := by
      unfold pullS; split
      · exact ⟨Quiet.of_log_eq rfl, rfl, rfl⟩
      · exact QStep.refl s
    have hd' : (pullS s).rs = .data := by rw [hp.rs, hd]
    rw [orrBody_data _ _ _ hd']
    have := readDataSlot_snap env (pullS s) (by rw [hd']; simp)
    exact ⟨hp.quiet.trans this.quiet, this.alive.trans hp.alive, this.rs⟩

theorem takeSnap_hpState (env : Env) (s : Sock) (head : Bytes) (rh : Parser.ReqHead) (p : Bytes)
    (q : List (Bytes × Bytes)) (rest : Bytes)
    (hp : Parser.parseRequestHeaders head [] = some rh) (hu : env.url rh.rawPath = some (p, q))
    (hq : s.query = []) (ht : s.total = -1) :
    C01.expect env head = some (Sock.takeSnap (Sock.hpState s rh p q rest)) := by
  unfold C01.expect
  simp only [hp, hu]
  unfold Sock.hpState
  simp only []
  by_cases hc : HeaderMap.contains Sock.CONTENT_LENGTH_KEY rh.headers = true
  · have hc' : HeaderMap.contains Sock.CONTENT_LENGTH rh.headers = true := hc
    simp [hc', Sock.takeSnap, hq, Sock.CONTENT_LENGTH_KEY]
  · have hc' : ¬ HeaderMap.contains Sock.CONTENT_LENGTH rh.headers = true := hc
    simp [hc, hc', Sock.takeSnap, hq, ht]

/-- The invariant of the `@hp snap @end` runs, against `fed` = the bytes delivered so far: `C1H0`
    head not complete (without the claim that the buffer has no blank line, so that it also
    describes the state inside `onReadyRead`), `C1A` accepted, `C1R` rejected. -/
structure C1H0 (fed : Bytes) (s : Sock) : Prop where
  rs : s.rs = .headers
  buf : s.readBuffer = fed
  rh : s.reqHeaders = []
  q : s.query = []
  total : s.total = -1
  devOpen : s.tcp.devOpen = true
  inbox : s.tcp.inbox = []
  dcFlag : s.dcFlag = false
  hp : Obs.countP Obs.isHp s.log = 0
  snap : C01.firstSnap s.log = none

def C1A (env : Env) (fed : Bytes) (s : Sock) : Prop :=
  s.rs ≠ .headers ∧ ∃ head rest f, breakOn CRLF2 fed = some (head, rest) ∧ C01.expect env head = some f ∧
    Obs.countP Obs.isHp s.log = 1 ∧ C01.firstSnap s.log = some f

def C1R (env : Env) (fed : Bytes) (s : Sock) : Prop :=
  s.rs ≠ .headers ∧ ∃ head rest, breakOn CRLF2 fed = some (head, rest) ∧ C01.expect env head = none ∧
    Obs.countP Obs.isHp s.log = 0

def C1Inv (env : Env) (fed : Bytes) (s : Sock) : Prop :=
  s.alive = true ∧ ((C1H0 fed s ∧ breakOn CRLF2 fed = none) ∨ C1A env fed s ∨ C1R env fed s)

theorem firstSnap_append_none (l l' : List Obs) (h : C01.firstSnap l = none) :
    C01.firstSnap (l ++ l') = C01.firstSnap l' := by
  rw [firstSnap_append, h]; rfl

theorem emit_snap (env : Env) (s : Sock) (ha : s.alive = true) (hd : s.dcFlag = false) :
    Sock.emit env snapApp s .hp (snapApp.onHp s) =
      { s with log := s.log ++ [Obs.hp] ++ [Obs.snap (Sock.takeSnap s)] } := by
  simp [Sock.emit, Sock.apis, snapApp, Script.app, Sock.api, Sock.apiPrim, ha, hd, Sock.takeSnap]

theorem orrBody_headers (env : Env) (app : App) (s : Sock) (h : s.rs = .headers) :
    orrBody env app s =
      (if !(Sock.readHeaders env app s).2 then (Sock.readHeaders env app s).1 else
       match (Sock.readHeaders env app s).1.rs with
       | .data => Sock.readDataSlot env app (Sock.readHeaders env app s).1
       | .finished => { (Sock.readHeaders env app s).1 with readBuffer := [] }
       | .headers => (Sock.readHeaders env app s).1) := by
  unfold orrBody; simp only [h, if_true]; rfl

theorem orrBody_bad (env : Env) (s : Sock) (h : s.rs = .headers) (head rest : Bytes)
    (hb : breakOn CRLF2 s.readBuffer = some (head, rest))
    (hbad : ∀ rh, Parser.parseRequestHeaders head s.reqHeaders = some rh → env.url rh.rawPath = none) :
    BStep s (orrBody env snapApp s) := by
  rw [orrBody_headers _ _ _ h, Sock.readHeaders_bad env snapApp s hb hbad]
  obtain ⟨w1, w2, w3⟩ := writeError_q env s 400 none
  simp only [Bool.not_false, if_true]
  split
  · have e := emitDc_snap_q env (Sock.writeError env s 400 none)
    exact ⟨w1.trans e.quiet, e.alive.trans w2, by rw [e.rs, w3]; exact RState.noConfusion⟩
  · exact ⟨w1, w2, by rw [w3]; exact RState.noConfusion⟩

theorem orrBody_c1 (env : Env) (s : Sock) (fed : Bytes) (ha : s.alive = true) (h : C1H0 fed s) :
    C1Inv env fed (orrBody env snapApp s) := by
  cases hb : breakOn CRLF2 s.readBuffer with
  | none =>
    rw [orrBody_headers_none _ _ _ h.rs hb]
    exact ⟨ha, Or.inl ⟨h, by rw [← h.buf]; exact hb⟩⟩
  | some pr =>
    obtain ⟨head, rest⟩ := pr
    have hbf : breakOn CRLF2 fed = some (head, rest) := by rw [← h.buf]; exact hb
    have bad : ∀ (_ : ∀ rh', Parser.parseRequestHeaders head s.reqHeaders = some rh' → env.url rh'.rawPath = none)
        (_ : C01.expect env head = none), C1Inv env fed (orrBody env snapApp s) := fun hbad hexp =>
      have b := orrBody_bad env s h.rs head rest hb hbad
      ⟨b.alive.trans ha, Or.inr (Or.inr ⟨b.rs, head, rest, hbf, hexp, b.quiet.countHp.trans h.hp⟩)⟩
    cases hp : Parser.parseRequestHeaders head [] with
    | none =>
      exact bad (fun rh' h' => by rw [h.rh, hp] at h'; cases h') (by unfold C01.expect; simp only [hp])
    | some rh =>
      cases hu : env.url rh.rawPath with
      | none =>
        exact bad (fun rh' h' => by rw [h.rh, hp] at h'; cases h'; exact hu) (by unfold C01.expect; simp only [hp, hu])
      | some pq =>
        obtain ⟨p, q⟩ := pq
        rw [orrBody_headers _ _ _ h.rs, Sock.readHeaders_ok env snapApp s hb (by rw [h.rh]; exact hp) hu]
        obtain ⟨g2, _, _, g4, _, _, _, _, _, g1, g3⟩ := Sock.hpState_fields s rh p q rest
        rw [emit_snap env _ (by rw [g2]; exact ha) (by rw [g4]; exact h.dcFlag)]
        have hexp := takeSnap_hpState env s head rh p q rest hp hu h.q h.total
        generalize hse : ({ Sock.hpState s rh p q rest with
            log := (Sock.hpState s rh p q rest).log ++ [Obs.hp] ++ [Obs.snap (Sock.takeSnap (Sock.hpState s rh p q rest))] } : Sock)
            = se
        have e1 : se.rs = .data := by rw [← hse]; exact g1
        have e2 : se.alive = true := by rw [← hse]; show (Sock.hpState s rh p q rest).alive = true; rw [g2]; exact ha
        have e3 : se.log = s.log ++ [Obs.hp] ++ [Obs.snap (Sock.takeSnap (Sock.hpState s rh p q rest))] := by
          rw [← hse]; show (Sock.hpState s rh p q rest).log ++ _ ++ _ = _; rw [g3]
        simp only [Bool.not_true, Bool.false_eq_true, if_false, e1]
        have b := readDataSlot_snap env se (by rw [e1]; simp)
        refine ⟨by rw [b.alive]; exact e2,
          Or.inr (Or.inl ⟨b.rs, head, rest, _, hbf, hexp, ?_, ?_⟩)⟩
        · rw [b.quiet.countHp, e3, Obs.countP_append, Obs.countP_append, h.hp]; rfl
        · rw [b.quiet.firstSnap, e3, List.append_assoc, firstSnap_append_none _ _ h.snap]; rfl

def feedEvent : Event → Bool
  | .new => true | .feed _ => true | _ => false

theorem C1A.step {env : Env} {fed seg : Bytes} {s s' : Sock} (h : C1A env fed s) (b : BStep s s') :
    C1A env (fed ++ seg) s' := by
  obtain ⟨_, head, rest, f, h1, h2, h3, h4⟩ := h
  exact ⟨b.rs, head, rest ++ seg, f, breakOn_append _ h1, h2,
    by rw [b.quiet.countHp, h3], by rw [b.quiet.firstSnap, h4]⟩

theorem C1R.step {env : Env} {fed seg : Bytes} {s s' : Sock} (h : C1R env fed s) (b : BStep s s') :
    C1R env (fed ++ seg) s' := by
  obtain ⟨_, head, rest, h1, h2, h3⟩ := h
  exact ⟨b.rs, head, rest ++ seg, breakOn_append _ h1, h2, by rw [b.quiet.countHp, h3]⟩

theorem stepK_c1 (env : Env) (fed : Bytes) (s : Sock) (k : Nat) (e : Event) (he : feedEvent e = true)
    (h : C1Inv env fed s) :
    C1Inv env (fed ++ evBytesOf e) (Sock.stepK env snapApp (s, k) e).1 := by
  obtain ⟨ha, h⟩ := h
  rw [Sock.stepK_alive env snapApp k e ha]
  show C1Inv env _ (Sock.step env snapApp _ e)
  cases e with
  | new =>
    rw [Sock.step_new env snapApp { s with log := s.log ++ [Obs.ev k] } ha]
    simp only [evBytesOf, List.append_nil]
    have hq : Quiet s { s with log := s.log ++ [Obs.ev k], initPending := true } := ⟨[Obs.ev k], rfl, rfl⟩
    have hb : s.rs ≠ .headers → BStep s { s with log := s.log ++ [Obs.ev k], initPending := true } :=
      fun hr => ⟨hq, rfl, hr⟩
    refine ⟨ha, ?_⟩
    rcases h with ⟨h0, hn⟩ | hD
    · exact Or.inl ⟨⟨h0.rs, h0.buf, h0.rh, h0.q, h0.total, h0.devOpen, h0.inbox, h0.dcFlag,
        by rw [hq.countHp]; exact h0.hp, by rw [hq.firstSnap]; exact h0.snap⟩, hn⟩
    · have hb := hb (hD.elim (·.1) (·.1))
      have := hD.imp (·.step (seg := []) hb) (·.step (seg := []) hb)
      rw [List.append_nil] at this
      exact Or.inr this
  | feed seg =>
    rw [Sock.step_feed env snapApp { s with log := s.log ++ [Obs.ev k] } seg ha]
    simp only [evBytesOf]
    have hq2 : QStep s { s with log := s.log ++ [Obs.ev k], tcp := { s.tcp with inbox := s.tcp.inbox ++ seg } } :=
      ⟨⟨[Obs.ev k], rfl, rfl⟩, rfl, rfl⟩
    rcases h with ⟨h0, hn⟩ | hD
    · rw [onReadyRead_eq, if_neg (by show ¬ s.rs = .finished; rw [h0.rs]; exact RState.noConfusion)]
      unfold pullS
      rw [if_pos (by exact h0.devOpen)]
      apply orrBody_c1 env _ _ (by exact ha)
      exact ⟨h0.rs, by show s.readBuffer ++ (s.tcp.inbox ++ seg) = fed ++ seg; rw [h0.buf, h0.inbox]; rfl,
        h0.rh, h0.q, h0.total, h0.devOpen, rfl, h0.dcFlag,
        by show Obs.countP Obs.isHp (s.log ++ [Obs.ev k]) = 0; rw [Obs.countP_append, h0.hp]; rfl,
        by show C01.firstSnap (s.log ++ [Obs.ev k]) = none
           rw [firstSnap_quiet _ _ rfl]; exact h0.snap⟩
    · have b := onReadyRead_snap_body env
        { s with log := s.log ++ [Obs.ev k], tcp := { s.tcp with inbox := s.tcp.inbox ++ seg } }
        (hD.elim (·.1) (·.1))
      have b' : BStep s _ := ⟨hq2.quiet.trans b.quiet, b.alive.trans hq2.alive, b.rs⟩
      exact ⟨b'.alive.trans ha, Or.inr (hD.imp (·.step b') (·.step b'))⟩
  | _ => exact absurd he Bool.false_ne_true

theorem run_c1 (env : Env) (evs : List Event) (h : evs.all feedEvent = true) :
    C1Inv env (Scenario.fed evs) (Sock.run env snapApp evs) := by
  refine run_prefix_induct env snapApp evs (fun pre s => C1Inv env (Scenario.fed pre) s)
    ⟨rfl, Or.inl ⟨⟨rfl, rfl, rfl, rfl, rfl, rfl, rfl, rfl, rfl, rfl⟩, by decide⟩⟩
    fun pre e post s hevs hp => ?_
  rw [fed_append, fed_single]
  exact stepK_c1 env _ s pre.length e (List.all_eq_true.mp h e (by rw [hevs]; simp)) hp

theorem fed_feeds (segs : List Bytes) : Scenario.fed (.new :: segs.map .feed) = segs.flatten := by
  rw [show Event.new :: segs.map Event.feed = [Event.new] ++ segs.map Event.feed from rfl, fed_append, fed_single]
  simp only [evBytesOf, List.nil_append]
  induction segs with
  | nil => rfl
  | cons x xs ih =>
    rw [List.map_cons, show Event.feed x :: xs.map Event.feed = [Event.feed x] ++ xs.map Event.feed from rfl,
      fed_append, fed_single, ih]
    simp [evBytesOf]

end Qhttp.C02
