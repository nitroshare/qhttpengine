import Qhttp.Lemmas.FsPaths
/-
  Path algebra for C07: when the kernel walk succeeds (prefix-closed trees), paths made of names
  only, the converse of the `../` test, idempotence of `cleanPath`, and that what `walk` returns
  exists.
-/
namespace Qhttp
namespace Fs

/-- every listed location has all its proper ancestors listed as directories (what a real
    directory tree satisfies) -/
def treeClosed (t : Tree) : Bool :=
  t.all fun e => (List.range e.1.length).all fun n => kindAt t (e.1.take n) == some .dir

theorem kindAt_prefix_dir {t : Tree} (ht : treeClosed t = true) {loc : List Bytes} {k : Kind}
    (h : kindAt t loc = some k) {n : Nat} (hn : n < loc.length) :
    kindAt t (loc.take n) = some .dir := by
  unfold kindAt at h
  have hne : loc.isEmpty = false := by
    cases loc with
    | nil => simp at hn
    | cons x l => rfl
  rw [hne] at h
  simp only [Bool.false_eq_true, if_false, Option.map_eq_some_iff] at h
  obtain ⟨e, he, _⟩ := h
  have hmem := List.mem_of_find?_eq_some he
  have heq : e.1 = loc := by simpa using List.find?_some he
  unfold treeClosed at ht
  rw [List.all_eq_true] at ht
  have := ht e hmem
  rw [List.all_eq_true] at this
  have := this n (by rw [List.mem_range, heq]; exact hn)
  rw [heq] at this
  simpa using this

/-- skipping through existing directories -/
theorem walk_dirs (t : Tree) (cur ss more : List Bytes) (hdd : ∀ s ∈ ss, s ≠ DOTDOT)
    (hd : ∀ n, n ≤ (ss.filter isName).length →
      kindAt t (cur.reverse ++ (ss.filter isName).take n) = some .dir) :
    walk t cur (ss ++ more) = walk t ((ss.filter isName).reverse ++ cur) more := by
  induction ss generalizing cur with
  | nil => rfl
  | cons s ss ih =>
    have hdd' : ∀ x ∈ ss, x ≠ DOTDOT := fun x hx => hdd x (by simp [hx])
    rw [List.cons_append]
    rcases seg_cases s with hs | rfl | hs
    · have hn : isName s = false := by rcases hs with rfl | rfl <;> decide
      rw [walk_skip t hs]
      rw [List.filter_cons_of_neg (by simp [hn])] at hd ⊢
      exact ih cur hdd' hd
    · exact absurd rfl (hdd DOTDOT (by simp))
    · rw [List.filter_cons_of_pos hs] at hd ⊢
      rw [walk_name t hs]
      have h1 := hd 1 (by simp)
      simp only [List.take_succ_cons, List.take_zero] at h1
      rw [List.reverse_cons, h1]
      simp only []
      have := ih (s :: cur) hdd' (by
        intro n hn
        have := hd (n + 1) (by simp; omega)
        simpa using this)
      rw [this]
      simp

/-- walking a list of names all of whose proper prefixes are directories -/
theorem walk_names (t : Tree) (cur names : List Bytes) (k : Kind)
    (hn : ∀ s ∈ names, isName s = true)
    (hd : ∀ n, n < names.length → kindAt t (cur.reverse ++ names.take n) = some .dir)
    (hk : kindAt t (cur.reverse ++ names) = some k) :
    walk t cur names = some (cur.reverse ++ names) := by
  induction names generalizing cur with
  | nil => simp [walk]
  | cons s rest ih =>
    rw [walk_name t (hn s (by simp))]
    cases rest with
    | nil =>
      rw [List.reverse_cons, hk]
      cases k <;> simp [walk]
    | cons r rest =>
      have h1 := hd 1 (by simp)
      simp only [List.take_succ_cons, List.take_zero] at h1
      rw [List.reverse_cons, h1]
      simp only []
      have := ih (s :: cur) (fun x hx => hn x (by simp [hx]))
        (by
          intro n hlt
          have := hd (n + 1) (by simp at hlt ⊢; omega)
          simpa using this)
        (by simpa using hk)
      rw [this]
      simp

/-! ### plain relative paths -/

/-- every segment is a name -/
def allNames (p : Bytes) : Bool := (segs p).all isName

theorem allNames_iff {p : Bytes} : allNames p = true ↔ ∀ s ∈ segs p, isName s = true := by
  unfold allNames; exact List.all_eq_true

theorem allNames_ne_nil {p : Bytes} (h : allNames p = true) : p ≠ [] := by
  rintro rfl; exact absurd h (by decide)

theorem allNames_not_abs {p : Bytes} (h : allNames p = true) : isAbs p = false := by
  cases hp : isAbs p with
  | false => rfl
  | true =>
    obtain ⟨xs, rfl⟩ := isAbs_iff.1 hp
    have := allNames_iff.1 h [] (by rw [segs_cons_slash]; simp)
    exact absurd this (by decide)

theorem allNames_normStack {p : Bytes} (h : allNames p = true) : normStack [] (segs p) = segs p := by
  rw [normStack_names _ _ (allNames_iff.1 h)]; rfl

theorem allNames_cleanPath {p : Bytes} (h : allNames p = true) : cleanPath p = p := by
  rw [cleanPath_rel (allNames_ne_nil h) (allNames_not_abs h), allNames_normStack h]
  have : (segs p).isEmpty = false := by
    cases hs : segs p with
    | nil => exact absurd hs (segs_ne_nil p)
    | cons x l => rfl
  rw [this]
  simp only [Bool.false_eq_true, if_false]
  exact joinSegs_segs p

/-! ### converse of the `../` test -/

theorem segs_head_of_startsWith {x : Bytes} (h : startsWith DOTDOTSLASH x = true) :
    (segs x).head? = some DOTDOT := by
  unfold startsWith at h
  obtain ⟨r, rfl⟩ := List.isPrefixOf_iff_prefix.1 h
  have : DOTDOTSLASH ++ r = DOTDOT ++ 47 :: r := rfl
  rw [this, segs_append_slash, segs_of_no_slash DOTDOT_no_slash]
  rfl

theorem joinSegs_accepted {l : List Bytes} (hne : l ≠ [])
    (hl : ∀ s ∈ l, s ≠ [] ∧ (47 : UInt8) ∉ s) (hh : l.head? ≠ some DOTDOT) :
    startsWith DOTDOTSLASH (joinSegs l) = false ∧ joinSegs l ≠ DOTDOT := by
  have hs := segs_joinSegs hne (fun s hs => (hl s hs).2)
  constructor
  · cases hst : startsWith DOTDOTSLASH (joinSegs l) with
    | false => rfl
    | true =>
      have := segs_head_of_startsWith hst
      rw [hs] at this
      exact absurd this hh
  · intro e
    rw [e, segs_of_no_slash DOTDOT_no_slash] at hs
    rw [← hs] at hh
    exact hh rfl

/-- a relative request path passes the two tests iff its cleaned
    segment list does not begin with `..` -/
theorem rel_accepted_iff {fn : Bytes} (h : isAbs fn = false) :
    (startsWith DOTDOTSLASH (cleanPath fn) = false ∧ cleanPath fn ≠ DOTDOT) ↔
      (normStack [] (segs fn)).head? ≠ some DOTDOT := by
  constructor
  · rintro ⟨h1, h2⟩; exact rel_accepted_head h h1 h2
  · intro hh
    by_cases hne : fn = []
    · subst hne; decide
    · rw [cleanPath_rel hne h]
      split
      · decide
      · rename_i he
        exact joinSegs_accepted (by intro e; rw [e] at he; exact he rfl)
          (normStack_segs_elems fn) hh

/-! ### cleanPath: shape and idempotence -/

theorem normStack_segs_joinSegs (p : Bytes) :
    normStack [] (segs (joinSegs (normStack [] (segs p)))) = normStack [] (segs p) := by
  cases hst : normStack [] (segs p) with
  | nil => decide
  | cons x l =>
    rw [← hst, segs_joinSegs (by rw [hst]; simp) (fun s hs => (normStack_segs_elems p s hs).2)]
    exact normStack_of_NF (normStack_nil_NF _)

theorem joinSegs_ne_nil {l : List Bytes} (hne : l ≠ []) (h : ∀ s ∈ l, s ≠ []) : joinSegs l ≠ [] := by
  cases l with
  | nil => exact absurd rfl hne
  | cons x l =>
    have hx := h x (by simp)
    cases l with
    | nil => rw [joinSegs_single]; exact hx
    | cons y l => rw [joinSegs_cons _ (by simp)]; simp [hx]

theorem cleanPath_idem' (p : Bytes) : cleanPath (cleanPath p) = cleanPath p := by
  by_cases hne : p = []
  · subst hne; rfl
  · cases habs : isAbs p with
    | true =>
      rw [cleanPath_abs habs]
      rw [cleanPath_abs (p := 47 :: _) (by simp [isAbs, SLASH])]
      rw [segs_cons_slash, normStack_skip (.inl rfl), normStack_segs_joinSegs]
    | false =>
      rw [cleanPath_rel hne habs]
      split
      · decide
      · rename_i he
        have hne' : normStack [] (segs p) ≠ [] := by intro e; rw [e] at he; exact he rfl
        have helems := normStack_segs_elems p
        rw [cleanPath_rel (joinSegs_ne_nil hne' (fun s hs => (helems s hs).1)) (joinSegs_head helems),
          normStack_segs_joinSegs]
        rw [if_neg he]

/-! ### what `walk` returns exists -/

theorem kindAt_nil (t : Tree) : kindAt t [] = some .dir := rfl

/-- every ancestor of the current directory exists -/
def Anc (t : Tree) (cur : List Bytes) : Prop := ∀ n, kindAt t (cur.drop n).reverse ≠ none

theorem Anc.nil (t : Tree) : Anc t [] := by
  intro n; simp [kindAt_nil]

theorem Anc.drop {t : Tree} {cur : List Bytes} (h : Anc t cur) (k : Nat) : Anc t (cur.drop k) := by
  intro n; rw [List.drop_drop]; exact h _

theorem Anc.push {t : Tree} {cur : List Bytes} (h : Anc t cur) {s : Bytes} {k : Kind}
    (hk : kindAt t (s :: cur).reverse = some k) : Anc t (s :: cur) := by
  intro n
  cases n with
  | zero => rw [List.drop_zero, hk]; simp
  | succ n => rw [List.drop_succ_cons]; exact h n

theorem walk_exists (t : Tree) (cur ss loc : List Bytes) (h : walk t cur ss = some loc)
    (ha : Anc t cur) : kindAt t loc ≠ none := by
  induction ss generalizing cur with
  | nil =>
    simp only [walk, Option.some.injEq] at h
    rw [← h]; exact ha 0
  | cons s ss ih =>
    rcases seg_cases s with hs | rfl | hs
    · rw [walk_skip t hs] at h; exact ih _ h ha
    · rw [walk_dd] at h; exact ih _ h (ha.drop 1)
    · rw [walk_name t hs] at h
      split at h
      · rename_i hk; exact ih _ h (ha.push hk)
      · rename_i hk
        split at h
        · simp only [Option.some.injEq] at h
          rw [← h, hk]; simp
        · cases h
      · cases h

/-- whatever is served exists in the tree -/
theorem served_exists (t : Tree) (root path : Bytes) {loc : List Bytes}
    (h : served t root path = some loc) : kindAt t loc ≠ none :=
  walk_exists t [] _ loc ((served_some_iff t root path loc).1 h).1 (Anc.nil t)

/-- an existing location is the root of the file system or an entry of the tree -/
theorem kindAt_mem {t : Tree} {loc : List Bytes} {k : Kind} (h : kindAt t loc = some k) :
    ∃ e ∈ ([], Kind.dir) :: t, e.1 = loc ∧ e.2 = k := by
  unfold kindAt at h
  split at h
  · rename_i he
    have : loc = [] := List.isEmpty_iff.1 he
    subst this
    simp only [Option.some.injEq] at h
    exact ⟨([], .dir), by simp, rfl, h⟩
  · simp only [Option.map_eq_some_iff] at h
    obtain ⟨e, he, hk⟩ := h
    refine ⟨e, by simp [List.mem_of_find?_eq_some he], ?_, hk⟩
    simpa using List.find?_some he

end Fs
end Qhttp
