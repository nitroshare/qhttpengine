import Qhttp.Model.RouteSoft
import Qhttp.Lemmas.RouteWire
/-
  The `soft` scenarios of the `route` language (`RouteScn.softScenario`): a refusing middleware
  writes its own complete response and does not close the connection.  Without a refusal the soft
  scenario IS the ordinary one; with one, the connection stays open and `readyRead` /
  `readChannelFinished` signals nobody is connected to may follow.
-/
namespace Qhttp.RouteSoftL
open Qhttp Qhttp.Sock Qhttp.RouteL

theorem softActOps_accepting (root : Node) (pre : List (Nat × Bool)) (hacc : allAccept pre = true) :
    (pre.map mwAct).flatMap (RouteScn.softActOps root) = (pre.map mwAct).flatMap (RouteScn.actOps root) := by
  induction pre with
  | nil => rfl
  | cons e pre ih =>
    obtain ⟨i, ok⟩ := e
    simp only [allAccept, List.all_cons, Bool.and_eq_true] at hacc
    have hok : ok = true := hacc.1
    subst hok
    simp only [List.map_cons, List.flatMap_cons]
    rw [ih (by simpa [allAccept] using hacc.2)]
    rfl

theorem softActOps_terminal (root : Node) {t : Act} (ht : isTerminalAct t = true) :
    RouteScn.softActOps root t = RouteScn.actOps root t := by
  cases t with
  | mw i ok => simp [isTerminalAct] at ht
  | redirect _ _ => rfl
  | process _ _ => rfl

theorem softOps_eq_of_terminal (root : Node) (pre : List (Nat × Bool)) (hacc : allAccept pre = true)
    {t : Act} (ht : isTerminalAct t = true) :
    (pre.map mwAct ++ [t]).flatMap (RouteScn.softActOps root) =
      (pre.map mwAct ++ [t]).flatMap (RouteScn.actOps root) := by
  simp only [List.flatMap_append, List.flatMap_cons, List.flatMap_nil, List.append_nil]
  rw [softActOps_accepting root pre hacc, softActOps_terminal root ht]

theorem softScenario_eq (sc : RouteScn)
    (h : ∀ r as, sc.root = some r → sc.acts = some as →
      as.flatMap (RouteScn.softActOps r) = as.flatMap (RouteScn.actOps r)) :
    sc.softScenario = sc.scenario := by
  have : sc.softApp = sc.app := by
    unfold RouteScn.softApp RouteScn.app
    cases hr : sc.root with
    | none => rfl
    | some r =>
      cases ha : sc.acts with
      | none => rfl
      | some as => simp only [h r as hr ha]
  simp only [RouteScn.softScenario, RouteScn.scenario, this]

theorem softScenario_eq_of_noRoot (sc : RouteScn) (h : sc.root = none) : sc.softScenario = sc.scenario :=
  softScenario_eq sc (by intro r as hr; rw [h] at hr; cases hr)

theorem softScenario_eq_of_terminal (sc : RouteScn) {r : Node} (hroot : sc.root = some r)
    {pre : List (Nat × Bool)} (hacc : allAccept pre = true) {t : Act} (ht : isTerminalAct t = true)
    (hr : route sc.matcher r (sc.p16.drop 1) = pre.map mwAct ++ [t]) : sc.softScenario = sc.scenario := by
  apply softScenario_eq
  intro r' as hr' has
  rw [hroot] at hr'
  cases hr'
  have : as = pre.map mwAct ++ [t] := by
    have h2 : sc.acts = some (route sc.matcher r (sc.p16.drop 1)) := by
      simp [RouteScn.acts, serverRoute, hroot]
    rw [h2] at has
    rw [← hr]
    exact (Option.some.inj has).symm
  rw [this]
  exact softOps_eq_of_terminal r pre hacc ht

theorem softScenario_cases (sc : RouteScn) :
    sc.softScenario = sc.scenario ∨
      ∃ r pre id, sc.root = some r ∧ allAccept pre = true ∧
        route sc.matcher r (sc.p16.drop 1) = pre.map mwAct ++ [.mw id false] := by
  cases hroot : sc.root with
  | none => exact Or.inl (softScenario_eq_of_noRoot sc hroot)
  | some r =>
    obtain ⟨pre, hpre, ⟨t, ht, hr, _⟩ | ⟨id, hr, _⟩⟩ := route_cases sc.matcher r (sc.p16.drop 1)
    · exact Or.inl (softScenario_eq_of_terminal sc hroot hpre ht hr)
    · exact Or.inr ⟨r, pre, id, rfl, hpre, hr⟩

theorem softApp_silent (sc : RouteScn) : Silent sc.softApp := ⟨fun _ => rfl, fun _ => rfl⟩

def softHdrs (id : Nat) : HeaderMap := [(CONTENT_LENGTH, natDigits 6), (RouteScn.X_MW, natDigits id)]

/-- what a softly refusing middleware appends to the history -/
def softObs (id : Nat) : List Obs :=
  [.mw id false, .w (headOf 403 (statusReason 403) (softHdrs id)), .w RouteScn.DENIED]

theorem status_wh_write {s : Sock} (h : Ready s) (env : Env) (app : App) (c : Int) (b : Bytes) :
    Wrote s (apis env app s [.status c none, .wh, .write b])
      ([.w (headOf c (statusReason c) s.respHeaders)] ++ wObs b) := by
  have h1 : Ready (setStatusCode s c none) := ⟨h.alive, h.ws, h.io, h.dcF, h.dev, h.conn⟩
  have W := wrote_head h1
  have W2 := W.more b
  rw [← write_wrote W] at W2
  have e : apis env app s [.status c none, .wh, .write b] = write (writeHeaders (setStatusCode s c none)) b := by
    simp only [apis, List.foldl, api, apiPrim, h.alive, h1.alive, h1.dcF, W.alive, W.dcF, W2.dcF, Bool.not_true,
      Bool.false_eq_true, if_false]
  rw [e]
  exact ⟨W2.alive, W2.dcF, W2.dev, W2.conn, W2.unacked, W2.io, W2.ws, W2.rs, W2.del, W2.log⟩

theorem apis_soft_last (env : Env) (app : App) (root : Node) {s : Sock} (h : Ready s) (hh : s.respHeaders = [])
    (hd : s.rs = .data) (id : Nat) :
    Left false s (apis env app s (RouteScn.softActOps root (.mw id false))) (softObs id) := by
  have hn2 : Ready { s with log := s.log ++ [Obs.mw id false], respHeaders := [(RouteScn.X_MW, natDigits id)] } :=
    ⟨h.alive, h.ws, h.io, h.dcF, h.dev, h.conn⟩
  have h1 : HeaderMap.keyEq RouteScn.X_MW CONTENT_LENGTH = false := by decide
  have h2 : HeaderMap.keyLt RouteScn.X_MW CONTENT_LENGTH = false := by decide
  have e : HeaderMap.insert CONTENT_LENGTH (natDigits 6)
      (HeaderMap.remove CONTENT_LENGTH [(RouteScn.X_MW, natDigits id)]) = softHdrs id := by
    simp [softHdrs, HeaderMap.insert, HeaderMap.remove, h1, h2]
  simp only [RouteScn.softActOps]
  rw [apis_refuser env app h hh, apis_hdr env app hn2]
  simp only [e]
  have := (status_wh_write (hn2.hdrs (softHdrs id)) env app 403 RouteScn.DENIED).left hd
  exact ⟨this.alive, this.rs, this.del, by rw [this.log]; simp [softObs, wObs, RouteScn.DENIED, lit]⟩

theorem apis_soft_route (env : Env) (app : App) (root : Node) {s : Sock} (h : Ready s) (hh : s.respHeaders = [])
    (hd : s.rs = .data) (pre : List (Nat × Bool)) (hacc : allAccept pre = true) (id : Nat) :
    Left false s (apis env app s ((pre.map mwAct ++ [Act.mw id false]).flatMap (RouteScn.softActOps root)))
      (pre.map mwObs ++ softObs id) := by
  rw [List.flatMap_append, apis_append, softActOps_accepting root pre hacc, apis_accepting env app root pre hacc h]
  have hn : Ready { s with log := s.log ++ pre.map mwObs } := h.note _
  have := apis_soft_last env app root hn hh hd id
  simp only [List.flatMap_cons, List.flatMap_nil, List.append_nil]
  exact ⟨this.alive, this.rs, this.del, by rw [this.log, List.append_assoc]⟩

/-- **the history of an accepted request refused softly** -/
theorem run_soft_refusal (env : Env) (sc : RouteScn) {r : Node} (hroot : sc.root = some r)
    {pre : List (Nat × Bool)} (hacc : allAccept pre = true) {id : Nat}
    (hroute : route sc.matcher r (sc.p16.drop 1) = pre.map mwAct ++ [.mw id false])
    (hhead : Accepts env sc.stream) :
    ∃ X Y, X.all quiet = true ∧ Y.all quiet = true ∧
      (Scenario.run env sc.softScenario).log =
        [.ev 0, .ev 1, .hp] ++ (pre.map mwObs ++ softObs id) ++ X ++ [.ev 2] ++ Y := by
  have hrun : Scenario.run env sc.softScenario = Sock.run env sc.softApp [.new, .feed sc.stream, .turn] := rfl
  have hacts : sc.acts = some (route sc.matcher r (sc.p16.drop 1)) := by
    simp [RouteScn.acts, serverRoute, hroot]
  have hops : ∀ s, sc.softApp.onHp s =
      (route sc.matcher r (sc.p16.drop 1)).flatMap (RouteScn.softActOps r) := by
    intro s; simp [RouteScn.softApp, hroot, hacts]
  rw [hrun]
  obtain ⟨X, Y, hX, hY, _, hlog⟩ := run_hp env (softApp_silent sc) hhead (fin := false) hops
    (fun s1 h1 _ _ hh hd _ => by rw [hroute]; exact apis_soft_route env sc.softApp r h1 hh hd pre hacc id)
  exact ⟨X, Y, hX, hY, hlog⟩

theorem wire_softObs (id : Nat) :
    Obs.wire (softObs id) = headOf 403 (statusReason 403) (softHdrs id) ++ RouteScn.DENIED := by
  simp [softObs, Obs.wire]

theorem softHdrs_ok (id : Nat) : ∀ e ∈ softHdrs id, Http.EntryOk e := by
  intro e he
  simp [softHdrs] at he
  rcases he with rfl | rfl
  · exact entryOk_cl 6
  · exact entryOk_xmw id

end Qhttp.RouteSoftL
