import Qhttp.Lemmas.HttpBytes
/-
  The strict reader `Http.parse` inverts the serialiser of `Socket::writeHeaders`
  (`start CRLF (name ": " value CRLF)* CRLF body`), and `Http.statusLine` inverts the status line.
  The rendered head is `joinWith CRLF` of the start line and the header lines, so both halves of
  `parse` (the first blank line, the split into lines) are instances of the `split`/`joinWith`
  round trip of `BytesLemmas`; the pieces need only be free of CR LF.
-/
namespace Qhttp.Http
open Qhttp Qhttp.HB

theorem containsByte_eq_false {c : UInt8} {xs : Bytes} : containsByte c xs = false ↔ c ∉ xs := by
  simp [containsByte, List.any_eq_false]
  constructor
  · intro h hm; exact h c hm rfl
  · intro h x hx e; exact h (e ▸ hx)

/-- a header entry as the handlers write it (the side condition of `parse_render`) -/
def EntryOk (e : Bytes × Bytes) : Prop := e.1 ≠ [] ∧ COLON ∉ e.1 ∧ CR ∉ e.1 ∧ CR ∉ e.2

/-- the weakest side condition under which `parse` reads an entry back (a lone CR or LF is an
    ordinary byte); everything `Parser::parseHeaderList` produces satisfies it -/
def EntryOkW (e : Bytes × Bytes) : Prop :=
  e.1 ≠ [] ∧ COLON ∉ e.1 ∧ ¬ CRLF <:+: e.1 ∧ ¬ CRLF <:+: e.2

theorem entryOkW_of_entryOk {e : Bytes × Bytes} (h : EntryOk e) : EntryOkW e :=
  ⟨h.1, h.2.1, fun c => h.2.2.1 (CR_mem_of_CRLF_infix c), fun c => h.2.2.2 (CR_mem_of_CRLF_infix c)⟩

def line (e : Bytes × Bytes) : Bytes := e.1 ++ [COLON, SP] ++ e.2

/-- the header block with the line break in front of each line -/
def hl2 (m : List (Bytes × Bytes)) : Bytes := m.flatMap fun e => CRLF ++ line e

theorem CRLF_headerLines (m : List (Bytes × Bytes)) : CRLF ++ Sock.headerLines m = hl2 m ++ CRLF := by
  induction m with
  | nil => rfl
  | cons e m ih =>
    obtain ⟨k, v⟩ := e
    simp only [Sock.headerLines, hl2, List.flatMap_cons, line] at ih ⊢
    simp only [List.append_assoc] at ih ⊢
    rw [ih]

theorem joinWith_lines (start : Bytes) (m : List (Bytes × Bytes)) :
    joinWith CRLF (start :: m.map line) = start ++ hl2 m := by
  rw [joinWith_cons_eq_flatMap, hl2, List.flatMap_map]

theorem line_ne_nil (e : Bytes × Bytes) : line e ≠ [] := by
  simp [line]

theorem line_noCRLF {e : Bytes × Bytes} (h1 : ¬ CRLF <:+: e.1) (h2 : ¬ CRLF <:+: e.2) :
    ¬ CRLF <:+: line e := by
  have hv : ¬ CRLF <:+: [] ++ [SP] ++ e.2 :=
    not_infix_append_sep (fun c => by have := c.length_le; simp [CRLF] at this) h2 (by decide)
  have := not_infix_append_sep (c := COLON) h1 hv (by decide)
  simpa [line, List.append_assoc] using this

theorem lines_noCRLF {start : Bytes} {m : List (Bytes × Bytes)} (hs : ¬ CRLF <:+: start)
    (hm : ∀ e ∈ m, ¬ CRLF <:+: e.1 ∧ ¬ CRLF <:+: e.2) : ∀ q ∈ start :: m.map line, ¬ CRLF <:+: q := by
  intro q hq
  rcases List.mem_cons.1 hq with rfl | hq
  · exact hs
  · obtain ⟨e, he, rfl⟩ := List.mem_map.1 hq
    exact line_noCRLF (hm e he).1 (hm e he).2

theorem breakOn_CRLF2_render (start : Bytes) (m : List (Bytes × Bytes)) (body : Bytes)
    (hs : ¬ CRLF <:+: start) (hm : ∀ e ∈ m, ¬ CRLF <:+: e.1 ∧ ¬ CRLF <:+: e.2) :
    breakOn CRLF2 (start ++ CRLF ++ Sock.headerLines m ++ CRLF ++ body) =
      some (start ++ hl2 m, body) := by
  have hw : start ++ CRLF ++ Sock.headerLines m ++ CRLF ++ body = start ++ hl2 m ++ CRLF2 ++ body := by
    rw [List.append_assoc start, CRLF_headerLines]; simp [List.append_assoc, CRLF, CRLF2]
  rw [hw]
  refine breakOn_of_not_infix body (by decide) ?_
  rw [← joinWith_lines]
  refine first_CRLF2_joinWith _ _ (lines_noCRLF hs hm) (fun q hq => ?_)
  obtain ⟨e, _, rfl⟩ := List.mem_map.1 hq
  exact line_ne_nil e

theorem breakOn_COLONSP_found {l : Bytes} (rest : Bytes) (h : COLON ∉ l) :
    breakOn [COLON, SP] (l ++ [COLON, SP] ++ rest) = some (l, rest) :=
  breakOn_found (c := COLON) (d := [SP]) rest h

theorem headerLine_line {e : Bytes × Bytes} (h1 : e.1 ≠ []) (h2 : COLON ∉ e.1) :
    headerLine (line e) = some e := by
  obtain ⟨k, v⟩ := e
  simp only [headerLine, line]
  rw [breakOn_COLONSP_found _ h2]
  have : containsByte COLON k = false := containsByte_eq_false.mpr h2
  cases k with
  | nil => exact absurd rfl h1
  | cons c k => simp [this]

theorem headerLines_map_line (m : List (Bytes × Bytes)) (hm : ∀ e ∈ m, e.1 ≠ [] ∧ COLON ∉ e.1) :
    headerLines (m.map line) = some m := by
  induction m with
  | nil => rfl
  | cons e m ih =>
    simp only [List.map_cons, headerLines, headerLine_line (hm e (by simp)).1 (hm e (by simp)).2,
      ih (fun e h => hm e (by simp [h]))]

/-- the strict reader inverts the serialiser; the start line may be empty -/
theorem parse_render_crlf (start : Bytes) (m : List (Bytes × Bytes)) (body : Bytes)
    (hs : ¬ CRLF <:+: start) (hm : ∀ e ∈ m, EntryOkW e) :
    parse (start ++ CRLF ++ Sock.headerLines m ++ CRLF ++ body) =
      some { start := start, headers := m, body := body } := by
  have hc : ∀ e ∈ m, ¬ CRLF <:+: e.1 ∧ ¬ CRLF <:+: e.2 := fun e he => (hm e he).2.2
  rw [parse, breakOn_CRLF2_render start m body hs hc]
  show (match split CRLF 0 (start ++ hl2 m) with | [] => _ | start :: ls => _) = _
  rw [← joinWith_lines, split_CRLF_joinWith _ (by simp) (lines_noCRLF hs hc)]
  simp only [headerLines_map_line m (fun e he => ⟨(hm e he).1, (hm e he).2.1⟩)]

/-- for pieces free of CR altogether, as the handlers use `Socket::writeHeaders` -/
theorem parse_render (start : Bytes) (m : List (Bytes × Bytes)) (body : Bytes)
    (hs : CR ∉ start) (hm : ∀ e ∈ m, EntryOk e) :
    parse (start ++ CRLF ++ Sock.headerLines m ++ CRLF ++ body) =
      some { start := start, headers := m, body := body } :=
  parse_render_crlf start m body (fun c => hs (CR_mem_of_CRLF_infix c))
    (fun e he => entryOkW_of_entryOk (hm e he))

/-- `parse_render_crlf` in the form the proxy theorems quote; `hne` is not needed -/
theorem parse_render_w (start : Bytes) (m : List (Bytes × Bytes)) (body : Bytes)
    (hne : start ≠ []) (hs : ¬ CRLF <:+: start) (hm : ∀ e ∈ m, EntryOkW e) :
    parse (start ++ CRLF ++ Sock.headerLines m ++ CRLF ++ body) =
      some { start := start, headers := m, body := body } :=
  parse_render_crlf start m body hs hm

def HTTP10 : Bytes := lit ['H','T','T','P','/','1','.','0',' ']

theorem statusLine_render (n : Nat) (reason : Bytes) :
    statusLine (HTTP10 ++ natDigits n ++ [SP] ++ reason) = some { code := n, reason := reason } := by
  have h : HTTP10 = [72, 84, 84, 80, 47, 49, 46, 48, 32] := by decide
  have hsp : SP ∉ natDigits n := natDigits_not_mem n (Or.inl (by decide))
  rw [h]
  show statusLine (72 :: 84 :: 84 :: 80 :: 47 :: 49 :: 46 :: 48 :: 32 :: (natDigits n ++ [SP] ++ reason)) = _
  simp only [statusLine]
  rw [breakOn_found (d := []) _ hsp]
  have h1 : natDigits n ≠ [] := natDigits_ne_nil n
  have h2 := List.all_eq_true.mp (natDigits_all n)
  simp [h1, digitsVal_natDigits]; exact h2

theorem statusLine_intText {code : Int} (hc : 0 ≤ code) (reason : Bytes) :
    statusLine (HTTP10 ++ intText code ++ [SP] ++ reason) = some { code := code.natAbs, reason := reason } := by
  rw [intText_of_nonneg hc, statusLine_render]

/-! ### header values read back -/

theorem valuesOf_single {name k v : Bytes} (hk : (lower k == lower name) = true) (hv : (44 : UInt8) ∉ v)
    {a b : List (Bytes × Bytes)}
    (ha : ∀ e ∈ a, (lower e.1 == lower name) = false) (hb : ∀ e ∈ b, (lower e.1 == lower name) = false) :
    valuesOf name (a ++ (k, v) :: b) = [v] := by
  have fa : a.filter (fun h => lower h.1 == lower name) = [] := List.filter_eq_nil_iff.2 (by
    intro e he; rw [ha e he]; simp)
  have fb : b.filter (fun h => lower h.1 == lower name) = [] := List.filter_eq_nil_iff.2 (by
    intro e he; rw [hb e he]; simp)
  simp only [valuesOf, List.filter_append, fa, List.nil_append, List.filter_cons, hk, if_true, fb,
    List.flatMap_cons, List.flatMap_nil, List.append_nil]
  exact splitAll_of_not_mem hv

theorem valuesOf_none {name : Bytes} {a : List (Bytes × Bytes)}
    (ha : ∀ e ∈ a, (lower e.1 == lower name) = false) : valuesOf name a = [] := by
  have fa : a.filter (fun h => lower h.1 == lower name) = [] := List.filter_eq_nil_iff.2 (by
    intro e he; rw [ha e he]; simp)
  simp [valuesOf, fa]

end Qhttp.Http
