import Qhttp.Lemmas.C15Slot
import Qhttp.Lemmas.C09Run
import Qhttp.Props.C01
/-
  C15 — the phases of a run of the slot application in which the application can still act
  (`Act`): `PH` (head incomplete) and `P2` (invocation deferred until the declared body is
  readable), and what `readHeaders` and `readData` make of them.
-/
namespace Qhttp.C15L
open Qhttp SlotHandler

/-- the control fields that decide whether a response can be written, as one tuple: a record
    update that touches none of them keeps it by a single `rfl` -/
def ctl (s : Sock) : Bool × Bool × Bool × Bool × Bool × Bool × WState × HeaderMap :=
  (s.alive, s.ioOpen, s.tcp.devOpen, s.dcFlag, s.delPending, s.closeCalled, s.ws, s.respHeaders)

/-- nothing was written, closed or invoked yet; `c`: the transport is still connected -/
structure Opn (c : Bool) (s : Sock) : Prop where
  ctl : ctl s = (true, true, true, false, false, false, .none, [])
  conn : c = true → s.tcp.conn = .connected
  slots : slotsL s.log = []
  wire : Obs.wire s.log = []

section
variable {c : Bool} {s s' : Sock}

theorem Opn.alive (h : Opn c s) : s.alive = true := congrArg (·.1) h.ctl
theorem Opn.ioOpen (h : Opn c s) : s.ioOpen = true := congrArg (·.2.1) h.ctl
theorem Opn.devOpen (h : Opn c s) : s.tcp.devOpen = true := congrArg (·.2.2.1) h.ctl
theorem Opn.dcFlag (h : Opn c s) : s.dcFlag = false := congrArg (·.2.2.2.1) h.ctl
theorem Opn.delPending (h : Opn c s) : s.delPending = false := congrArg (·.2.2.2.2.1) h.ctl
theorem Opn.closeCalled (h : Opn c s) : s.closeCalled = false := congrArg (·.2.2.2.2.2.1) h.ctl
theorem Opn.ws (h : Opn c s) : s.ws = .none := congrArg (·.2.2.2.2.2.2.1) h.ctl
theorem Opn.respH (h : Opn c s) : s.respHeaders = [] := congrArg (·.2.2.2.2.2.2.2) h.ctl

theorem Opn.same (h : Opn c s) (h1 : C15L.ctl s' = C15L.ctl s) (h2 : s'.tcp.conn = s.tcp.conn)
    (h3 : s'.log = s.log) : Opn c s' :=
  ⟨h1.trans h.ctl, fun hc => h2.trans (h.conn hc), by rw [h3]; exact h.slots, by rw [h3]; exact h.wire⟩

theorem Opn.log1 (h : Opn c s) (o : Obs) (h1 : slotsL [o] = []) (h2 : Obs.wire [o] = []) :
    Opn c { s with log := s.log ++ [o] } :=
  ⟨h.ctl, h.conn, by show slotsL (s.log ++ [o]) = []; rw [slotsL_append, h.slots, h1]; rfl,
    by show Obs.wire (s.log ++ [o]) = []; rw [Obs.wire_append, h.wire, h2]; rfl⟩

theorem Opn.weaken (h : Opn c s) : Opn false s := ⟨h.ctl, fun hc => absurd hc (by simp), h.slots, h.wire⟩

theorem Opn.not_silent (h : Opn c s) : ¬ Silent s := by
  intro hs
  rcases hs with hs | hs
  · rw [any_isSlot_false_iff.mpr h.slots] at hs; exact absurd hs (by simp)
  · exact hs h.ws
end

theorem close_ws (s : Sock) : (Sock.close s).ws = .finished := by
  unfold Sock.close Sock.tcpClose
  simp only
  split
  · rfl
  · split
    · split <;> rfl
    · rfl

theorem writeError_ws (env : Env) (s : Sock) (code : Int) (r : Option Bytes) :
    (Sock.writeError env s code r).ws = .finished := by
  unfold Sock.writeError; exact close_ws _

theorem Opn.api_err {s : Sock} (env : Env) (app : App) (h : Opn true s) (code : Int) :
    (Sock.api env app s (.err code none)).rs = .finished ∧
    (Sock.api env app s (.err code none)).ws = .finished ∧
    slotsL (Sock.api env app s (.err code none)).log = [] ∧
    Obs.wire (Sock.api env app s (.err code none)).log = C09L.errWire env code := by
  obtain ⟨g1, g2, g3, g4, g5, g6⟩ := C09L.writeError_state env s code h.ioOpen h.devOpen (h.conn rfl)
  have p : Sock.apiPrim env s (.err code none) = Sock.writeError env s code none := by
    simp [Sock.apiPrim, h.alive]
  have e : Sock.api env app s (.err code none) = Sock.writeError env s code none := by
    unfold Sock.api
    simp only [p, g3, h.dcFlag]
    simp
  rw [e]
  refine ⟨g2, writeError_ws env s code none, ?_, ?_⟩
  · rw [g6, slotsL_append, h.slots]
    cases (C09L.errBody env code).isEmpty <;> rfl
  · rw [g6, Obs.wire_append, h.wire, h.respH]
    cases hb : (C09L.errBody env code).isEmpty
    · simp [Obs.wire, C09L.errWire]
    · have : C09L.errBody env code = [] := by simpa using hb
      simp [Obs.wire, C09L.errWire, this]

theorem Opn.api_note {s : Sock} (env : Env) (app : App) (h : Opn c s) (o : Obs) :
    Sock.api env app s (.note o) = { s with log := s.log ++ [o] } :=
  C09L.api_note env app s o h.alive h.dcFlag

def cutBuf (t : Int) (rest : Bytes) : Bytes :=
  if t ≥ 0 && (rest.length : Int) > t then rest.take t.toNat else rest

/-- the state in which `headersParsed` is emitted -/
def hpS (s : Sock) (m : Nat) (rp p : Bytes) (hd : HeaderMap) (q : List (Bytes × Bytes)) (buf : Bytes) (t : Int) : Sock :=
  { s with method := m, rawPath := rp, reqHeaders := hd, path := p, query := q,
           readBuffer := buf, rs := .data, total := t }

structure HpOf (s sH : Sock) (buf : Bytes) (t : Int) : Prop where
  ctl : C15L.ctl sH = C15L.ctl s
  tcp : sH.tcp = s.tcp
  log : sH.log = s.log
  qio : sH.qio = s.qio
  dataRead : sH.dataRead = s.dataRead
  rs : sH.rs = .data
  buf : sH.readBuffer = buf
  total : sH.total = t

theorem readHeaders_rej (env : Env) (app : App) (s : Sock) (head rest : Bytes)
    (hrq : s.reqHeaders = []) (hb : breakOn CRLF2 s.readBuffer = some (head, rest))
    (he : C01.expect env head = none) :
    Sock.readHeaders env app s =
      (if (Sock.writeError env s 400 none).dcFlag then Sock.emitDc env app (Sock.writeError env s 400 none)
       else Sock.writeError env s 400 none, false) := by
  refine Sock.readHeaders_bad env app s hb fun rh hp => ?_
  unfold C01.expect at he
  rw [hrq] at hp
  rw [hp] at he
  simp only at he
  cases hu : env.url rh.rawPath with
  | none => rfl
  | some pq => rw [hu] at he; cases he

theorem readHeaders_acc (env : Env) (app : App) (s : Sock) (head rest : Bytes) (f : Snap)
    (hrq : s.reqHeaders = []) (ht : s.total = -1)
    (hb : breakOn CRLF2 s.readBuffer = some (head, rest))
    (he : C01.expect env head = some f) :
    ∃ sH, HpOf s sH (cutBuf f.total rest) f.total ∧
      Sock.readHeaders env app s = (Sock.emit env app sH .hp (app.onHp sH), true) := by
  unfold C01.expect at he
  cases hp : Parser.parseRequestHeaders head [] with
  | none => rw [hp] at he; simp at he
  | some rh =>
    rw [hp] at he
    simp only at he
    cases hu : env.url rh.rawPath with
    | none => rw [hu] at he; simp at he
    | some pq =>
      obtain ⟨p, q⟩ := pq
      rw [hu] at he
      simp only [Option.some.injEq] at he
      refine ⟨hpS s rh.method rh.rawPath p rh.headers
        (q.foldl (fun m e => Sock.qmInsert e.1 e.2 m) s.query) (cutBuf f.total rest) f.total,
        ⟨rfl, rfl, rfl, rfl, rfl, rfl, rfl, rfl⟩, ?_⟩
      unfold Sock.readHeaders
      rw [hb, hrq]
      simp only [hp, hu]
      by_cases hc : HeaderMap.contains Sock.CONTENT_LENGTH rh.headers = true
      · have hft : f.total = toLongLong (HeaderMap.value Sock.CONTENT_LENGTH rh.headers) := by
          rw [← he]; simp [hc]
        simp only [Sock.CONTENT_LENGTH_KEY, hc, if_true]
        rw [hft]
        rfl
      · have hft : f.total = -1 := by
          rw [← he]; simp [hc]
        simp only [Sock.CONTENT_LENGTH_KEY, hc]
        rw [hft]
        have : cutBuf (-1) rest = rest := by simp [cutBuf]
        rw [this]
        obtain ⟨tcp, rb, qio, rs, method, rawPath, path, query, reqHeaders, dataRead, total, ws, code, reason,
          respHeaders, hdrRemaining, ioOpen, initPending, closeCalled, dcFlag, delPending, alive, log⟩ := s
        simp only at ht
        subst ht
        rfl

/-- nothing was written, closed, invoked or read.  `r`: the read state, `t`: the declared length
    (`-1` before the head is parsed), `hp`: `headersParsed` was emitted, `B`: the buffer, `inb`: what
    the transport holds and `onReadyRead` has not pulled yet.  Past the head, fewer than `t` body
    bytes are buffered. -/
structure Act (c : Bool) (r : RState) (t : Int) (hp : Bool) (B inb : Bytes) (s : Sock) : Prop where
  opn : Opn c s
  rs : s.rs = r
  buf : s.readBuffer = B
  inbox : s.tcp.inbox = inb
  reqH : r = .headers → s.reqHeaders = []
  qio : s.qio = []
  dataRead : s.dataRead = 0
  total : s.total = t
  hp : s.log.any Obs.isHp = hp
  short : r = .data → (B.length : Int) < t

/-- the head is not complete -/
abbrev PH (c : Bool) (B inb : Bytes) (s : Sock) : Prop := Act c .headers (-1) false B inb s

/-- the invocation is deferred: fewer than `N` body bytes are buffered -/
abbrev P2 (c : Bool) (N : Nat) (B inb : Bytes) (s : Sock) : Prop := Act c .data (N : Int) true B inb s

/-- everything `Act` mentions except the transport's inbox and connection -/
def core (s : Sock) :=
  (C15L.ctl s, s.log, s.rs, s.readBuffer, s.reqHeaders, s.qio, s.dataRead, s.total)

section
variable {c hp : Bool} {r : RState} {t : Int} {B inb : Bytes} {s : Sock}

theorem Act.same {inb' : Bytes} {s' : Sock} (h : Act c r t hp B inb s) (h1 : core s' = core s)
    (h2 : s'.tcp.conn = s.tcp.conn) (h3 : s'.tcp.inbox = inb') : Act c r t hp B inb' s' := by
  simp only [core, Prod.mk.injEq] at h1
  obtain ⟨e1, e2, e3, e4, e5, e6, e7, e8⟩ := h1
  exact ⟨h.opn.same e1 h2 e2, e3.trans h.rs, e4.trans h.buf, h3, fun hr => e5.trans (h.reqH hr),
    e6.trans h.qio, e7.trans h.dataRead, e8.trans h.total, by rw [e2]; exact h.hp, h.short⟩

theorem Act.log1 (h : Act c r t hp B inb s) (o : Obs) (ho : passive o = true) :
    Act c r t hp B inb { s with log := s.log ++ [o] } := by
  obtain ⟨p1, p2, p3, _⟩ := passive_facts [o] (by simp [ho])
  exact ⟨h.opn.log1 o p1 p2, h.rs, h.buf, h.inbox, h.reqH, h.qio, h.dataRead, h.total,
    by show (s.log ++ [o]).any Obs.isHp = hp; rw [List.any_append, h.hp, p3, Bool.or_false], h.short⟩

theorem Act.weaken (h : Act c r t hp B inb s) : Act false r t hp B inb s :=
  ⟨h.opn.weaken, h.rs, h.buf, h.inbox, h.reqH, h.qio, h.dataRead, h.total, h.hp, h.short⟩

theorem Act.unconn (h : Act c r t hp B inb s) :
    Act false r t hp B inb { s with tcp := { s.tcp with conn := .unconnected } } :=
  ⟨⟨h.opn.ctl, fun hc => absurd hc (by simp), h.opn.slots, h.opn.wire⟩, h.rs, h.buf, h.inbox, h.reqH,
    h.qio, h.dataRead, h.total, h.hp, h.short⟩

theorem Act.pull (h : Act c r t hp B inb s) (hs : r = .data → ((B ++ inb).length : Int) < t) :
    Act c r t hp (B ++ inb) [] (C02.pullS s) := by
  unfold C02.pullS
  rw [if_pos h.opn.devOpen]
  exact ⟨h.opn.same rfl rfl rfl, h.rs, by show s.readBuffer ++ s.tcp.inbox = _; rw [h.buf, h.inbox],
    rfl, h.reqH, h.qio, h.dataRead, h.total, h.hp, hs⟩

end

theorem bytesAvailable_data (s : Sock) (h : s.rs ≠ .headers) :
    Sock.bytesAvailable s = s.readBuffer.length + s.qio.length := by
  simp [Sock.bytesAvailable, h]

section emits
variable (env : Env) (regs : List Reg) (path : QStr)

theorem apis_single (app : App) (s : Sock) (op : ApiOp) : Sock.apis env app s [op] = Sock.api env app s op := rfl

theorem emit_err {t : Sock} (h : Opn true t) (o : Obs) (h1 : slotsL [o] = []) (h2 : Obs.wire [o] = [])
    (code : Int) :
    (Sock.emit env (app regs path) t o [.err code none]).rs = .finished ∧
    (Sock.emit env (app regs path) t o [.err code none]).ws = .finished ∧
    slotsL (Sock.emit env (app regs path) t o [.err code none]).log = [] ∧
    Obs.wire (Sock.emit env (app regs path) t o [.err code none]).log = C09L.errWire env code := by
  unfold Sock.emit
  rw [apis_single]
  exact (h.log1 o h1 h2).api_err env _ code

theorem emit_invoke {t : Sock} (h : Opn true t) (o : Obs) (h1 : slotsL [o] = []) (h2 : Obs.wire [o] = [])
    (m : Reg) :
    (m.good = true → Sock.emit env (app regs path) t o (invoke m t) =
        { t with log := t.log ++ [o] ++ [Obs.slot m.idx (Sock.bytesAvailable t)] }) ∧
    (m.good = false →
      (Sock.emit env (app regs path) t o (invoke m t)).rs = .finished ∧
      (Sock.emit env (app regs path) t o (invoke m t)).ws = .finished ∧
      slotsL (Sock.emit env (app regs path) t o (invoke m t)).log = [] ∧
      Obs.wire (Sock.emit env (app regs path) t o (invoke m t)).log = C09L.errWire env 500) := by
  constructor
  · intro hg
    unfold invoke; rw [if_pos hg]
    unfold Sock.emit
    rw [apis_single, (h.log1 o h1 h2).api_note]
  · intro hg
    unfold invoke; rw [if_neg (by simp [hg])]
    exact emit_err env regs path h o h1 h2 500

end emits

section rds
variable (env : Env) (regs : List Reg) (path : QStr)

theorem P2.readDataSlot_short {c : Bool} {N : Nat} {B : Bytes} {t : Sock} (h : P2 c N B [] t) :
    P2 c N B [] (Sock.readDataSlot env (app regs path) t) := by
  rw [C02.readDataSlot_eq]
  have hlen := h.short rfl
  rw [← h.buf] at hlen
  have e1 : C02.cutS t = t := by
    unfold C02.cutS
    rw [if_neg]
    rw [h.total, h.dataRead]
    simp; omega
  rw [e1]
  have h2 : P2 c N B [] (C02.rrS env (app regs path) t) := by
    unfold C02.rrS
    split
    · exact h.log1 .rr rfl
    · exact h
  generalize C02.rrS env (app regs path) t = t2 at h2
  have hlen2 := h2.short rfl
  rw [← h2.buf] at hlen2
  unfold C02.finS
  rw [if_neg]
  · exact h2
  · rw [h2.total, h2.dataRead]
    simp; omega

theorem onRcf_fire {t : Sock} {m : Reg} (hl : lookup regs path = some m) (hra : m.readAll = true)
    (hs : slotsL t.log = []) (hw : t.ws = .none) (hp : t.log.any Obs.isHp = true) :
    onRcf regs path t = invoke m t := by
  unfold onRcf
  rw [hl]
  simp only
  rw [if_pos]
  simp [hra, any_isSlot_false_iff.mpr hs, hw, hp]

/-- exactly the declared `N` body bytes are buffered and the invocation is still pending -/
def Full (N : Nat) (t : Sock) : Prop :=
  Opn true t ∧ t.rs = .data ∧ t.readBuffer.length = N ∧ t.qio = [] ∧ t.dataRead = 0 ∧
    t.total = (N : Int) ∧ t.log.any Obs.isHp = true

/-- `readData` when the declared length is reached with the invocation still pending -/
theorem readDataSlot_full {N : Nat} {B : Bytes} {t : Sock} {m : Reg}
    (ho : Opn true t) (hrs : t.rs = .data) (hb : t.readBuffer = B) (hN : N ≤ B.length)
    (hq : t.qio = []) (hd : t.dataRead = 0) (ht : t.total = (N : Int))
    (hp : t.log.any Obs.isHp = true)
    (hl : lookup regs path = some m) (hra : m.readAll = true) :
    Quiet (Sock.readDataSlot env (app regs path) t) ∧
    (m.good = true → slotsL (Sock.readDataSlot env (app regs path) t).log = [(m.idx, N)]) ∧
    (m.good = false → slotsL (Sock.readDataSlot env (app regs path) t).log = [] ∧
      Obs.wire (Sock.readDataSlot env (app regs path) t).log = C09L.errWire env 500) := by
  rw [C02.readDataSlot_eq]
  -- the cut
  have h1 : Full N (C02.cutS t) := by
    unfold C02.cutS
    split
    · refine ⟨ho.same rfl rfl rfl, hrs, ?_, hq, hd, ht, hp⟩
      show (t.readBuffer.take (t.total - t.dataRead).toNat).length = N
      rw [ht, hd, hb]; simp; omega
    · rename_i hc
      refine ⟨ho, hrs, ?_, hq, hd, ht, hp⟩
      rw [ht, hd, hb] at hc
      simp at hc
      rw [hb]; omega
  generalize C02.cutS t = t1 at h1
  obtain ⟨o1, r1, b1, q1, d1, tt1, p1⟩ := h1
  -- readyRead
  have h2 : Full N (C02.rrS env (app regs path) t1) := by
    unfold C02.rrS
    split
    · exact ⟨o1.log1 .rr rfl rfl, r1, b1, q1, d1, tt1,
        by show (t1.log ++ [Obs.rr]).any Obs.isHp = true; rw [List.any_append, p1]; rfl⟩
    · exact ⟨o1, r1, b1, q1, d1, tt1, p1⟩
  generalize C02.rrS env (app regs path) t1 = t2 at h2
  obtain ⟨o2, r2, b2, q2, d2, tt2, p2⟩ := h2
  -- readChannelFinished
  unfold C02.finS
  rw [if_pos (by rw [tt2, d2, b2]; simp)]
  have o3 : Opn true { t2 with rs := .finished } := o2.same rfl rfl rfl
  have hfire : (app regs path).onRcf { t2 with rs := .finished } = invoke m { t2 with rs := .finished } :=
    onRcf_fire regs path hl hra o3.slots o3.ws p2
  rw [hfire]
  have hav : Sock.bytesAvailable { t2 with rs := .finished } = N := by
    rw [bytesAvailable_data _ (by simp)]
    show t2.readBuffer.length + t2.qio.length = N
    rw [b2, q2]; rfl
  obtain ⟨g, b⟩ := emit_invoke env regs path o3 .rcf rfl rfl m
  cases hg : m.good with
  | true =>
    rw [g hg, hav]
    refine ⟨⟨by simp, Or.inl ?_⟩, fun _ => ?_, fun h => absurd h (by simp)⟩
    · show (t2.log ++ [Obs.rcf] ++ [Obs.slot m.idx N]).any isSlot = true
      simp [isSlot]
    · show slotsL (t2.log ++ [Obs.rcf] ++ [Obs.slot m.idx N]) = _
      rw [slotsL_append, slotsL_append, o2.slots]; rfl
  | false =>
    obtain ⟨b1, b2, b3, b4⟩ := b hg
    refine ⟨⟨by rw [b1]; simp, Or.inr (by rw [b2]; simp)⟩, fun h => absurd h (by simp), fun _ => ⟨b3, b4⟩⟩

end rds

end Qhttp.C15L
