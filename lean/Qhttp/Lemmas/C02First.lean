import Qhttp.Props.C01
/-
  The blank line that ends an accepted head is the first one of the stream: the separation
  hypothesis of the C01/C02 socket theorems follows from acceptance.
-/
namespace Qhttp.C02
open Qhttp

theorem first_of_accepted (env : Env) (head : Bytes) (h : (C01.expect env head).isSome) :
    ¬ CRLF2 <:+: head ++ CRLF2.dropLast := by
  obtain ⟨m, t, v, hs, hm, hv, _, h2, _, hl, rfl⟩ := (C01.accept_iff env head).1 h
  rw [C01.render_eq_joinWith]
  refine first_CRLF2_joinWith _ _ (fun q hq => ?_) (fun q hq => ?_)
  · rcases List.mem_cons.1 hq with rfl | hq
    · exact Parser.requestLine_no_CRLF hm hv h2
    · exact (hl q hq).2
  · rintro rfl
    obtain ⟨n, x, e, _, _⟩ := (hl [] hq).1
    simp at e

end Qhttp.C02
