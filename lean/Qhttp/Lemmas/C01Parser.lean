import Qhttp.Model.Parser
import Qhttp.Lemmas.HeaderMapLemmas
/-
  The request-head parser function by function (`parseHeaderList`, `parseHeaders`, `methodCode`,
  `parseRequestHeaders`), each with an exact characterisation on byte strings.
-/
namespace Qhttp

namespace Parser

/-- what `parseHeaderList` does with one line that contains a colon -/
def insertLine (m : HeaderMap) (l : Bytes) : HeaderMap :=
  match breakOn [COLON] l with
  | some (n, x) => HeaderMap.insert (trim n) (trim x) m
  | none => m

theorem split_colon (l : Bytes) :
    split [COLON] 1 l =
      match breakOn [COLON] l with
      | none => [l]
      | some (n, x) => [n, x] := by
  rw [split_succ_eq (by simp)]
  cases breakOn [COLON] l with
  | none => rfl
  | some p => rfl

/-- `QByteArray::trimmed().isEmpty()` (`trim_eq_nil_iff`) -/
def Blank (n : Bytes) : Prop := ∀ c ∈ n, isSp c = true

instance (n : Bytes) : Decidable (Blank n) := by unfold Blank; infer_instance

theorem dropWhile_isSp_eq_nil_iff (n : Bytes) : n.dropWhile isSp = [] ↔ Blank n := by
  unfold Blank
  induction n with
  | nil => simp
  | cons c r ih =>
    rw [List.dropWhile_cons]
    cases hc : isSp c with
    | true => simp [ih, hc]
    | false => simp [hc]

theorem trimL_eq_nil_iff (n : Bytes) : trimL n = [] ↔ Blank n := dropWhile_isSp_eq_nil_iff n

theorem trimR_eq_nil_iff (n : Bytes) : trimR n = [] ↔ Blank n := by
  unfold trimR
  rw [List.reverse_eq_nil_iff, dropWhile_isSp_eq_nil_iff]
  unfold Blank
  simp only [List.mem_reverse]

theorem trim_eq_nil_iff (n : Bytes) : trim n = [] ↔ Blank n := by
  unfold trim
  rw [trimR_eq_nil_iff]
  constructor
  · intro h
    by_cases hb : Blank n
    · exact hb
    · -- the first byte kept by `trimL` is not white space
      exfalso
      have hne : n.dropWhile isSp ≠ [] := fun e => hb ((trimL_eq_nil_iff n).1 e)
      have h1 := List.head_dropWhile_not isSp hne
      have h2 := h _ (List.head_mem hne)
      rw [h2] at h1
      cases h1
  · intro h c hc
    exact h c ((List.dropWhile_sublist isSp).subset hc)

theorem trim_isEmpty_iff (n : Bytes) : (trim n).isEmpty = true ↔ Blank n := by
  rw [List.isEmpty_iff, trim_eq_nil_iff]

/-- what `parseHeaderList` tests of a line: a colon, and a name before the FIRST colon that is
    not blank -/
def hdrLineB (l : Bytes) : Bool :=
  match breakOn [COLON] l with
  | some (n, _) => !(trim n).isEmpty
  | none => false

/-- `hdrLineB` stated on the bytes (`hdrLineB_iff`); the colon shown is the first one -/
def HdrLine (l : Bytes) : Prop :=
  ∃ n x, l = n ++ [COLON] ++ x ∧ COLON ∉ n ∧ ∃ c ∈ n, isSp c = false

theorem not_blank_iff (n : Bytes) : ¬ Blank n ↔ ∃ c ∈ n, isSp c = false := by
  simp only [Blank, Classical.not_forall, Bool.not_eq_true, exists_prop]

theorem hdrLineB_iff (l : Bytes) : hdrLineB l = true ↔ HdrLine l := by
  unfold hdrLineB HdrLine
  constructor
  · intro h
    cases hb : breakOn [COLON] l with
    | none => rw [hb] at h; cases h
    | some p =>
      obtain ⟨n, x⟩ := p
      rw [hb] at h
      simp only [Bool.not_eq_true'] at h
      refine ⟨n, x, breakOn_some hb, breakOn_singleton_not_mem hb, (not_blank_iff n).1 ?_⟩
      intro hbl
      rw [(trim_isEmpty_iff n).2 hbl] at h
      cases h
  · rintro ⟨n, x, rfl, hn, hc⟩
    rw [breakOn_singleton x hn]
    simp only [Bool.not_eq_true']
    cases he : (trim n).isEmpty with
    | false => rfl
    | true => exact absurd ((trim_isEmpty_iff n).1 he) ((not_blank_iff n).2 hc)

theorem colon_mem_of_hdrLineB {l : Bytes} (h : hdrLineB l = true) : COLON ∈ l := by
  obtain ⟨n, x, rfl, _, _⟩ := (hdrLineB_iff l).1 h
  simp

theorem parseHeaderList_cons (l : Bytes) (rest : List Bytes) (m : HeaderMap) :
    parseHeaderList (l :: rest) m =
      if hdrLineB l then parseHeaderList rest (insertLine m l) else none := by
  rw [parseHeaderList, split_colon]
  unfold hdrLineB
  cases hb : breakOn [COLON] l with
  | none => simp
  | some p =>
    obtain ⟨n, x⟩ := p
    simp only [insertLine, hb]
    cases (trim n).isEmpty <;> simp

theorem parseHeaderList_eq (hs : List Bytes) (m : HeaderMap) :
    parseHeaderList hs m =
      if ∀ l ∈ hs, hdrLineB l = true then some (hs.foldl insertLine m) else none := by
  induction hs generalizing m with
  | nil => simp [parseHeaderList]
  | cons l rest ih =>
    rw [parseHeaderList_cons]
    by_cases h : hdrLineB l = true
    · rw [if_pos h, ih]
      simp [h]
    · rw [if_neg h, if_neg]
      intro c
      exact h (c l (by simp))

def lineValue (k : Bytes) (l : Bytes) : Option Bytes :=
  match breakOn [COLON] l with
  | some (n, x) => if lower (trim n) = lower k then some (trim x) else none
  | none => none

theorem values_insertLine (k : Bytes) (m : HeaderMap) (l : Bytes) :
    HeaderMap.values k (insertLine m l) =
      (match lineValue k l with | some x => [x] | none => []) ++ HeaderMap.values k m := by
  unfold insertLine lineValue
  cases breakOn [COLON] l with
  | none => simp
  | some p =>
    obtain ⟨n, x⟩ := p
    simp only [HeaderMap.values_insert]
    by_cases h : lower (trim n) = lower k
    · have : HeaderMap.keyEq (trim n) k = true := HeaderMap.keyEq_iff.2 h
      simp [this, h]
    · have : ¬ HeaderMap.keyEq (trim n) k = true := fun c => h (HeaderMap.keyEq_iff.1 c)
      simp [this, h]

theorem values_foldl_insertLine (k : Bytes) (hs : List Bytes) (m : HeaderMap) :
    HeaderMap.values k (hs.foldl insertLine m) =
      hs.reverse.filterMap (lineValue k) ++ HeaderMap.values k m := by
  induction hs generalizing m with
  | nil => simp
  | cons l rest ih =>
    rw [List.foldl_cons, ih, values_insertLine, List.reverse_cons, List.filterMap_append]
    cases hlv : lineValue k l <;> simp [hlv]

theorem split_SP2_eq_iff (first p0 p1 p2 : Bytes) :
    split [SP] 2 first = [p0, p1, p2] ↔
      SP ∉ p0 ∧ SP ∉ p1 ∧ first = p0 ++ [SP] ++ p1 ++ [SP] ++ p2 := by
  constructor
  · -- joining the pieces gives the input back, and all pieces but the last are free of the delimiter
    intro h
    have hj := join_split [SP] 2 first
    have hn := split_dropLast_not_infix (d := [SP]) (by simp) 2 first
    rw [h] at hj hn
    refine ⟨fun c => hn p0 (by simp) (singleton_infix_iff.2 c),
      fun c => hn p1 (by simp) (singleton_infix_iff.2 c), ?_⟩
    rw [← hj]
    simp [joinWith, List.append_assoc]
  · rintro ⟨h0, h1, rfl⟩
    have e : p0 ++ [SP] ++ p1 ++ [SP] ++ p2 = p0 ++ [SP] ++ (p1 ++ [SP] ++ p2) := by
      simp [List.append_assoc]
    rw [split_succ_eq (by simp) 1, e, breakOn_singleton _ h0]
    simp only [if_neg (show (1 : Nat) ≠ 0 by decide)]
    rw [split_succ_eq (by simp) 0, breakOn_singleton _ h1]
    simp

/-- the request line is cut at its first two spaces, so `p2` may contain more -/
theorem parseHeaders_eq_some_iff (data : Bytes) (m : HeaderMap) (p0 p1 p2 : Bytes)
    (m' : HeaderMap) :
    parseHeaders data m = some (p0, p1, p2, m') ↔
      ∃ hs, SP ∉ p0 ∧ SP ∉ p1 ∧ ¬ CRLF <:+: p0 ++ [SP] ++ p1 ++ [SP] ++ p2 ∧
        (∀ l ∈ hs, ¬ CRLF <:+: l) ∧ parseHeaderList hs m = some m' ∧
        data = joinWith CRLF ((p0 ++ [SP] ++ p1 ++ [SP] ++ p2) :: hs) := by
  constructor
  · intro h
    unfold parseHeaders at h
    have hj := join_split CRLF 0 data
    have hn := split_zero_not_infix CRLF_ne_nil data
    cases hs : split CRLF 0 data with
    | nil => rw [hs] at h; cases h
    | cons first lines =>
      rw [hs] at h hj hn
      simp only at h
      split at h
      · rename_i q0 q1 q2 hsp
        split at h
        · rename_i m2 hpl
          cases h
          obtain ⟨h0, h1, rfl⟩ := (split_SP2_eq_iff _ _ _ _).1 hsp
          exact ⟨lines, h0, h1, hn _ (by simp), fun l hl => hn l (by simp [hl]), hpl, hj.symm⟩
        · cases h
      · cases h
  · rintro ⟨hs, h0, h1, hf, hl, hpl, rfl⟩
    unfold parseHeaders
    rw [split_CRLF_joinWith _ (by simp) (by
      intro p hp
      rcases List.mem_cons.1 hp with rfl | hp
      · exact hf
      · exact hl p hp)]
    simp only
    rw [(split_SP2_eq_iff _ p0 p1 p2).2 ⟨h0, h1, rfl⟩]
    simp only [hpl]

def OPTIONS : Bytes := lit ['O','P','T','I','O','N','S']
def GET : Bytes := lit ['G','E','T']
def HEAD : Bytes := lit ['H','E','A','D']
def POST : Bytes := lit ['P','O','S','T']
def PUT : Bytes := lit ['P','U','T']
def DELETE : Bytes := lit ['D','E','L','E','T','E']
def TRACE : Bytes := lit ['T','R','A','C','E']
def CONNECT : Bytes := lit ['C','O','N','N','E','C','T']

/-- the eight RFC 2616 method tokens -/
def eightMethods : List Bytes := [OPTIONS, GET, HEAD, POST, PUT, DELETE, TRACE, CONNECT]

theorem find?_key_eq_some_iff {l : List (Bytes × Nat)} (hnd : (l.map (·.1)).Nodup) (k : Bytes)
    (c : Nat) : (l.find? (fun e => e.1 == k)).map (·.2) = some c ↔ (k, c) ∈ l := by
  induction l with
  | nil => simp
  | cons e l ih =>
    rw [List.map_cons, List.nodup_cons] at hnd
    rw [List.find?_cons, List.mem_cons]
    by_cases he : e.1 = k
    · subst he
      rw [beq_self_eq_true, Option.map_some, Option.some.injEq]
      refine ⟨fun h => Or.inl (h ▸ rfl), fun h => h.elim (fun h => (congrArg Prod.snd h).symm) ?_⟩
      exact fun h => absurd (List.mem_map.2 ⟨_, h, rfl⟩) hnd.1
    · rw [beq_eq_false_iff_ne.2 he, ih hnd.2]
      exact ⟨Or.inr, fun h => h.resolve_left (fun h' => he (congrArg Prod.fst h').symm)⟩

theorem methodCode_eq_some_iff (tok : Bytes) (c : Nat) :
    methodCode tok = some c ↔ (tok, c) ∈ methodTable :=
  find?_key_eq_some_iff (by decide +kernel) tok c

theorem methodCode_ne_none_iff_mem {tok : Bytes} : methodCode tok ≠ none ↔ tok ∈ eightMethods := by
  rw [show eightMethods = methodTable.map (·.1) from rfl, ← Option.isSome_iff_ne_none,
    Option.isSome_iff_exists]
  simp only [methodCode_eq_some_iff, List.mem_map]
  exact ⟨fun ⟨c, h⟩ => ⟨(tok, c), h, rfl⟩, fun ⟨⟨_, c⟩, h, e⟩ => ⟨c, e ▸ h⟩⟩

theorem methodCode_ne_none_iff (tok : Bytes) :
    methodCode tok ≠ none ↔
      tok = OPTIONS ∨ tok = GET ∨ tok = HEAD ∨ tok = POST ∨ tok = PUT ∨ tok = DELETE ∨
      tok = TRACE ∨ tok = CONNECT := by
  rw [methodCode_ne_none_iff_mem]
  simp only [eightMethods, List.mem_cons, List.not_mem_nil, or_false]

/-- the codes are the eight distinct powers of two of `Socket::Method` -/
theorem methodCodes :
    eightMethods.map methodCode = [some 1, some 2, some 4, some 8, some 16, some 32, some 64, some 128] := by
  decide +kernel

theorem method_no_SP_CR {tok : Bytes} (h : methodCode tok ≠ none) : SP ∉ tok ∧ (13 : UInt8) ∉ tok :=
  (by decide +kernel : ∀ t ∈ eightMethods, SP ∉ t ∧ (13 : UInt8) ∉ t) tok
    (methodCode_ne_none_iff_mem.1 h)

theorem version_no_CR {v : Bytes} (h : v = HTTP10 ∨ v = HTTP11) : (13 : UInt8) ∉ v := by
  rcases h with rfl | rfl <;> decide +kernel

theorem requestLine_no_CRLF {m t v : Bytes} (hm : methodCode m ≠ none)
    (hv : v = HTTP10 ∨ v = HTTP11) (ht : ¬ CRLF <:+: t) :
    ¬ CRLF <:+: m ++ [SP] ++ t ++ [SP] ++ v := by
  have hsp : SP ∉ CRLF := by decide
  have h1 : ¬ CRLF <:+: m := fun c => (method_no_SP_CR hm).2 (CR_mem_of_CRLF_infix c)
  have h2 : ¬ CRLF <:+: v := fun c => version_no_CR hv (CR_mem_of_CRLF_infix c)
  exact not_infix_append_sep (not_infix_append_sep h1 ht hsp) h2 hsp

theorem parseRequestHeaders_eq_some_iff (data : Bytes) (m0 : HeaderMap) (rh : ReqHead) :
    parseRequestHeaders data m0 = some rh ↔
      ∃ p0 p2, parseHeaders data m0 = some (p0, rh.rawPath, p2, rh.headers) ∧
        (p2 = HTTP10 ∨ p2 = HTTP11) ∧ methodCode p0 = some rh.method := by
  unfold parseRequestHeaders
  constructor
  · intro h
    split at h
    · cases h
    · rename_i p0 p1 p2 m hp
      split at h
      · cases h
      · rename_i hv
        split at h
        · cases h
        · rename_i c hc
          cases h
          refine ⟨p0, p2, hp, ?_, hc⟩
          simp only [Bool.and_eq_true, bne_iff_ne, ne_eq, not_and, Classical.not_not] at hv
          by_cases h10 : p2 = HTTP10
          · exact Or.inl h10
          · exact Or.inr (hv h10)
  · rintro ⟨p0, p2, hp, hv, hc⟩
    rw [hp]
    simp only
    have : (p2 != HTTP10 && p2 != HTTP11) = false := by
      rcases hv with rfl | rfl <;> simp
    rw [this]
    simp only [hc]
    rfl

end Parser
end Qhttp
