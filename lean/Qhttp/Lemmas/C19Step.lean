import Qhttp.Lemmas.C19Inv
/-
  C19: the run preserves the counting invariant `KS` (`run_KS`, `KS_final`: what `C19.holds_run`
  rests on).  `KS` reads `unacked` and `conn`, which `StepClosed.tcp` lets vary, and its ghost
  parameters move inside `ackN` and `peerClose`: so `ackN` and `step` are walked here by hand.
-/
namespace Qhttp.C19L
open Qhttp Qhttp.Obs Qhttp.Sock

variable {env : Env} {app : App} {ak : Nat → Nat → Nat} {q : Bool} {d m : Nat} {s : Sock}

theorem KS_same {s s' : Sock} (hs : Same s s') (h : KS ak q d m s) : KS ak q d m s' :=
  ⟨KP_same hs h.1, hs.f.trans h.2⟩

theorem hp_KS (happ : AppOK app) {s s' : Sock} (h : KS ak q d 0 s) (hr : s.rs = .headers)
    (hs : Same s s') (hr' : s'.rs ≠ .headers) :
    KS ak q d 0 (emit env app s' .hp (app.onHp s')) := by
  unfold emit
  refine apis_hp (m := 1) happ.toQ _ (happ.hp _).1 (happ.hp _).2 ⟨?_, hs.f.trans h.2⟩
  have h1 : K ak q d 1 s.tcp.unacked s.tcp.devOpen s.tcp.conn s.dcFlag (s.log ++ [.hp])
      (s'.rs = .headers) := K_rh (K_hp h.1 hr) hr'
  rw [← hs.u, ← hs.o, ← hs.c, ← hs.f, ← hs.l] at h1
  exact h1

theorem KS_slots (happ : AppOK app) (ak : Nat → Nat → Nat) (q : Bool) (d : Nat) :
    SlotClosed env app (KS ak q d 0) where
  same := fun _ _ hs h => KS_same hs h
  bad := fun _ h => fin_KS happ.toQ (writeError_frame (KP_frame ak q d 0) env _ _ h.1)
  hp := fun _ _ hs hr hr' h => hp_KS happ h hr hs hr'
  rr := fun _ h => emit_quiet happ.toQ rfl _ (happ.rr _) h
  rcf := fun _ h => emit_quiet happ.toQ rfl _ (happ.rcf _) h
  bw := fun _ _ h => emit_quiet happ.toQ rfl _ (happ.bw _) h

theorem KS_unconn (h : KS ak q 0 m s) (hc : s.tcp.conn ≠ .unconnected) :
    KS ak true 1 m { s with tcp := { s.tcp with conn := .unconnected } } := by
  obtain ⟨h1, hf⟩ := h
  unfold KP at h1
  rw [hf] at h1
  refine ⟨?_, hf⟩
  show K ak true 1 m s.tcp.unacked s.tcp.devOpen .unconnected s.dcFlag s.log _
  rw [hf]
  exact K_unconn h1 hc

theorem KS_ev (k : Nat) (h : KS ak q d m s) (hk : ak k s.tcp.unacked ≤ s.tcp.unacked) :
    KS ak false d m { s with tcp := { s.tcp with unacked := s.tcp.unacked - ak k s.tcp.unacked },
                             log := s.log ++ [.ev k] } :=
  ⟨K_ev k h.1 hk, h.2⟩

theorem KS_qtrue (h : KS ak q d m s) (hq : s.tcp.conn = .closing → 0 < s.tcp.unacked) :
    KS ak true d m s := ⟨K_qtrue h.1 hq, h.2⟩

theorem KS_q (h : KS ak true d m s) : s.tcp.conn = .closing → 0 < s.tcp.unacked :=
  h.1.2.2.2.2.2.2.2.2.2 rfl

theorem emitDc_owed (happ : AppQ app) (h : KS ak q 1 m s) : KS ak q 0 m (emitDc env app s) :=
  emitDc_KS happ h.1 (by rw [h.2]; rfl)

theorem ackN_KS (happ : AppOK app) (n a : Nat) (ha : a = min n s.tcp.unacked)
    (hq : s.tcp.conn = .closing → 0 < s.tcp.unacked)
    (h : KS ak false 0 0 { s with tcp := { s.tcp with unacked := s.tcp.unacked - a } }) :
    KS ak true 0 0 (ackN env app s n) := by
  subst ha
  unfold ackN
  extract_lets n' src s2 s3
  split
  · rename_i h0
    have : s.tcp.unacked - min n s.tcp.unacked = s.tcp.unacked := by
      simp only [n'] at h0; omega
    rw [this] at h
    exact KS_qtrue h hq
  · have h3 : KS ak false 0 0 s3 := (KS_slots happ ak false 0).onBytesWritten _ h
    split
    · rename_i hc
      simp only [Bool.and_eq_true, beq_iff_eq, decide_eq_true_eq] at hc
      exact emitDc_owed happ.toQ (KS_unconn h3 (by rw [hc.1]; simp))
    · rename_i hc
      simp only [Bool.and_eq_true, beq_iff_eq, decide_eq_true_eq, not_and] at hc
      exact KS_qtrue h3 (fun hcl => Nat.pos_of_ne_zero (hc hcl))

/-- `C19.evOK` -/
def evOK : Event → Bool
  | .api op => qOp op
  | _ => true

theorem ackE_le (e : Event) (u : Nat) : ackE e u ≤ u := by
  cases e <;> first | exact Nat.zero_le u | exact Nat.min_le_right _ u | exact Nat.le_refl u

/-- `hev`: the invariant with the decrement an acknowledgement is about to make already taken
    (`KS_ev` records it together with the event's marker); for other events it is 0 -/
theorem step_KS (happ : AppOK app) (e : Event) (he : evOK e = true) (hal : s.alive = true)
    (hq : s.tcp.conn = .closing → 0 < s.tcp.unacked)
    (hev : KS ak false 0 0
      { s with tcp := { s.tcp with unacked := s.tcp.unacked - ackE e s.tcp.unacked } }) :
    KS ak true 0 0 (step env app s e) := by
  have h1 : ackE e s.tcp.unacked = 0 → KS ak true 0 0 s := by
    intro h0
    rw [h0] at hev
    exact KS_qtrue (KS_same (.of_core rfl rfl rfl) hev) hq
  unfold step
  split
  · rename_i hd
    rw [hal] at hd; cases hd
  cases e with
  | prebuf bs => exact KS_same (.of_core rfl rfl rfl) (h1 rfl)
  | new => exact KS_same (.of_core rfl rfl rfl) (h1 rfl)
  | feed seg =>
    exact (KS_slots happ ak true 0).onReadyRead
      (KS_same (.of_core rfl rfl rfl) (h1 rfl))
  | ack n => exact ackN_KS happ n (ackE (.ack n) s.tcp.unacked) rfl hq hev
  | ackAll =>
    exact ackN_KS happ _ (ackE .ackAll s.tcp.unacked) (Nat.min_self _).symm hq hev
  | peerClose =>
    dsimp only
    split
    · exact h1 rfl
    · rename_i hc
      exact emitDc_owed happ.toQ ((KS_slots happ ak true 1).onReadChannelFinished
        (KS_unconn (h1 rfl) (fun x => hc (beq_iff_eq.mpr x))))
  | turn =>
    dsimp -zeta only
    extract_lets s2
    have h2 : KS ak true 0 0 s2 := by
      simp only [s2]; split
      · exact (KS_slots happ ak true 0).onReadyRead
          (KS_same (.of_core rfl rfl rfl) (h1 rfl))
      · exact h1 rfl
    split
    · exact ⟨K_note (x := .del) rfl h2.1, h2.2⟩
    · exact h2
  | api op => exact api_quiet happ.toQ he (h1 rfl).1

theorem run_KS (happ : AppOK app) (evs : List Event) (hevs : evs.all evOK = true) :
    KS (ackAt evs) true 0 0 (Sock.run env app evs) := by
  refine (run_induct_alive env app evs
    (fun _ rest s => rest.all evOK = true ∧ KS (ackAt evs) true 0 0 s)
    ⟨hevs, K_init _ _, rfl⟩ ?_ ?_).2
  · intro k e rest s _ ⟨hall, h⟩
    simp only [List.all_cons, Bool.and_eq_true] at hall
    exact ⟨hall.2, h⟩
  · intro k e rest s hk hal ⟨hall, h⟩
    simp only [List.all_cons, Bool.and_eq_true] at hall
    have hev := KS_ev k h (by simp only [ackAt, hk]; exact ackE_le e _)
    simp only [ackAt, hk] at hev
    have hq := KS_q h
    exact ⟨hall.2, step_KS (s := { s with log := s.log ++ [.ev k] }) happ e hall.1 hal hq hev⟩

/-- what `C19.holds` asks, read off the invariant -/
theorem KS_final (h : KS ak true 0 0 s) :
    countP isHp s.log ≤ 1 ∧ countP isRt s.log ≤ 1 ∧ aftClose s.log = true ∧
    countP isTc s.log ≤ 1 ∧ countP isDc s.log ≤ 1 ∧
    (countP isTc s.log = 1 → (trk ak s.log).1 - (trk ak s.log).2 = 0 → countP isDc s.log = 1) := by
  obtain ⟨⟨h1, h2, h3, h4, h5, h6, h7, h8, h9, h10⟩, hf⟩ := h
  rw [hf] at h1
  have hdc : countP isDc s.log = if s.tcp.conn = .unconnected then 1 else 0 := h1
  refine ⟨h6, Nat.le_trans h7 h6, h3, ?_, ?_, ?_⟩
  · rw [h2]; cases s.tcp.devOpen <;> decide
  · rw [hdc]; cases s.tcp.conn <;> decide
  · intro htc hp
    rw [h9, Nat.add_sub_cancel_left] at hp
    have ho : s.tcp.devOpen = false := by
      cases ho : s.tcp.devOpen
      · rfl
      · rw [h2, ho] at htc; cases htc
    rw [hdc]
    cases hc : s.tcp.conn
    · exact absurd hc (h4 ho)
    · have := h10 rfl hc
      rw [hp] at this; cases this
    · rfl

theorem KS_tc (h : KS ak q d m s) (ho : s.tcp.devOpen = false) : countP isTc s.log = 1 := by
  have := h.1.2.1
  rw [ho] at this
  simpa using this

end Qhttp.C19L
