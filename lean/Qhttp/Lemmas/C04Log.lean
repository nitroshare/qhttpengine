import Qhttp.Lemmas.C04Inv
import Qhttp.Lemmas.ObsLog
/-
  What `LogOK W l` gives for the quantities `C04.holds` computes from a history.
-/
namespace Qhttp.C04L
open Qhttp

theorem preObs_eq (o : Obs) :
    preObs o = !(Obs.isHp o || Obs.isRouting o || Obs.isCrash o || Obs.isTc o) := by
  cases o <;> rfl

theorem qObs_eq (o : Obs) : qObs o = (preObs o && !Obs.isW o) := by
  cases o <;> rfl

theorem preObs_of_qObs {o : Obs} (h : qObs o = true) : preObs o = true := by
  rw [qObs_eq, Bool.and_eq_true] at h; exact h.1

theorem all_preObs_of_qObs {l : List Obs} (h : l.all qObs = true) : l.all preObs = true :=
  List.all_eq_true.mpr fun o ho => preObs_of_qObs (List.all_eq_true.mp h o ho)

theorem isW_of_qObs {o : Obs} (h : qObs o = true) : Obs.isW o = false := by
  rw [qObs_eq, Bool.and_eq_true, Bool.not_eq_true'] at h; exact h.2

theorem dropWhile_pre : ∀ (a c : List Obs), a.all preObs = true →
    (a ++ Obs.tc :: c).dropWhile (fun o => !Obs.isTc o) = Obs.tc :: c := by
  intro a
  induction a with
  | nil => intro c _; rfl
  | cons o a ih =>
    intro c h
    rw [List.all_cons, Bool.and_eq_true, preObs_eq] at h
    have hno : Obs.isTc o = false := by
      cases ht : Obs.isTc o
      · rfl
      · rw [ht, Bool.or_true] at h; cases h.1
    simp only [List.cons_append, List.dropWhile_cons, hno, Bool.not_false, if_true]
    exact ih c h.2

theorem LogOK.count_zero {W : Bytes} {l : List Obs} (h : LogOK W l) (p : Obs → Bool)
    (hp : ∀ o, preObs o = true → p o = false) (htc : p .tc = false) : Obs.countP p l = 0 := by
  obtain ⟨a, c, rfl, ha, _, hc⟩ := h
  refine Obs.countP_eq_zero.mpr fun o ho => ?_
  rcases List.mem_append.mp ho with ho | ho
  · exact hp o (List.all_eq_true.mp ha o ho)
  · rcases List.mem_cons.mp ho with rfl | ho
    · exact htc
    · exact hp o (preObs_of_qObs (List.all_eq_true.mp hc o ho))

/-- the conjuncts of `C04.holds`, in its order -/
theorem LogOK.facts {W : Bytes} {l : List Obs} (h : LogOK W l) :
    Obs.countP Obs.isHp l = 0 ∧ Obs.countP Obs.isRouting l = 0 ∧ Obs.countP Obs.isCrash l = 0 ∧
    Obs.wire l = W ∧ Obs.countP Obs.isTc l = 1 ∧
    Obs.countP Obs.isW (l.dropWhile (fun o => !Obs.isTc o)) = 0 := by
  have hpre : ∀ o, preObs o = true →
      Obs.isHp o = false ∧ Obs.isRouting o = false ∧ Obs.isCrash o = false ∧ Obs.isTc o = false := by
    intro o ho
    simpa only [preObs_eq, Bool.not_eq_true', Bool.or_eq_false_iff, and_assoc] using ho
  refine ⟨h.count_zero _ (fun o ho => (hpre o ho).1) rfl, h.count_zero _ (fun o ho => (hpre o ho).2.1) rfl,
    h.count_zero _ (fun o ho => (hpre o ho).2.2.1) rfl, ?_⟩
  obtain ⟨a, c, rfl, ha, hw, hc⟩ := h
  have hW : ∀ o ∈ Obs.tc :: c, Obs.isW o = false := by
    intro o ho
    rcases List.mem_cons.mp ho with rfl | ho
    · rfl
    · exact isW_of_qObs (List.all_eq_true.mp hc o ho)
  refine ⟨?_, ?_, ?_⟩
  · rw [Obs.wire_append_of_not_isW a hW]; exact hw
  · rw [Obs.countP_append, Obs.countP_cons,
      Obs.countP_eq_zero.mpr fun o ho => (hpre o (List.all_eq_true.mp ha o ho)).2.2.2,
      Obs.countP_eq_zero.mpr fun o ho => (hpre o (preObs_of_qObs (List.all_eq_true.mp hc o ho))).2.2.2]
    rfl
  · rw [dropWhile_pre a c ha]
    exact Obs.countP_eq_zero.mpr hW

end Qhttp.C04L
