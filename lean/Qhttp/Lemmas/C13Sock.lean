import Qhttp.Model.Proxy
import Qhttp.Lemmas.C03Wire
import Qhttp.Lemmas.C09Run
import Qhttp.Lemmas.ObsLog
import Qhttp.Lemmas.SockEqns
/-
  C13: the write side of the socket model under the proxy's application (`Proxy.app`: it reacts to
  `readyRead` only, by reading).  `WOpen s`: the response can still be written; `WShut s`: the
  library closed the transport; `WStep s s' b`: still open and `b` was written; `Frozen w s`:
  closed and the wire is `w`.  Unlike `C03L.Open`/`C03L.Shut` nothing is assumed about the request
  side (a request may be half read: `rs = .data`).  The request direction (C12) has a vocabulary
  of its own for the same handler in `ProxyUpSock.lean` (`ProxyL.WSame`, `DRel`, `ClosedS`).
-/
namespace Qhttp.C13L
open Qhttp Qhttp.Sock
open Qhttp.C03L (LogOpen LogShut quietObs)

abbrev app : App := Proxy.app

theorem wire_append_quiet (l : List Obs) {l' : List Obs} (h : ∀ o ∈ l', quietObs o = true) :
    Obs.wire (l ++ l') = Obs.wire l :=
  Obs.wire_append_of_not_isW l fun o ho => C03L.quietObs_isW (h o ho)

theorem wire_snoc_quiet (l : List Obs) {o : Obs} (h : quietObs o = true) : Obs.wire (l ++ [o]) = Obs.wire l :=
  wire_append_quiet l (C03L.quiet_singleton h)

theorem anyTc_of_logShut {l : List Obs} (h : LogShut l) : l.any Obs.isTc = true := by
  have := h.oneTc
  simp only [Obs.countP] at this
  rw [List.any_eq_true]
  have hne : l.filter Obs.isTc ≠ [] := by intro e; rw [e] at this; cases this
  obtain ⟨x, hx⟩ := List.exists_mem_of_ne_nil _ hne
  exact ⟨x, (List.mem_filter.mp hx).1, (List.mem_filter.mp hx).2⟩

theorem anyTc_of_logOpen {l : List Obs} (h : LogOpen l) : l.any Obs.isTc = false := by
  rw [List.any_eq_false]
  intro x hx
  simp [h x hx]

structure WOpen (s : Sock) : Prop where
  alive : s.alive = true
  io : s.ioOpen = true
  dev : s.tcp.devOpen = true
  conn : s.tcp.conn = .connected
  dcF : s.dcFlag = false
  noClose : s.closeCalled = false
  noDel : s.delPending = false
  logOpen : LogOpen s.log

/-- the library closed the transport (the object may already be deleted) -/
structure WShut (s : Sock) : Prop where
  io : s.ioOpen = false
  dev : s.tcp.devOpen = false
  rs : s.rs = .finished
  dcF : s.dcFlag = false
  logShut : LogShut s.log

/-- the seven fields `WOpen` looks at as one tuple: `rfl` proves the equation for a record update
    that leaves them alone -/
theorem WOpen.of_eq {s s' : Sock} (h : WOpen s)
    (hf : (s'.alive, s'.ioOpen, s'.tcp.devOpen, s'.tcp.conn, s'.dcFlag, s'.closeCalled, s'.delPending) =
          (s.alive, s.ioOpen, s.tcp.devOpen, s.tcp.conn, s.dcFlag, s.closeCalled, s.delPending))
    (hl : LogOpen s'.log) : WOpen s' := by
  simp only [Prod.mk.injEq] at hf
  obtain ⟨h1, h2, h3, h4, h5, h6, h7⟩ := hf
  obtain ⟨a1, a2, a3, a4, a5, a6, a7, _⟩ := h
  exact ⟨h1 ▸ a1, h2 ▸ a2, h3 ▸ a3, h4 ▸ a4, h5 ▸ a5, h6 ▸ a6, h7 ▸ a7, hl⟩

theorem WShut.of_eq {s s' : Sock} (h : WShut s)
    (hf : (s'.ioOpen, s'.tcp.devOpen, s'.rs, s'.dcFlag) = (s.ioOpen, s.tcp.devOpen, s.rs, s.dcFlag))
    (hl : LogShut s'.log) : WShut s' := by
  simp only [Prod.mk.injEq] at hf
  obtain ⟨h1, h2, h3, h4⟩ := hf
  obtain ⟨a1, a2, a3, a4, _⟩ := h
  exact ⟨h1 ▸ a1, h2 ▸ a2, h3 ▸ a3, h4 ▸ a4, hl⟩

theorem WOpen.not_shut {s : Sock} (h : WOpen s) : ¬ WShut s := fun c => by
  have := h.io; rw [c.io] at this; cases this

theorem wopen_default : WOpen ({} : Sock) :=
  ⟨rfl, rfl, rfl, rfl, rfl, rfl, rfl, fun _ h => by cases h⟩

structure WStep (s s' : Sock) (bytes : Bytes) : Prop where
  op : WOpen s'
  wire : Obs.wire s'.log = Obs.wire s.log ++ bytes
  initP : s'.initPending = s.initPending
  ws : s.ws ≠ .none → s'.ws ≠ .none
  respH : s'.respHeaders = s.respHeaders

theorem WStep.refl {s : Sock} (h : WOpen s) : WStep s s [] := ⟨h, by simp, rfl, id, rfl⟩

theorem WStep.trans {s s' s'' : Sock} {b b' : Bytes} (h1 : WStep s s' b) (h2 : WStep s' s'' b') :
    WStep s s'' (b ++ b') :=
  ⟨h2.op, by rw [h2.wire, h1.wire, List.append_assoc], h2.initP.trans h1.initP,
    fun h => h2.ws (h1.ws h), h2.respH.trans h1.respH⟩

theorem WStep.of_quiet {s s' : Sock} (h : WOpen s) (l : List Obs) (hl : ∀ o ∈ l, quietObs o = true)
    (hlog : s'.log = s.log ++ l)
    (hf : (s'.alive, s'.ioOpen, s'.tcp.devOpen, s'.tcp.conn, s'.dcFlag, s'.closeCalled, s'.delPending) =
          (s.alive, s.ioOpen, s.tcp.devOpen, s.tcp.conn, s.dcFlag, s.closeCalled, s.delPending))
    (hi : s'.initPending = s.initPending) (hw : s.ws ≠ .none → s'.ws ≠ .none)
    (hr : s'.respHeaders = s.respHeaders) : WStep s s' [] :=
  ⟨h.of_eq hf (by rw [hlog]; exact h.logOpen.append hl),
    by rw [hlog, wire_append_quiet _ hl, List.append_nil], hi, hw, hr⟩

theorem wstep_note {s : Sock} (h : WOpen s) {o : Obs} (ho : quietObs o = true) :
    WStep s { s with log := s.log ++ [o] } [] :=
  WStep.of_quiet h [o] (C03L.quiet_singleton ho) rfl rfl rfl id rfl

structure Frozen (w : Bytes) (s : Sock) : Prop where
  shut : WShut s
  wire : Obs.wire s.log = w

theorem Frozen.of_eq {w : Bytes} {s s' : Sock} (h : Frozen w s)
    (hf : (s'.ioOpen, s'.tcp.devOpen, s'.rs, s'.dcFlag) = (s.ioOpen, s.tcp.devOpen, s.rs, s.dcFlag))
    (l : List Obs) (hl : ∀ o ∈ l, quietObs o = true) (hlog : s'.log = s.log ++ l) : Frozen w s' :=
  ⟨h.shut.of_eq hf (by rw [hlog]; exact h.shut.logShut.append hl),
   by rw [hlog, wire_append_quiet _ hl, h.wire]⟩

theorem Frozen.same {w : Bytes} {s s' : Sock} (h : Frozen w s)
    (hf : (s'.ioOpen, s'.tcp.devOpen, s'.rs, s'.dcFlag) = (s.ioOpen, s.tcp.devOpen, s.rs, s.dcFlag))
    (hlog : s'.log = s.log) : Frozen w s' :=
  h.of_eq hf [] (fun _ ho => nomatch ho) (by rw [hlog, List.append_nil])

theorem wstep_tcpWrite {s : Sock} (h : WOpen s) (b : Bytes) :
    WStep s (tcpWrite s b) b ∧ (tcpWrite s b).ws = s.ws := by
  by_cases hb : b = []
  · subst hb; rw [tcpWrite_nil]; exact ⟨WStep.refl h, rfl⟩
  · rw [tcpWrite_open h.dev h.conn hb]
    exact ⟨⟨h.of_eq rfl (h.logOpen.snoc rfl), Obs.wire_snoc_w _ _, rfl, id, rfl⟩, rfl⟩

/-- a call on a live socket that leaves no `disconnected` pending is the primitive alone -/
theorem api_eq_of (env : Env) (a : App) {s t : Sock} {op : ApiOp} (e : apiPrim env s op = t)
    (hd : t.dcFlag = false) : api env a s op = t := by
  rw [Sock.api_of_dcFlag env a _ _ (by rw [e]; exact hd), e]

theorem api_status {s : Sock} (env : Env) (a : App) (ha : s.alive = true) (hd : s.dcFlag = false)
    (c : Int) (r : Bytes) :
    api env a s (.status c (some r)) = { s with code := c, reason := r } :=
  api_eq_of env a (Sock.apiPrim_alive env ha _) hd

theorem wopen_setHead {s : Sock} (h : WOpen s) (c : Int) (r : Bytes) (m : HeaderMap) :
    WOpen { s with code := c, reason := r, respHeaders := m } := h.of_eq rfl h.logOpen

theorem wstep_writeHeaders {s : Sock} (h : WOpen s) :
    WStep s (writeHeaders s) (headBytes s) ∧ (writeHeaders s).ws = .headers := by
  obtain ⟨h1, h2⟩ := wstep_tcpWrite (s := { s with ws := .headers, hdrRemaining := (headBytes s).length })
    (h.of_eq rfl h.logOpen) (headBytes s)
  exact ⟨⟨h1.op, h1.wire, h1.initP, (fun _ e => nomatch h2.symm.trans e), h1.respH⟩, h2⟩

theorem api_wh {s : Sock} (env : Env) (a : App) (h : WOpen s) : api env a s .wh = writeHeaders s :=
  api_eq_of env a (Sock.apiPrim_alive env h.alive _) (wstep_writeHeaders h).1.op.dcF

theorem write_open {s : Sock} (h : WOpen s) (hw : s.ws ≠ .none) (b : Bytes) : write s b = tcpWrite s b := by
  simp [write, h.io, hw]

theorem wstep_api_write {s : Sock} (env : Env) (a : App) (h : WOpen s) (hw : s.ws ≠ .none) (b : Bytes) :
    WStep s (api env a s (.write b)) b := by
  have e : apiPrim env s (.write b) = tcpWrite s b :=
    (Sock.apiPrim_alive env h.alive _).trans (write_open h hw b)
  rw [api_eq_of env a e (wstep_tcpWrite h b).1.op.dcF]
  exact (wstep_tcpWrite h b).1

/-! nothing is connected to `bytesWritten` and `disconnected` in the proxy's application -/

theorem onBytesWritten_app (env : Env) (s : Sock) (n : Int) :
    ∃ x y l, onBytesWritten env app s n = { s with ws := x, hdrRemaining := y, log := s.log ++ l } ∧
      (s.ws ≠ .none → x ≠ .none) ∧ ∀ o ∈ l, quietObs o = true := by
  have hemit : ∀ (s' : Sock) (b : Int), emit env app s' (.bw b) (app.onBw s') =
      { s' with log := s'.log ++ [Obs.bw b] } := fun s' b => rfl
  have hq : ∀ b : Int, ∀ o ∈ [Obs.bw b], quietObs o = true := fun b => C03L.quiet_singleton rfl
  unfold onBytesWritten
  by_cases h1 : s.ws = .headers
  · by_cases h2 : s.hdrRemaining - n > 0
    · refine ⟨.headers, s.hdrRemaining - n, [], ?_, by simp, by simp⟩
      simp only [h1, h2, if_true, reduceCtorEq, if_false, List.append_nil]
    · refine ⟨.data, s.hdrRemaining, [Obs.bw (n - s.hdrRemaining)], ?_, by simp, hq _⟩
      simp only [h1, h2, if_true, if_false]
      rw [hemit]
  · by_cases h2 : s.ws = .data
    · refine ⟨.data, s.hdrRemaining, [Obs.bw n], ?_, by simp, hq _⟩
      rw [if_neg h1]; dsimp only; rw [if_pos h2, hemit]
      simp [h2]
    · refine ⟨s.ws, s.hdrRemaining, [], ?_, id, by simp⟩
      rw [if_neg h1]; dsimp only; rw [if_neg h2]; simp

theorem wstep_ackN (env : Env) {s : Sock} (h : WOpen s) (n : Nat) : WStep s (ackN env app s n) [] := by
  by_cases hn : min n s.tcp.unacked = 0
  · rw [Sock.ackN_zero env app hn]; exact WStep.refl h
  · obtain ⟨x, y, l, he, hx, hl⟩ := onBytesWritten_app env
      { s with tcp := { s.tcp with unacked := s.tcp.unacked - min n s.tcp.unacked } } (min n s.tcp.unacked : Nat)
    rw [Sock.ackN_pos env app hn, he, Sock.ackTail_connected env app]
    · exact WStep.of_quiet h l hl rfl rfl rfl hx rfl
    · exact h.conn

theorem quiet_dc : quietObs Obs.dc = true := rfl
theorem quiet_ev (k : Nat) : quietObs (Obs.ev k) = true := rfl
theorem quiet_del : quietObs Obs.del = true := rfl
theorem quiet_misc (t : Nat) (b : Bytes) : quietObs (Obs.misc t b) = true := rfl

/-- the last acknowledgement after `close` completes the disconnect: one more quiet observation -/
theorem frozen_ackN (env : Env) {w : Bytes} {s : Sock} (h : Frozen w s) (n : Nat) :
    Frozen w (ackN env app s n) := by
  by_cases hn : min n s.tcp.unacked = 0
  · rw [Sock.ackN_zero env app hn]; exact h
  · obtain ⟨x, y, l, he, _, hl⟩ := onBytesWritten_app env
      { s with tcp := { s.tcp with unacked := s.tcp.unacked - min n s.tcp.unacked } } (min n s.tcp.unacked : Nat)
    rw [Sock.ackN_pos env app hn, he]
    unfold Sock.ackTail
    split
    · rw [emitDc_of_nil env _ rfl]
      have h1 : Frozen w { s with ws := x, hdrRemaining := y, log := s.log ++ l } := h.of_eq rfl l hl rfl
      exact h1.of_eq (by simp [h.shut.dcF]) [Obs.dc] (C03L.quiet_singleton quiet_dc) rfl
    · exact h.of_eq rfl l hl rfl

/-- `Socket::close` and the `disconnected` emission it may cause, on an open socket -/
theorem frozen_closeDc (env : Env) {s : Sock} (h : WOpen s) :
    Frozen (Obs.wire s.log) (C03L.closeDc env app s) := by
  have hl := h.logOpen.close
  have hw : Obs.wire (s.log ++ [Obs.tc]) = Obs.wire s.log :=
    Obs.wire_append_of_not_isW s.log fun o ho => by rw [List.mem_singleton.mp ho]; rfl
  unfold C03L.closeDc Sock.close
  refine tcpClose_cases _ (P := fun t => Frozen (Obs.wire s.log) (if t.dcFlag then emitDc env app t else t))
    (fun hd => ?_) (fun _ _ _ => ?_) (fun _ _ _ => ?_) (fun _ hc => ?_)
  · exact nomatch h.dev.symm.trans hd
  · rw [if_pos rfl, emitDc_of_nil env _ rfl]
    exact ⟨⟨rfl, rfl, rfl, rfl, hl.snoc rfl⟩, (wire_snoc_quiet _ quiet_dc).trans hw⟩
  · rw [if_neg (by rw [show _ = s.dcFlag from rfl, h.dcF]; decide)]
    exact ⟨⟨rfl, rfl, rfl, h.dcF, hl⟩, hw⟩
  · exact absurd h.conn hc

theorem api_close {s : Sock} (env : Env) (ha : s.alive = true) :
    api env app s .close = C03L.closeDc env app s := by
  rw [Sock.api_eq, Sock.apiPrim_alive env ha]; rfl

theorem frozen_api_close (env : Env) {s : Sock} (h : WOpen s) :
    Frozen (Obs.wire s.log) (api env app s .close) := by
  rw [api_close env h.alive]; exact frozen_closeDc env h

/-- the socket as `writeError` sees it just before it writes the head -/
def errSock (env : Env) (s : Sock) (c : Int) : Sock :=
  setHeader (setHeader (setStatusCode s c none) CONTENT_LENGTH
    (natDigits (C09L.errBody env c).length) true) CONTENT_TYPE TEXT_HTML true

theorem api_err {s : Sock} (env : Env) (ha : s.alive = true) (c : Int) :
    api env app s (.err c none) =
      C03L.closeDc env app (write (writeHeaders (errSock env s c)) (C09L.errBody env c)) := by
  rw [Sock.api_eq, Sock.apiPrim_alive env ha]; rfl

/-- the bytes `writeError(c)` puts on the wire, given the header map the socket had
    (`C09L.errWire env c` is `errBytes env [] c`) -/
def errBytes (env : Env) (H : HeaderMap) (c : Int) : Bytes :=
  C09L.errStart c ++ CRLF ++
    headerLines (C09L.errHeaders H (natDigits (C09L.errBody env c).length)) ++ CRLF ++ C09L.errBody env c

theorem errSock_eq (env : Env) (s : Sock) (c : Int) :
    errSock env s c =
      { s with code := c, reason := statusReason c,
               respHeaders := C09L.errHeaders s.respHeaders (natDigits (C09L.errBody env c).length) } := by
  simp [errSock, setHeader, setStatusCode, C09L.errHeaders]

/-- `writeError` on an open socket: exactly the error response is written, then the transport
    is closed -/
theorem frozen_api_err (env : Env) {s : Sock} (h : WOpen s) (c : Int) :
    Frozen (Obs.wire s.log ++ errBytes env s.respHeaders c) (api env app s (.err c none)) := by
  rw [api_err env h.alive]
  have h3 : WOpen (errSock env s c) := by rw [errSock_eq]; exact wopen_setHead h _ _ _
  obtain ⟨h4, ws4⟩ := wstep_writeHeaders h3
  rw [write_open h4.op (by rw [ws4]; exact fun e => nomatch e)]
  obtain ⟨h5, _⟩ := wstep_tcpWrite h4.op (C09L.errBody env c)
  have w := (frozen_closeDc env h5.op).wire
  refine ⟨(frozen_closeDc env h5.op).shut, ?_⟩
  rw [w, h5.wire, h4.wire, errSock_eq, errBytes]
  simp [headBytes, C09L.errStart, List.append_assoc]

theorem frozen_setStatusCode {w : Bytes} {s : Sock} (h : Frozen w s) (c : Int) (r : Option Bytes) :
    Frozen w (setStatusCode s c r) := h.same rfl rfl

theorem frozen_setHeader {w : Bytes} {s : Sock} (h : Frozen w s) (n v : Bytes) (r : Bool) :
    Frozen w (setHeader s n v r) := by
  rw [C03L.setHeader_eq]; exact h.same rfl rfl

theorem frozen_writeHeaders {w : Bytes} {s : Sock} (h : Frozen w s) : Frozen w (writeHeaders s) := by
  have : writeHeaders s = { s with ws := .headers, hdrRemaining := (headBytes s).length } :=
    tcpWrite_closed _ _ h.shut.dev
  rw [this]; exact h.same rfl rfl

theorem frozen_write {w : Bytes} {s : Sock} (h : Frozen w s) (b : Bytes) : Frozen w (write s b) := by
  have : write s b = s := by simp [write, h.shut.io]
  rw [this]; exact h

theorem frozen_close {w : Bytes} {s : Sock} (h : Frozen w s) : Frozen w (Sock.close s) := by
  have : Sock.close s = { s with ioOpen := false, qio := [], rs := .finished, ws := .finished, closeCalled := true } :=
    tcpClose_closed _ h.shut.dev
  rw [this]; exact h.same (by rw [h.shut.io, h.shut.rs]) rfl

theorem frozen_apiPrim (env : Env) {w : Bytes} {s : Sock} (h : Frozen w s) {op : ApiOp}
    (hop : C03L.respOp op = true) : Frozen w (apiPrim env s op) := by
  cases ha : s.alive
  · rw [apiPrim_dead env op ha]; exact h
  · cases op <;> first | exact Bool.noConfusion hop | rw [Sock.apiPrim_alive env ha]
    · exact frozen_setStatusCode h _ _
    · exact frozen_setHeader h _ _ _
    · exact h.same rfl rfl
    · exact frozen_writeHeaders h
    · exact frozen_write h _
    · exact frozen_close (frozen_write (frozen_writeHeaders (frozen_setHeader (frozen_setHeader
        (frozen_setStatusCode h _ _) _ _ _) _ _ _)) _)
    · exact frozen_close (frozen_writeHeaders (frozen_setHeader (frozen_setStatusCode h _ _) _ _ _))
    · exact frozen_close (frozen_write (frozen_setHeader (frozen_setHeader
        (frozen_setStatusCode h _ _) _ _ _) _ _ _) _)
    · exact frozen_close h

theorem Frozen.api (env : Env) (a : App) {w : Bytes} {s : Sock} (h : Frozen w s) {op : ApiOp}
    (hop : C03L.respOp op = true) : Frozen w (api env a s op) := by
  have h1 := frozen_apiPrim env h hop
  rw [Sock.api_of_dcFlag env a _ _ h1.shut.dcF]; exact h1

/-- the proxy's direct assignment of the header map -/
theorem wshut_setRespHeaders {s : Sock} (h : WShut s) (hs : HeaderMap) :
    WShut (if s.alive then { s with respHeaders := hs } else s) ∧
    (if s.alive then { s with respHeaders := hs } else s).log = s.log := by
  split
  · exact ⟨h.of_eq rfl h.logShut, rfl⟩
  · exact ⟨h, rfl⟩

theorem api_dead (env : Env) (a : App) {s : Sock} (hd : s.alive = false) (hf : s.dcFlag = false) (op : ApiOp) :
    api env a s op = s :=
  Sock.api_dead env a op hd hf

end Qhttp.C13L
