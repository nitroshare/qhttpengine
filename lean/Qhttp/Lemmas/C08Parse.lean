import Qhttp.Lemmas.C08Run
import Qhttp.Lemmas.C08Other
import Qhttp.Lemmas.HttpRender
/-
  C08 helper lemmas: reading the response of a file request back with the strict reader `Http.parse`.
-/
namespace Qhttp
namespace C08L
open Qhttp Qhttp.Sock FsHandler Qhttp.Http Qhttp.HB

theorem CR_not_mem_intText (i : Int) : CR ∉ intText i := by
  unfold intText
  split
  · intro h
    rcases List.mem_cons.1 h with h | h
    · exact absurd h (by decide)
    · exact CR_not_mem_natDigits _ h
  · exact CR_not_mem_natDigits _

theorem CR_not_mem_contentRange (r : Range) : CR ∉ r.contentRange := by
  unfold Range.contentRange
  have hi := CR_not_mem_intText
  have h45 : CR ≠ 45 := by decide
  have h47 : CR ≠ 47 := by decide
  have h42 : CR ≠ 42 := by decide
  split <;> split <;> simp [hi, h45, h47, h42]

theorem keyOk_CL : Sock.CONTENT_LENGTH ≠ [] ∧ COLON ∉ Sock.CONTENT_LENGTH ∧ CR ∉ Sock.CONTENT_LENGTH := by decide
theorem keyOk_CR : CONTENT_RANGE ≠ [] ∧ COLON ∉ CONTENT_RANGE ∧ CR ∉ CONTENT_RANGE := by decide
theorem keyOk_CT : Sock.CONTENT_TYPE ≠ [] ∧ COLON ∉ Sock.CONTENT_TYPE ∧ CR ∉ Sock.CONTENT_TYPE := by decide

theorem entryOk_of {k v : Bytes} (hk : k ≠ [] ∧ COLON ∉ k ∧ CR ∉ k) (hv : CR ∉ v) : Http.EntryOk (k, v) :=
  ⟨hk.1, hk.2.1, hk.2.2, hv⟩

theorem entryOk_respHdrs (r : Range) (size : Nat) (mime : Bytes) (hm : CR ∉ mime) :
    ∀ e ∈ respHdrs r size mime, Http.EntryOk e := by
  intro e he
  unfold respHdrs at he
  split at he
  · simp only [List.mem_cons, List.not_mem_nil, or_false] at he
    rcases he with rfl | rfl | rfl
    · exact entryOk_of keyOk_CL (CR_not_mem_intText _)
    · refine entryOk_of keyOk_CR ?_
      simp only [List.mem_append, not_or]
      exact ⟨by decide, CR_not_mem_contentRange r⟩
    · exact entryOk_of keyOk_CT hm
  · simp only [List.mem_cons, List.not_mem_nil, or_false] at he
    rcases he with rfl | rfl
    · exact entryOk_of keyOk_CL (CR_not_mem_natDigits _)
    · exact entryOk_of keyOk_CT hm

/-! ### header values read back -/

theorem splitVal {v : Bytes} (h : (44 : UInt8) ∉ v) : splitF [44, 32] (v.length + 1) none v = [v] :=
  splitAll_of_not_mem h

theorem lower_CL_CT : (lower Sock.CONTENT_TYPE == lower Sock.CONTENT_LENGTH) = false := by decide
theorem lower_CR_CL : (lower CONTENT_RANGE == lower Sock.CONTENT_LENGTH) = false := by decide
theorem lower_CL_CR : (lower Sock.CONTENT_LENGTH == lower CONTENT_RANGE) = false := by decide
theorem lower_CT_CR : (lower Sock.CONTENT_TYPE == lower CONTENT_RANGE) = false := by decide

theorem valuesOf_CL_full (v m : Bytes) (h : (44 : UInt8) ∉ v) :
    Http.valuesOf Sock.CONTENT_LENGTH [(Sock.CONTENT_LENGTH, v), (Sock.CONTENT_TYPE, m)] = [v] := by
  simp [Http.valuesOf, lower_CL_CT, splitVal h]

theorem valuesOf_CR_full (v m : Bytes) :
    Http.valuesOf CONTENT_RANGE [(Sock.CONTENT_LENGTH, v), (Sock.CONTENT_TYPE, m)] = [] := by
  simp [Http.valuesOf, lower_CL_CR, lower_CT_CR]

theorem valuesOf_CL_partial (v w m : Bytes) (h : (44 : UInt8) ∉ v) :
    Http.valuesOf Sock.CONTENT_LENGTH
      [(Sock.CONTENT_LENGTH, v), (CONTENT_RANGE, w), (Sock.CONTENT_TYPE, m)] = [v] := by
  simp [Http.valuesOf, lower_CL_CT, lower_CR_CL, splitVal h]

theorem valuesOf_CR_partial (v w m : Bytes) (h : (44 : UInt8) ∉ w) :
    Http.valuesOf CONTENT_RANGE
      [(Sock.CONTENT_LENGTH, v), (CONTENT_RANGE, w), (Sock.CONTENT_TYPE, m)] = [w] := by
  simp [Http.valuesOf, lower_CL_CR, lower_CT_CR, splitVal h]

theorem comma_not_mem_rangeText (a b size : Nat) :
    (44 : UInt8) ∉ BYTES_SP ++ natDigits a ++ [45] ++ natDigits b ++ [47] ++ natDigits size := by
  have h := comma_not_mem_natDigits
  simp only [List.mem_append, not_or]
  exact ⟨⟨⟨⟨⟨by decide, h a⟩, by decide⟩, h b⟩, by decide⟩, h size⟩

/-! ### responses completed inside the slot -/

/-- the start line of such a response -/
def ansStart (c : Int) (rsn : Bytes) : Bytes := Http.HTTP10 ++ intText c ++ [SP] ++ rsn

theorem parse_answered (c : Int) (rsn : Bytes) (hdrs : HeaderMap) (body : Bytes) (hc : 0 ≤ c)
    (hr : CR ∉ rsn) (hh : ∀ e ∈ hdrs, Http.EntryOk e) :
    Http.parse (ansHead c rsn hdrs ++ body) =
      some { start := ansStart c rsn, headers := hdrs, body := body } := by
  have e : ansHead c rsn hdrs = ansStart c rsn ++ CRLF ++ Sock.headerLines hdrs ++ CRLF := rfl
  rw [e]
  refine Http.parse_render _ _ _ ?_ hh
  unfold ansStart
  rw [HB.intText_of_nonneg hc]
  simp only [List.mem_append, not_or]
  exact ⟨⟨⟨by decide, CR_not_mem_natDigits _⟩, by decide⟩, hr⟩

theorem statusLine_ansStart {c : Int} (hc : 0 ≤ c) (rsn : Bytes) :
    (Http.statusLine (ansStart c rsn)).map (·.code) = some c.natAbs := by
  unfold ansStart
  rw [Http.statusLine_intText hc]
  rfl

/-! ### the file response is one of these -/

/-- the start line of a file response -/
def respStart (r : Range) : Bytes :=
  ansStart (if r.isValid then 206 else 200) (if r.isValid then statusReason 206 else lit ['O','K'])

/-- the strict reader recovers start line, header entries and body of a file response -/
theorem parse_response (r : Range) (size : Nat) (mime body : Bytes) (hm : CR ∉ mime) :
    Http.parse (respHead r size mime ++ body) =
      some { start := respStart r, headers := respHdrs r size mime, body := body } :=
  parse_answered (if r.isValid then 206 else 200) (if r.isValid then statusReason 206 else lit ['O','K'])
    (respHdrs r size mime) body (by split <;> omega) (by split <;> decide) (entryOk_respHdrs r size mime hm)

theorem statusLine_respStart (r : Range) :
    (Http.statusLine (respStart r)).map (·.code) = some (if r.isValid then 206 else 200) := by
  unfold respStart
  rw [statusLine_ansStart (by split <;> omega)]
  split <;> rfl

theorem entryOk_pageHdrs (body : Bytes) : ∀ e ∈ pageHdrs body, Http.EntryOk e := by
  intro e he
  simp only [pageHdrs, List.mem_cons, List.not_mem_nil, or_false] at he
  rcases he with rfl | rfl
  · exact entryOk_of keyOk_CL (CR_not_mem_natDigits _)
  · exact entryOk_of keyOk_CT (by decide)

theorem valuesOf_CL_pageHdrs (body : Bytes) :
    Http.valuesOf Sock.CONTENT_LENGTH (pageHdrs body) = [natDigits body.length] :=
  valuesOf_CL_full _ _ (comma_not_mem_natDigits _)

/-! ### `plan` looks at the Range header only -/

theorem plan_congr (fe : FsEnv) (path : Bytes) {hs hs' : HeaderMap}
    (h : HeaderMap.value RANGE hs = HeaderMap.value RANGE hs') : plan fe path hs = plan fe path hs' := by
  unfold plan
  rw [h]

theorem value_RANGE_single (x : Bytes) : HeaderMap.value RANGE [(RANGE, x)] = x := by
  have : HeaderMap.keyEq RANGE RANGE = true := by decide
  simp [HeaderMap.value, HeaderMap.values, this]

end C08L
end Qhttp
