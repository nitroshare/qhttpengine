import Qhttp.Props.C12
import Qhttp.Lemmas.C01Parser
import Qhttp.Lemmas.HttpBytes
/-
  C13: the specification's reader of an upstream response head (`C13.specHead`, restated here as
  `specHead'` because Props/C13 imports this file) agrees with `Parser.parseResponseHeaders`; the
  header map is the insertion of the `name: value` pairs in line order, a permutation of them.
-/
namespace Qhttp.C13L
open Qhttp

/-- `C13.headerPairs` (same text) -/
def headerPairs' (lines : List Bytes) : Option (List (Bytes × Bytes)) :=
  lines.foldr (fun l acc =>
    match acc, breakOn [COLON] l with
    | some hs, some (n, v) => if (trim n).isEmpty then none else some ((trim n, trim v) :: hs)
    | _, _ => none) (some [])

/-- `C13.specHead` (same text) -/
def specHead' (head : Bytes) : Option (Int × Bytes × List (Bytes × Bytes)) :=
  match splitF CRLF (head.length + 1) none head with
  | [] => none
  | first :: lines =>
    match splitF [SP] (first.length + 1) (some 2) first with
    | [_, code, reason] =>
      let cv := toIntQ code
      if 100 ≤ cv && cv ≤ 599 then (headerPairs' lines).map fun hs => (cv, reason, hs) else none
    | _ => none

def mapOf (pairs : List (Bytes × Bytes)) (m : HeaderMap := []) : HeaderMap :=
  pairs.foldl (fun acc e => HeaderMap.insert e.1 e.2 acc) m

theorem headerPairs'_cons (l : Bytes) (ls : List Bytes) :
    headerPairs' (l :: ls) =
      match headerPairs' ls, breakOn [COLON] l with
      | some hs, some (n, v) => if (trim n).isEmpty then none else some ((trim n, trim v) :: hs)
      | _, _ => none := rfl

/-- `Parser::parseHeaderList` = insert the pairs of `headerPairs` in line order -/
theorem parseHeaderList_eq_pairs (lines : List Bytes) :
    ∀ m, Parser.parseHeaderList lines m = (headerPairs' lines).map (fun ps => mapOf ps m) := by
  induction lines with
  | nil => intro m; rfl
  | cons l ls ih =>
    intro m
    rw [Parser.parseHeaderList, Parser.split_colon, headerPairs'_cons]
    cases hb : breakOn [COLON] l with
    | none => cases headerPairs' ls <;> rfl
    | some p =>
      obtain ⟨n, v⟩ := p
      simp only
      rw [ih]
      cases headerPairs' ls with
      | none => cases (trim n).isEmpty <;> simp
      | some hs => cases he : (trim n).isEmpty <;> simp [he, mapOf]

/-- the library's parser succeeds exactly when the specification's reader does -/
theorem specHead'_eq (head : Bytes) :
    Parser.parseResponseHeaders head =
      (specHead' head).map fun x => (x.1, x.2.1, mapOf x.2.2) := by
  unfold Parser.parseResponseHeaders Parser.parseHeaders specHead'
  show (match (match splitF CRLF (head.length + 1) none head with
        | [] => none
        | first :: lines =>
          match splitF [SP] (first.length + 1) (some 2) first with
          | [p0, p1, p2] =>
            match Parser.parseHeaderList lines [] with
            | some m' => some (p0, p1, p2, m')
            | none => none
          | _ => none) with
      | none => none
      | some (_, p1, p2, m) =>
        let code := toIntQ p1
        if 100 ≤ code && code ≤ 599 then some (code, p2, m) else none) = _
  cases splitF CRLF (head.length + 1) none head with
  | nil => rfl
  | cons first lines =>
    simp only
    generalize splitF [SP] (first.length + 1) (some 2) first = parts
    rcases parts with _ | ⟨p0, _ | ⟨p1, _ | ⟨p2, _ | ⟨p3, ps⟩⟩⟩⟩ <;> try rfl
    simp only [parseHeaderList_eq_pairs]
    cases headerPairs' lines with
    | none => simp
    | some ps =>
      simp only [Option.map_some]
      split <;> simp

theorem insert_perm (k v : Bytes) (m : HeaderMap) : (HeaderMap.insert k v m).Perm ((k, v) :: m) := by
  induction m with
  | nil => exact List.Perm.refl _
  | cons e m ih =>
    obtain ⟨k', v'⟩ := e
    unfold HeaderMap.insert
    split
    · exact (List.Perm.cons _ ih).trans (List.Perm.swap _ _ _)
    · exact List.Perm.refl _

theorem mapOf_perm (pairs : List (Bytes × Bytes)) : ∀ m, (mapOf pairs m).Perm (pairs ++ m) := by
  induction pairs with
  | nil => intro m; exact List.Perm.refl _
  | cons e ps ih =>
    intro m
    show (mapOf ps (HeaderMap.insert e.1 e.2 m)).Perm _
    refine (ih _).trans ?_
    refine (List.Perm.append_left ps (insert_perm e.1 e.2 m)).trans ?_
    simp

theorem vals_mapOf (n : Bytes) (pairs : List (Bytes × Bytes)) :
    C12.vals n (mapOf pairs) = C12.vals n pairs := by
  unfold C12.vals
  apply HB.sortBytes_perm
  have := mapOf_perm pairs []
  rw [List.append_nil] at this
  exact (this.filter _).map _

theorem mem_mapOf {pairs : List (Bytes × Bytes)} {e : Bytes × Bytes} :
    e ∈ mapOf pairs ↔ e ∈ pairs := by
  have := mapOf_perm pairs []
  rw [List.append_nil] at this
  exact this.mem_iff

theorem names_mapOf (pairs : List (Bytes × Bytes)) :
    (Http.names (mapOf pairs)).all (fun n => pairs.any fun h => lower h.1 == n) = true := by
  rw [List.all_eq_true]
  intro n hn
  unfold Http.names at hn
  have hn' := List.mem_eraseDups.mp hn
  obtain ⟨e, he, rfl⟩ := List.mem_map.mp hn'
  rw [List.any_eq_true]
  exact ⟨e, mem_mapOf.mp he, by simp⟩

end Qhttp.C13L
