import Qhttp.Lemmas.C13Open
import Qhttp.Lemmas.C13Parse
/-
  C13, for `C13.holds_run`: the whole scripted-upstream history, by induction over the events that
  follow `new; feed req; turn`.
-/
namespace Qhttp.C13L
open Qhttp Qhttp.Sock Qhttp.Proxy

/-- `C13.upstreamSent` (same text; Props/C13 imports this file) -/
def upstreamSent' : List PEv → (connected : Bool) → Bytes × Bool
  | [], _ => ([], false)
  | .turn :: rest, _ => upstreamSent' rest true
  | .up b :: rest, true => let (x, c) := upstreamSent' rest true; (b ++ x, c)
  | .upClose :: _, true => ([], true)
  | _ :: rest, conn => upstreamSent' rest conn

inductive UpPh | open | closing | closed
deriving DecidableEq, Repr

/-- the events that may follow `new; feed req; turn`: upstream writes, the upstream's close,
    event-loop turns, acknowledgements of the client; the upstream server writes nothing between
    its close and the next turn (the model would deliver it, the real server cannot send it) -/
def restOk : UpPh → List PEv → Bool
  | _, [] => true
  | ph, .up _ :: r => ph != .closing && restOk ph r
  | ph, .upClose :: r => restOk (if ph == .open then .closing else ph) r
  | ph, .turn :: r => restOk (if ph == .closing then .closed else ph) r
  | ph, .sock (.ack _) :: r => restOk ph r
  | ph, .sock .ackAll :: r => restOk ph r
  | _, _ :: _ => false

/-- `delivered`, recursively: `b` = an upstream action is waiting for a turn -/
def dl : Bool → List PEv → Bool
  | b, [] => !b
  | _, .up _ :: r => dl true r
  | _, .upClose :: r => dl true r
  | _, .turn :: r => dl false r
  | b, .sock _ :: r => dl b r

def restEv : PEv → Bool
  | .up _ | .upClose | .turn | .sock (.ack _) | .sock .ackAll => true
  | _ => false

theorem restOk_cons {ph : UpPh} {e : PEv} {r : List PEv} (h : restOk ph (e :: r) = true) :
    restEv e = true ∧ ∃ ph', restOk ph' r = true := by
  cases e with
  | sock ev => cases ev <;> first | exact ⟨rfl, ph, h⟩ | exact absurd h Bool.false_ne_true
  | turn => exact ⟨rfl, _, h⟩
  | up b => exact ⟨rfl, ph, ((Bool.and_eq_true _ _).mp h).2⟩
  | upClose => exact ⟨rfl, _, h⟩

theorem restOk_all : ∀ {r : List PEv} {ph : UpPh}, restOk ph r = true → ∀ e ∈ r, restEv e = true := by
  intro r
  induction r with
  | nil => intro _ _ e he; cases he
  | cons x r ih =>
    intro ph h e he
    obtain ⟨h1, ph', h2⟩ := restOk_cons h
    rcases List.mem_cons.mp he with rfl | he'
    · exact h1
    · exact ih h2 e he'

theorem pevOk_of_restEv {e : PEv} (h : restEv e = true) : pevOk e = true := by
  cases e with
  | sock ev => cases ev <;> first | rfl | exact absurd h Bool.false_ne_true
  | _ => rfl

theorem restOk_pevOk (r : List PEv) (ph : UpPh) (h : restOk ph r = true) : ∀ e ∈ r, pevOk e = true :=
  fun e he => pevOk_of_restEv (restOk_all h e he)

def isUpAct : PEv → Bool | .up _ => true | .upClose => true | _ => false
def isTurnEv : PEv → Bool | .turn => true | _ => false

/-- `dl` read from the end of the history: the last upstream action or turn decides -/
def dlRev (b : Bool) : List PEv → Bool
  | [] => !b
  | x :: r => if isUpAct x then false else if isTurnEv x then true else dlRev b r

theorem dlRev_snoc (b : Bool) (e : PEv) (r : List PEv) :
    dlRev b (r ++ [e]) = dlRev (if isUpAct e then true else if isTurnEv e then false else b) r := by
  induction r with
  | nil => cases e <;> rfl
  | cons x r ih => simp only [List.cons_append, dlRev, ih]

theorem dl_eq_dlRev : ∀ (evs : List PEv) (b : Bool), dl b evs = dlRev b evs.reverse := by
  intro evs
  induction evs with
  | nil => intro b; rfl
  | cons e r ih =>
    intro b
    rw [List.reverse_cons, dlRev_snoc, ← ih]
    cases e <;> rfl

/-- `C13.delivered` looks at the history from its end in the same way -/
theorem delivered_eq_dlRev (r : List PEv) :
    (match r.dropWhile (fun e => !isUpAct e) with
      | [] => true
      | _ => (r.takeWhile (fun e => !isUpAct e)).any isTurnEv) = dlRev false r := by
  induction r with
  | nil => rfl
  | cons x r ih =>
    cases hx : isUpAct x with
    | true => simp [hx, dlRev]
    | false =>
      simp only [List.dropWhile_cons, List.takeWhile_cons, hx, Bool.not_false, if_true, List.any_cons, dlRev,
        Bool.false_eq_true, if_false]
      rw [← ih]
      cases r.dropWhile (fun e => !isUpAct e) <;> cases isTurnEv x <;> rfl

/-- the client's wire at the end, given everything the upstream sent and whether it closed -/
def FinalP (env : Env) (s : Sock) (sent : Bytes) (closed : Bool) : Prop :=
  match breakOn CRLF2 sent with
  | none => if closed then Obs.wire s.log = err502 env [] else Obs.wire s.log = []
  | some (head, body) =>
    match Parser.parseResponseHeaders head with
    | none => Obs.wire s.log = err502 env []
    | some (code, reason, hs) =>
      Obs.wire s.log = headOut code reason hs ++ body ∧ (if closed then WShut s else WOpen s)

theorem upstreamSent'_up (b : Bytes) (r : List PEv) :
    upstreamSent' (.up b :: r) true = (b ++ (upstreamSent' r true).1, (upstreamSent' r true).2) := rfl
theorem upstreamSent'_upClose (r : List PEv) : upstreamSent' (.upClose :: r) true = ([], true) := rfl
theorem upstreamSent'_turn (r : List PEv) (c : Bool) : upstreamSent' (.turn :: r) c = upstreamSent' r true := by
  cases c <;> rfl
theorem upstreamSent'_sock (e : Event) (r : List PEv) (c : Bool) :
    upstreamSent' (.sock e :: r) c = upstreamSent' r c := by
  cases c <;> rfl

theorem marker_wstep {st : St} (o : OSt st) : WStep st.sock (marker st).sock [] := by
  rw [ProxyL.marker_alive st o.op.alive]
  exact wstep_note o.op (quiet_ev _)

theorem sockEvent_ack_open (env : Env) {st : St} {D : Bytes} (o : OSt st) (m : OMode st D) {e : Event}
    (he : e = .ackAll ∨ ∃ n, e = .ack n) :
    OSt (sockEvent env st e) ∧ OMode (sockEvent env st e) D ∧ (sockEvent env st e).fromUp = st.fromUp ∧
    (sockEvent env st e).upClosing = st.upClosing := by
  obtain ⟨hfu, huc, hpd, hur, hcn⟩ := sockEvent_frame env st e
  have w0 := wstep_note o.op (quiet_ev (ProxyL.countEv st.sock.log))
  have w : WStep st.sock (sockEvent env st e).sock [] := by
    rw [sockEvent_sock, stepK_alive env app _ e o.op.alive]
    have hn : ¬ (!({ st.sock with log := st.sock.log ++ [Obs.ev (ProxyL.countEv st.sock.log)] } : Sock).alive) = true := by
      rw [show _ = st.sock.alive from rfl, o.op.alive]; decide
    show WStep st.sock (Sock.step env app _ e) []
    unfold Sock.step
    rw [if_neg hn]
    rcases he with rfl | ⟨n, rfl⟩ <;> simpa using w0.trans (wstep_ackN env w0.op _)
  exact ⟨o.quiet w ((hcn.mpr o.conn).trans o.conn.symm), m.quiet w hpd hur, hfu, huc⟩

theorem run_open (env : Env) (c : Cfg) : ∀ (rest : List PEv) (st : St) (D : Bytes) (b : Bool),
    OSt st → OMode st D → restOk (if st.upClosing then .closing else .open) rest = true →
    dl b rest = true → (b = false → st.fromUp = [] ∧ st.upClosing = false) →
    FinalP env (rest.foldl (Proxy.step env c) st).sock
      (D ++ st.fromUp.flatten ++ (if st.upClosing then [] else (upstreamSent' rest true).1))
      (st.upClosing || (upstreamSent' rest true).2) := by
  intro rest
  induction rest with
  | nil =>
    intro st D b o m _ hd hb
    obtain ⟨hfu, huc⟩ := hb (by simpa [dl] using hd)
    simp only [List.foldl_nil, hfu, huc, upstreamSent', List.flatten_nil, List.append_nil, Bool.false_eq_true,
      if_false, Bool.or_false]
    unfold FinalP
    cases m with
    | acc wire hp respH upRead nb => rw [nb]; simpa using wire
    | relayed head body code reason hs hp ws hb hq wire =>
      rw [hb]; simp only [hq]; exact ⟨wire, by simpa using o.op⟩
  | cons e r ih =>
    intro st D b o m hr hd hb
    rw [List.foldl_cons]
    cases e with
    | up x =>
      have huc : st.upClosing = false := by
        cases h : st.upClosing with
        | false => rfl
        | true => rw [h] at hr; simp [restOk] at hr
      rw [huc] at hr
      simp only [restOk, Bool.and_eq_true] at hr
      have w := marker_wstep o
      rw [ProxyL.step_up_eq, if_pos o.conn]
      have o' : OSt ({ st with sock := (marker st).sock, fromUp := st.fromUp ++ [x] } : St) := o.quiet w rfl
      have m' : OMode ({ st with sock := (marker st).sock, fromUp := st.fromUp ++ [x] } : St) D := m.quiet w rfl rfl
      have := ih { st with sock := (marker st).sock, fromUp := st.fromUp ++ [x] } D true o' m'
        (by show restOk (if st.upClosing = true then _ else _) r = true; rw [huc]; exact hr.2)
        (by simpa [dl] using hd) (fun h => nomatch h)
      simp only [huc, Bool.false_eq_true, if_false, Bool.false_or, upstreamSent'_up] at this ⊢
      simpa [List.flatten_append, List.append_assoc] using this
    | upClose =>
      have w := marker_wstep o
      rw [step_upClose_eq, if_pos o.conn]
      have o' : OSt ({ st with sock := (marker st).sock, upClosing := true } : St) := o.quiet w rfl
      have m' : OMode ({ st with sock := (marker st).sock, upClosing := true } : St) D := m.quiet w rfl rfl
      have hr' : restOk .closing r = true := by
        cases h : st.upClosing <;> (rw [h] at hr; simpa [restOk] using hr)
      have := ih { st with sock := (marker st).sock, upClosing := true } D true o' m' hr'
        (by simpa [dl] using hd) (fun h => nomatch h)
      simp only [if_true, Bool.true_or, List.append_nil] at this
      rw [upstreamSent'_upClose]
      cases h : st.upClosing <;> simpa [h] using this
    | turn =>
      have hd' : dl false r = true := by simpa [dl] using hd
      show FinalP env (r.foldl (Proxy.step env c) (Proxy.turn env c st)).sock _ _
      rw [upstreamSent'_turn]
      have hpe : ∀ e ∈ r, pevOk e = true := restOk_pevOk r _ (by simpa [restOk] using hr)
      cases turn_open env c o m with
      | cont hc o' m' fu uc =>
        have := ih (Proxy.turn env c st) (D ++ st.fromUp.flatten) false o' m'
          (by rw [uc]; rw [hc] at hr; simpa [restOk] using hr) hd' (fun _ => ⟨fu, uc⟩)
        simpa [fu, uc, hc] using this
      | failed head body hb' hq fr =>
        have fr' := frozen_run env c r fr hpe
        unfold FinalP
        rw [breakOn_append _ hb']
        simp only [hq]
        exact fr'.wire
      | closedNone hc nb fr =>
        have fr' := frozen_run env c r fr hpe
        simp only [hc, if_true, List.append_nil, Bool.true_or]
        unfold FinalP
        rw [nb]
        simpa using fr'.wire
      | closedRelayed hc head body code reason hs hb' hq fr =>
        have fr' := frozen_run env c r fr hpe
        simp only [hc, if_true, List.append_nil, Bool.true_or]
        unfold FinalP
        rw [hb']
        simp only [hq]
        exact ⟨fr'.wire, by simpa using fr'.shut⟩
    | sock ev =>
      have hev : ev = .ackAll ∨ ∃ n, ev = .ack n := by
        have := (restOk_cons hr).1
        cases ev <;> first | exact Or.inl rfl | exact Or.inr ⟨_, rfl⟩ | exact absurd this Bool.false_ne_true
      have hr' : restOk (if st.upClosing then .closing else .open) r = true := by
        rcases hev with rfl | ⟨n, rfl⟩ <;> simpa [restOk] using hr
      rw [step_sock, upstreamSent'_sock]
      obtain ⟨o', m', fu, uc⟩ := sockEvent_ack_open env o m hev
      have := ih (sockEvent env st ev) D b o' m' (by rw [uc]; exact hr') (by simpa [dl] using hd)
        (by rw [fu, uc]; exact hb)
      rw [fu, uc] at this
      exact this

theorem step_turn (env : Env) (c : Cfg) (st : St) : Proxy.step env c st .turn = Proxy.turn env c st := rfl

/-- the client sent one request whose head the library accepts -/
structure Accepted (env : Env) (req : Bytes) : Prop where
  ex : ∃ head rest rh p q, breakOn CRLF2 req = some (head, rest) ∧
    Parser.parseRequestHeaders head [] = some rh ∧ env.url rh.rawPath = some (p, q)

/-- the end of every scripted-upstream history `new; feed req; turn; rest` -/
theorem run_final (env : Env) (c : Cfg) (req : Bytes) (rest : List PEv) (ha : Accepted env req)
    (hr : restOk (if c.refuse then .closed else .open) rest = true) (hd : dl false rest = true) :
    (c.refuse = true →
      Frozen (err502 env []) (Proxy.run env c (.sock .new :: .sock (.feed req) :: .turn :: rest)).sock) ∧
    (c.refuse = false →
      FinalP env (Proxy.run env c (.sock .new :: .sock (.feed req) :: .turn :: rest)).sock
        (upstreamSent' rest true).1 (upstreamSent' rest true).2) := by
  obtain ⟨head, restb, rh, p, q, hb, hp, hu⟩ := ha.ex
  have hfed := proxy_after_feed env c req head restb rh p q hb hp hu
  have e : Proxy.run env c (.sock .new :: .sock (.feed req) :: .turn :: rest) =
      rest.foldl (Proxy.step env c)
        (Proxy.turn env c ([PEv.sock .new, .sock (.feed req)].foldl (Proxy.step env c) {})) := by
    unfold Proxy.run
    simp only [List.foldl_cons, List.foldl_nil, step_turn]
  rw [e]
  generalize ([PEv.sock .new, .sock (.feed req)].foldl (Proxy.step env c) {}) = fed at hfed
  obtain ⟨h1, h2⟩ := first_turn env c hfed
  constructor
  · intro hrf
    exact frozen_run env c rest (h1 hrf) (restOk_pevOk rest _ hr)
  · intro hrf
    obtain ⟨o, m, fu, uc⟩ := h2 hrf
    rw [hrf] at hr
    have := run_open env c rest (Proxy.turn env c fed) [] false o m (by rw [uc]; exact hr) hd
      (fun _ => ⟨fu, uc⟩)
    simpa [fu, uc] using this

end Qhttp.C13L
