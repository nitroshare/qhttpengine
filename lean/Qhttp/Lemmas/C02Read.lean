import Qhttp.Lemmas.C02Bytes
import Qhttp.Lemmas.ObsLog
import Qhttp.Lemmas.SockEqns
/-
  C02 — reader applications and the scenario shape (the domain of the theorems of Props/C02), the
  history walk in "append" form, and what `read`/`readAll` do to the state (`ReadSpec`).
-/
namespace Qhttp.C02
open Qhttp

/-- call lists of a reader: `read n`, `readAll`, and `avail` immediately followed by `readAll` -/
def readerOps : List ApiOp → Bool
  | [] => true
  | .read _ :: l => readerOps l
  | .readAll :: l => readerOps l
  | .avail :: .readAll :: l => readerOps l
  | _ => false

def ReaderOps (l : List ApiOp) : Prop := readerOps l = true

instance (l : List ApiOp) : Decidable (ReaderOps l) := inferInstanceAs (Decidable (_ = true))

structure ReaderApp (app : App) : Prop where
  hp  : ∀ s, ReaderOps (app.onHp s)
  rr  : ∀ s, ReaderOps (app.onRr s)
  rcf : ∀ s, ReaderOps (app.onRcf s)
  bw  : ∀ s, ReaderOps (app.onBw s)
  dc  : ∀ s, ReaderOps (app.onDc s)

/-- the scripted applications (what the `sock` scenario language can say) that are readers -/
def readerScript (sc : Script) : Bool :=
  readerOps sc.onHp && readerOps sc.onRr && readerOps sc.onRcf && readerOps sc.onBw && readerOps sc.onDc

theorem ReaderApp.of_script (sc : Script) (h : readerScript sc = true) : ReaderApp sc.app := by
  simp only [readerScript, Bool.and_eq_true] at h
  obtain ⟨⟨⟨⟨h1, h2⟩, h3⟩, h4⟩, h5⟩ := h
  exact ⟨fun _ => h1, fun _ => h2, fun _ => h3, fun _ => h4, fun _ => h5⟩

/-- a single call from idle context, where `avail` may stand alone -/
def readerOp : ApiOp → Bool
  | .read _ => true | .readAll => true | .avail => true | _ => false

theorem readerOp_of_ops {ops : List ApiOp} (h : ReaderOps ops) : ∀ op ∈ ops, readerOp op = true := by
  unfold ReaderOps at h
  fun_induction readerOps ops with
  | case1 => exact fun _ hm => nomatch hm
  | case2 n l ih => exact List.forall_mem_cons.mpr ⟨rfl, ih h⟩
  | case3 l ih => exact List.forall_mem_cons.mpr ⟨rfl, ih h⟩
  | case4 l ih => exact List.forall_mem_cons.mpr ⟨rfl, List.forall_mem_cons.mpr ⟨rfl, ih h⟩⟩
  | case5 l h1 h2 h3 h4 => exact absurd h Bool.false_ne_true

def readerEvent : Event → Bool
  | .feed _ => true | .turn => true | .api op => readerOp op | _ => false

/-- the scenario shape of C02: construct the socket, then feed / turn / idle-context reads -/
def readerEvents : List Event → Bool
  | .new :: rest => rest.all readerEvent
  | _ => false

def evLen (evs : List Event) (k : Nat) : Nat :=
  match evs[k]? with
  | some (.feed b) => b.length
  | some (.prebuf b) => b.length
  | _ => 0

/-- `C02.walk` with the two numbers it uses from the request made explicit -/
def walkL (evs : List Event) (hl n : Nat) : List Obs → (fed : Nat) → (hp : Bool) → (lastAv : Option Nat) → Bool
  | [], _, _, _ => true
  | o :: l, fed, hp, lastAv =>
    match o with
    | .ev k => walkL evs hl n l (fed + evLen evs k) hp none
    | .hp => walkL evs hl n l fed true none
    | .av m => walkL evs hl n l fed hp (some m)
    | .rd b =>
      (hp || b.isEmpty) && (match lastAv with | some m => b.length == m | none => true) &&
        walkL evs hl n l fed hp none
    | .rcf => (fed ≥ hl + n) && walkL evs hl n l fed hp none
    | _ => walkL evs hl n l fed hp none

def wst (evs : List Event) : List Obs → Nat → Bool → Option Nat → Nat × Bool × Option Nat
  | [], fed, hp, lastAv => (fed, hp, lastAv)
  | o :: l, fed, hp, _lastAv =>
    match o with
    | .ev k => wst evs l (fed + evLen evs k) hp none
    | .hp => wst evs l fed true none
    | .av m => wst evs l fed hp (some m)
    | _ => wst evs l fed hp none

theorem walkL_append (evs : List Event) (hl n : Nat) (l1 l2 : List Obs) :
    ∀ f h a, walkL evs hl n (l1 ++ l2) f h a =
      (walkL evs hl n l1 f h a &&
        walkL evs hl n l2 (wst evs l1 f h a).1 (wst evs l1 f h a).2.1 (wst evs l1 f h a).2.2) := by
  induction l1 with
  | nil => intro f h a; rfl
  | cons o l ih =>
    intro f h a
    -- only `rd` and `rcf` add a clause; every other observation just moves the state of the walk
    cases o with
    | rd b => simp only [List.cons_append, walkL, wst, ih, Bool.and_assoc]
    | rcf => simp only [List.cons_append, walkL, wst, ih, Bool.and_assoc]
    | _ => exact ih _ _ _

theorem wst_append (evs : List Event) (l1 l2 : List Obs) :
    ∀ f h a, wst evs (l1 ++ l2) f h a =
      wst evs l2 (wst evs l1 f h a).1 (wst evs l1 f h a).2.1 (wst evs l1 f h a).2.2 := by
  induction l1 with
  | nil => intro f h a; rfl
  | cons o l ih =>
    intro f h a
    cases o <;> exact ih _ _ _

theorem wst_hp (evs : List Event) (l : List Obs) :
    ∀ f h a, (wst evs l f h a).2.1 = (h || l.any Obs.isHp) := by
  induction l with
  | nil => intro f h a; exact (Bool.or_false h).symm
  | cons o l ih =>
    intro f h a
    cases o with
    | hp => exact (ih f true none).trans ((Bool.true_or _).trans (Bool.or_true h).symm)
    | _ => exact ih _ _ _

theorem walkL_av_rd (evs : List Event) (hl n : Nat) (l1 l2 : List Obs) (m : Nat) (b : Bytes)
    (h : walkL evs hl n (l1 ++ Obs.av m :: Obs.rd b :: l2) 0 false none = true) : b.length = m := by
  rw [walkL_append] at h
  simp only [walkL, Bool.and_eq_true, beq_iff_eq] at h
  exact h.2.1.2

theorem walkL_rd_hp (evs : List Event) (hl n : Nat) (l1 l2 : List Obs) (b : Bytes)
    (h : walkL evs hl n (l1 ++ Obs.rd b :: l2) 0 false none = true) (hb : b ≠ []) : Obs.hp ∈ l1 := by
  rw [walkL_append, wst_hp] at h
  simp only [walkL, Bool.and_eq_true, Bool.or_eq_true, Bool.false_or, List.any_eq_true,
    List.isEmpty_iff] at h
  rcases h.2.1.1 with ⟨o, ho, hh⟩ | he
  · cases o <;> simp [Obs.isHp] at hh
    exact ho
  · exact absurd he hb

/-- What a reader call does, whatever the state: a front piece `g` of `readBuffer` (nothing while
    the head is incomplete) moves behind the `QIODevice` buffer, a front piece `out` of that is returned. -/
def ReadSpec (s : Sock) (r : Sock × Bytes) : Prop :=
  ∃ out g q b d, r = ({ s with qio := q, readBuffer := b, dataRead := d }, out) ∧
    out ++ q = s.qio ++ g ∧ g ++ b = s.readBuffer ∧ d = s.dataRead + g.length ∧ (s.rs = .headers → g = [])

theorem readData_spec (s : Sock) (m : Nat) : ∃ g b d,
    Sock.readData s m = ({ s with readBuffer := b, dataRead := d }, g) ∧ g ++ b = s.readBuffer ∧
      d = s.dataRead + g.length ∧ (s.rs = .headers → g = []) := by
  by_cases hh : s.rs = .headers
  · exact ⟨[], s.readBuffer, s.dataRead, if_pos hh, rfl, (Int.add_zero _).symm, fun _ => rfl⟩
  · exact ⟨_, _, _, if_neg hh, List.take_append_drop m _, rfl, fun h => absurd h hh⟩

theorem read_spec (s : Sock) (n : Nat) : ReadSpec s (Sock.read s n) := by
  unfold Sock.read
  by_cases hio : s.ioOpen = true
  · rw [if_neg (by rw [hio]; decide)]
    by_cases h0 : n - (s.qio.take n).length = 0
    · rw [if_pos h0]
      exact ⟨_, [], _, _, _, rfl, by rw [List.take_append_drop, List.append_nil], rfl,
        (Int.add_zero _).symm, fun _ => rfl⟩
    · -- more was asked for than the `QIODevice` buffer holds: the buffer is handed out whole
      have hle : s.qio.length ≤ n := by rw [List.length_take] at h0; omega
      have hd : s.qio.drop n = [] := List.drop_of_length_le hle
      rw [if_neg h0]
      by_cases hc : n - (s.qio.take n).length ≥ Sock.chunk
      · rw [if_pos hc]
        obtain ⟨g, b, d, e, e1, e2, e3⟩ :=
          readData_spec { s with qio := s.qio.drop n } (n - (s.qio.take n).length)
        rw [e]
        refine ⟨_, g, _, _, _, rfl, ?_, e1, e2, e3⟩
        show s.qio.take n ++ g ++ s.qio.drop n = s.qio ++ g
        rw [hd, List.append_nil, List.take_of_length_le hle]
      · rw [if_neg hc]
        obtain ⟨g, b, d, e, e1, e2, e3⟩ := readData_spec { s with qio := s.qio.drop n } Sock.chunk
        rw [e]
        refine ⟨_, g, _, _, _, rfl, ?_, e1, e2, e3⟩
        show s.qio.take n ++ (s.qio.drop n ++ g).take _ ++ (s.qio.drop n ++ g).drop _ = s.qio ++ g
        rw [List.append_assoc, List.take_append_drop, ← List.append_assoc, List.take_append_drop]
  · rw [if_pos (by rw [Bool.not_eq_true] at hio; rw [hio]; rfl)]
    exact ⟨[], [], _, _, _, rfl, (List.append_nil _).symm, rfl, (Int.add_zero _).symm, fun _ => rfl⟩

theorem readAll_spec (s : Sock) : ReadSpec s (Sock.readAll s) := by
  unfold Sock.readAll
  by_cases hio : s.ioOpen = true
  · rw [if_neg (by rw [hio]; decide)]
    obtain ⟨g, b, d, e, e1, e2, e3⟩ := readData_spec { s with qio := [] } s.readBuffer.length
    rw [e]
    exact ⟨_, g, [], _, _, rfl, List.append_nil _, e1, e2, e3⟩
  · rw [if_pos (by rw [Bool.not_eq_true] at hio; rw [hio]; rfl)]
    exact ⟨[], [], _, _, _, rfl, (List.append_nil _).symm, rfl, (Int.add_zero _).symm, fun _ => rfl⟩

theorem with_qio_nil (s : Sock) (hq : s.qio = []) : { s with qio := [] } = s := by
  rw [← hq]

theorem readAll_headers (s : Sock) (hh : s.rs = .headers) (hq : s.qio = []) :
    Sock.readAll s = (s, []) := by
  unfold Sock.readAll
  split
  · rfl
  · rw [with_qio_nil s hq, Sock.readData, if_pos hh, hq]; rfl

theorem readAll_data (s : Sock) (hio : s.ioOpen = true) (hh : s.rs ≠ .headers) :
    Sock.readAll s = ({ s with qio := [], readBuffer := [],
                               dataRead := s.dataRead + s.readBuffer.length }, s.qio ++ s.readBuffer) := by
  unfold Sock.readAll
  rw [if_neg (by rw [hio]; decide), Sock.readData, if_neg hh]
  show ({ s with qio := [], readBuffer := s.readBuffer.drop s.readBuffer.length,
                 dataRead := s.dataRead + (s.readBuffer.take s.readBuffer.length).length },
        s.qio ++ s.readBuffer.take s.readBuffer.length) = _
  rw [List.drop_length, List.take_length]

end Qhttp.C02
