import Qhttp.Lemmas.ProxyRun
/-
  C12 — the relay induction, generic in the socket invariant: everything the proxy-level argument needs of the socket is collected in `SockI`.
  Instances: the declared-length case (C02's `RInv` + `Extra`, `sockI_len`) and the case without a
  declared length (`ProxyNoLen.lean`).
-/
namespace Qhttp.ProxyL
open Qhttp Proxy Qhttp.C02

/-- what the relay argument needs of a socket invariant `I fed s` (`fed`: bytes delivered so far;
    `fedF`: the whole stream; `ent`: the body bytes the upstream server is entitled to) -/
structure SockI (env : Env) (evs : List Event) (fedF : Bytes) (rh : Parser.ReqHead) (ent : Bytes)
    (I : Bytes → Sock → Prop) : Prop where
  init : I [] {}
  hpCount : ∀ {fed s}, I fed s → Obs.countP Obs.isHp s.log = if s.rs = .headers then 0 else 1
  readsNil : ∀ {fed s}, I fed s → s.rs = .headers → Obs.reads s.log = []
  flags : ∀ {fed s}, I fed s → s.alive = true ∧ s.delPending = false
  misc : ∀ {fed s} (b : Bytes), I fed s → I fed { s with log := s.log ++ [Obs.misc 20 b] }
  fields : ∀ {fed s}, I fed s → s.rs ≠ .headers →
    s.method = rh.method ∧ s.rawPath = rh.rawPath ∧ s.reqHeaders = rh.headers
  step : ∀ {fed s} (e : Event) (k : Nat), I fed s → evs[k]? = some e → relaySockEvent e = true →
    (fed ++ evBytesOf e) <+: fedF →
    I (fed ++ evBytesOf e) (Sock.stepK env Proxy.app (s, k) e).1 ∧
    LogStep s (Sock.stepK env Proxy.app (s, k) e).1 k ∧
    (e = .turn → (Sock.stepK env Proxy.app (s, k) e).1 = turnSock env s k)
  full : ∀ {s}, I fedF s → s.rs ≠ .headers
  readsPre : ∀ {fed s}, I fed s → fed <+: fedF → Obs.reads s.log <+: ent
  readsAll : ∀ {s}, I fedF s → Obs.reads s.log = ent

/-- between two events of a run with a silent upstream server: the socket invariant `I`, the relay
    invariant, and `n` events so far -/
structure PInvG (I : Bytes → Sock → Prop) (c : Cfg) (rh : Parser.ReqHead) (n : Nat) (fed : Bytes)
    (st : St) : Prop where
  inv : I fed st.sock
  relay : Relay c rh st
  nev : countEv st.sock.log = n

section generic
variable {env : Env} {evs : List Event} {fedF : Bytes} {rh : Parser.ReqHead} {ent : Bytes}
  {I : Bytes → Sock → Prop}

theorem sock_gen (hI : SockI env evs fedF rh ent I) (c : Cfg) (fed : Bytes) (ev : Event)
    (he : relaySockEvent ev = true) (n : Nat) (hk : evs[n]? = some ev) (hpre : (fed ++ evBytesOf ev) <+: fedF)
    {st : St} (h : PInvG I c rh n fed st) :
    PInvG I c rh (n + 1) (fed ++ evBytesOf ev) (step env c st (.sock ev)) := by
  obtain ⟨hR, hP, hn⟩ := h
  obtain ⟨hR1, hls, _⟩ := hI.step ev n hR hk he hpre
  have hrel := routed_relay hP hls (hI.hpCount hR) (hI.hpCount hR1) (hI.readsNil hR)
  have hsock := routed_sock (Obs.countP Obs.isHp st.sock.log) st (Sock.stepK env Proxy.app (st.sock, n) ev).1
  show PInvG _ _ _ _ _ (sockEvent env st ev)
  rw [sockEvent_eq, hn]
  exact ⟨by rw [hsock]; exact hR1, hrel, by rw [hsock, hls.countEv, hn]⟩

/-- the state of a turn after the client side and the connection have been dealt with -/
def flushed (env : Env) (c : Cfg) (st : St) (n : Nat) : St :=
  connectFlush c (routed (Obs.countP Obs.isHp st.sock.log) st (turnSock env st.sock n))

/-- past the client's head the connection is up with nothing in flight -/
theorem flushed_gen (hI : SockI env evs fedF rh ent I) (c : Cfg) (fed : Bytes) (n : Nat)
    (hk : evs[n]? = some .turn) (hpre : fed <+: fedF) {st : St} (h : PInvG I c rh n fed st) :
    PInvG I c rh (n + 1) fed (flushed env c st n) ∧
    (st.sock.rs ≠ .headers → (flushed env c st n).conn = .connected ∧ (flushed env c st n).toUp = []) := by
  obtain ⟨hR, hP, hn⟩ := h
  obtain ⟨hR1, hls, ht1⟩ := hI.step .turn n hR hk rfl (by simpa [evBytesOf] using hpre)
  rw [ht1 rfl] at hR1 hls
  simp only [evBytesOf, List.append_nil] at hR1
  have hrel := routed_relay hP hls (hI.hpCount hR) (hI.hpCount hR1) (hI.readsNil hR)
  have hsock := routed_sock (Obs.countP Obs.isHp st.sock.log) st (turnSock env st.sock n)
  obtain ⟨cf1, cf2, cf3⟩ := connectFlush_good hrel (by rw [hsock]; exact hI.fields hR1)
  have hRx : I fed (flushed env c st n).sock ∧ countEv (flushed env c st n).sock.log = n + 1 := by
    unfold flushed
    rcases cf2 with e | ⟨b, e⟩
    · rw [e, hsock]; exact ⟨hR1, by rw [hls.countEv, hn]⟩
    · rw [e, hsock]
      refine ⟨hI.misc b hR1, ?_⟩
      show countEv ((turnSock env st.sock n).log ++ [Obs.misc 20 b]) = n + 1
      rw [countEv_append, hls.countEv, hn]; rfl
  refine ⟨⟨hRx.1, cf1, hRx.2⟩, fun hne => cf3 ?_⟩
  rw [hsock]
  -- once past the head, always past the head
  intro h1
  have m := hls.countHp
  rw [hI.hpCount hR, hI.hpCount hR1, if_neg hne, if_pos h1] at m
  omega

theorem pstep_gen (hI : SockI env evs fedF rh ent I) (c : Cfg) (hc : c.refuse = false) (fed : Bytes)
    (e : PEv) (he : relayPEv e = true) (n : Nat) (hk : evs[n]? = some (proj e))
    (hpre : (fed ++ evBytesOf (proj e)) <+: fedF) {st : St} (h : PInvG I c rh n fed st) :
    PInvG I c rh (n + 1) (fed ++ evBytesOf (proj e)) (step env c st e) ∧
    (e = .turn → st.sock.rs ≠ .headers → (step env c st e).conn = .connected ∧ (step env c st e).toUp = []) := by
  cases e with
  | up b => cases he
  | upClose => cases he
  | sock ev => exact ⟨sock_gen hI c fed ev (relaySock_proj he) n hk hpre h, fun h => nomatch h⟩
  | turn =>
    simp only [proj, evBytesOf, List.append_nil] at hk hpre ⊢
    obtain ⟨hF, hup⟩ := flushed_gen hI c fed n hk hpre h
    have e0 : step env c st .turn = flushed env c st n := by
      show turn env c st = _
      rw [turn_eq0, if_neg (by simp [(hI.flags h.inv).1]), connectFlushR_eq env c _ hc, h.nev]
      exact tail_id env _ hF.relay.fromUp hF.relay.upClosing (hI.flags hF.inv).2
    rw [e0]
    exact ⟨hF, fun _ => hup⟩

theorem PInvG_init (hI : SockI env evs fedF rh ent I) (c : Cfg) : PInvG I c rh 0 [] ({} : St) := by
  refine ⟨hI.init, ?_, rfl⟩
  exact ⟨rfl, rfl, rfl, ⟨fun _ => rfl, fun _ => rfl⟩, fun _ => ⟨rfl, rfl, rfl, rfl⟩,
    (fun h => nomatch h), (fun h => nomatch h), (fun h => nomatch h)⟩

/-- what the invariant says once the whole stream has arrived; `T`: a turn has run since -/
theorem final_of_relay (hI : SockI env evs fedF rh ent I) {c : Cfg} {st : St} (hR : I fedF st.sock)
    (hP : Relay c rh st) {T : Prop} (hturn : T → st.conn = .connected ∧ st.toUp = []) :
    (upBytes st.sock.log = [] ∧ ¬ T) ∨
    ∃ d, upBytes st.sock.log = upstreamHead c (reqSock rh) ++ d ∧ d <+: ent ∧ (T → d = ent) := by
  cases hconn : st.conn with
  | none => exact absurd (hP.connNone.mp hconn) (hI.full hR)
  | connecting =>
    left
    refine ⟨(hP.connecting hconn).2.2.1, fun h => ?_⟩
    have := (hturn h).1
    rw [hconn] at this; cases this
  | connected =>
    right
    obtain ⟨_, _, d, e1, e2⟩ := hP.connected hconn
    refine ⟨d, e1, ?_, fun h => ?_⟩
    · exact (List.prefix_append d _).trans (by rw [e2]; exact hI.readsPre hR (List.prefix_refl _))
    · rw [(hturn h).2, List.append_nil] at e2
      rw [e2]; exact hI.readsAll hR
  | closed => exact absurd hconn hP.notClosed

end generic

theorem prun_gen {env : Env} {pevs : List PEv} {rh : Parser.ReqHead} {ent : Bytes}
    {I : Bytes → Sock → Prop} (hI : SockI env (pevs.map proj) (fedP pevs) rh ent I)
    (c : Cfg) (hc : c.refuse = false)
    (pre post : List PEv) (hevs : pevs = pre ++ post) (hok : ∀ e ∈ pre, relayPEv e = true) :
    PInvG I c rh pre.length (fedP pre) (Proxy.run env c pre) := by
  refine (run_induct env c pevs (fun pre st => (∀ e ∈ pre, relayPEv e = true) →
    PInvG I c rh pre.length (fedP pre) st) (fun _ => PInvG_init hI c) ?_ pre post hevs) hok
  intro pre e post st hsp h hok
  have h1 := (pstep_gen hI c hc (fedP pre) e (hok e (by simp)) pre.length (proj_at_split hsp)
    (fedP_prefix_split hsp) (h (fun e' he' => hok e' (by simp [he'])))).1
  rw [fedP_append, fedP_single, List.length_append, List.length_singleton]
  exact h1

theorem run_final_gen {env : Env} {pevs : List PEv} {rh : Parser.ReqHead} {ent : Bytes}
    {I : Bytes → Sock → Prop} (hI : SockI env (pevs.map proj) (fedP pevs) rh ent I)
    (c : Cfg) (hc : c.refuse = false) (hok : ∀ e ∈ pevs, relayPEv e = true) :
    (upBytes (Proxy.run env c pevs).sock.log = [] ∧ ¬ ∃ pre, pevs = pre ++ [PEv.turn]) ∨
    ∃ d, upBytes (Proxy.run env c pevs).sock.log = upstreamHead c (reqSock rh) ++ d ∧
      d <+: ent ∧ ((∃ pre, pevs = pre ++ [PEv.turn]) → d = ent) := by
  obtain ⟨hR, hP, _⟩ := prun_gen hI c hc pevs [] (by simp) hok
  refine final_of_relay hI hR hP ?_
  rintro ⟨pre, hpe⟩
  have hIp := prun_gen hI c hc pre [.turn] hpe (fun e he => hok e (by rw [hpe]; simp [he]))
  have hfp : fedP pre = fedP pevs := by
    rw [hpe, fedP_append, fedP_single]; simp [proj, evBytesOf]
  have hs := (pstep_gen hI c hc (fedP pre) .turn rfl pre.length (proj_at_split (post := []) hpe)
    (fedP_prefix_split (post := []) hpe) hIp).2 rfl (hI.full (by rw [← hfp]; exact hIp.inv))
  have hrun : Proxy.run env c pevs = step env c (Proxy.run env c pre) .turn := by
    rw [hpe]; simp [Proxy.run, List.foldl_append]
  rw [hrun]; exact hs

theorem sockI_len (env : Env) (evs : List Event) {head : Bytes} {N : Nat} {rh : Parser.ReqHead}
    (hp : Parsed env head N rh) (fedF restF : Bytes) (hfin : breakOn CRLF2 fedF = some (head, restF)) :
    SockI env evs fedF rh (restF.take N) (fun fed s => RInv evs head N fed s ∧ Extra rh s) where
  init := ⟨RInv_init evs head N, ⟨fun h => absurd rfl h, fun h => absurd rfl h⟩⟩
  hpCount := fun h => rinv_hpCount h.1
  readsNil := fun h => rinv_reads_nil h.1
  flags := fun h => rinv_flags h.1
  misc := fun b h => ⟨rinv_misc h.1 b, h.2.misc b⟩
  fields := fun h => h.2.fields
  step := by
    intro fed s e k h hk he hpre
    obtain ⟨a, b, c, d⟩ := stepK_good env hp fedF restF fed hfin e k hk he hpre h.1 h.2
    exact ⟨⟨a, b⟩, ⟨c⟩, d⟩
  full := fun h => rs_of_full h.1 hfin
  readsPre := fun h hpre => RInv.reads_prefix h.1 hfin hpre
  readsAll := by
    intro s h
    have hne := rs_of_full h.1 hfin
    obtain ⟨rest', t, k1, k2, k3, _⟩ := RInv.rest_eq h.1 hfin (List.prefix_refl _) hne
    obtain ⟨q1, q2⟩ := h.2.drained hne
    rw [q1, q2, List.append_nil, List.append_nil] at k3
    have hF := Qhttp.breakOn_some hfin
    have : rest' = restF := by
      rw [k1] at hF
      simp only [List.append_assoc] at hF
      exact List.append_cancel_left (List.append_cancel_left hF)
    rw [k3, this]

/-- **the relay invariant at the end of a run** `new / feed / turn` in any order with a declared
    length: nothing upstream yet (and the run does not end with a turn), or the request head
    followed by a prefix `d` of the entitled body, all of it when the run ends with a turn -/
theorem run_final (env : Env) (c : Cfg) (hc : c.refuse = false) {evs : List PEv} {head : Bytes}
    {N : Nat} {rh : Parser.ReqHead} (hp : Parsed env head N rh) (restF : Bytes)
    (hfin : breakOn CRLF2 (fedP evs) = some (head, restF)) (hok : ∀ e ∈ evs, relayPEv e = true) :
    (upBytes (Proxy.run env c evs).sock.log = [] ∧ ¬ ∃ pre, evs = pre ++ [PEv.turn]) ∨
    ∃ d, upBytes (Proxy.run env c evs).sock.log = upstreamHead c (reqSock rh) ++ d ∧
      d <+: restF.take N ∧ ((∃ pre, evs = pre ++ [PEv.turn]) → d = restF.take N) :=
  run_final_gen (sockI_len env (evs.map proj) hp (fedP evs) restF hfin) c hc hok

end Qhttp.ProxyL
