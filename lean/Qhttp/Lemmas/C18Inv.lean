import Qhttp.Lemmas.C18Head
import Qhttp.Props.C03
/-
  C18: the inductive invariant of the write side under acknowledgements, for the silent
  application.  With `h` the length of the response head: the notified counts add up to
  `max 0 (acknowledged − h)` while the socket is open, `hdrRemaining = h − acknowledged` while the
  write state is `headers`, `acknowledged + unacked = written`, and `h` is what `breakOn CRLF2`
  reads off the wire.  `C18.walk` is restated with the acknowledgement function abstracted
  (`ack k u`: what event `k` acknowledges when `u` bytes are outstanding); the preconditions on the
  calls are `C03.wfOp`.
-/
namespace Qhttp
namespace C18L

/-- ghost state of the walk: bytes written, bytes acknowledged, bytes notified -/
structure WSt where
  written : Nat := 0
  acked : Nat := 0
  sum : Int := 0

def wstep (ack : Nat → Nat → Nat) (st : WSt) : Obs → WSt
  | .ev k => { st with acked := st.acked + ack k (st.written - st.acked) }
  | .w b => { st with written := st.written + b.length }
  | .bw n => { st with sum := st.sum + n }
  | _ => st

/-- `h` = length of the head -/
def wok (h : Nat) (st : WSt) : Obs → Bool
  | .bw n => n ≥ 0 && st.sum + n ≤ ((st.acked : Int) - h) && st.sum + n ≤ ((st.written : Int) - h)
  | _ => true

def track (ack : Nat → Nat → Nat) (l : List Obs) (st : WSt := {}) : WSt := l.foldl (wstep ack) st

/-- `C18.walk` -/
def walk' (ack : Nat → Nat → Nat) (h : Nat) : List Obs → WSt → Bool
  | [], _ => true
  | o :: l, st => wok h st o && walk' ack h l (wstep ack st o)

def isBw : Obs → Bool | .bw _ => true | _ => false

/-- observations the walk, the wire and `C18.ended` do not look at -/
def quiet : Obs → Bool
  | .ev _ => false | .w _ => false | .bw _ => false | .tc => false | _ => true

def noBw (l : List Obs) : Bool := l.all (fun o => !isBw o)

@[simp] theorem track_snoc (ack l o st) : track ack (l ++ [o]) st = wstep ack (track ack l st) o := by
  simp [track, List.foldl_append]

theorem walk'_snoc (ack h l o st) :
    walk' ack h (l ++ [o]) st = (walk' ack h l st && wok h (track ack l st) o) := by
  induction l generalizing st with
  | nil => simp [walk', track]
  | cons p l ih => simp [walk', ih, track, Bool.and_assoc]

theorem wire_snoc (l : List Obs) {o : Obs} (h : Obs.isW o = false) : Obs.wire (l ++ [o]) = Obs.wire l := by
  rw [Obs.wire_append, Obs.wire_single h, List.append_nil]

theorem anyTc_snoc (l : List Obs) (o : Obs) : (l ++ [o]).any Obs.isTc = (l.any Obs.isTc || Obs.isTc o) := by
  rw [List.any_append, List.any_cons, List.any_nil, Bool.or_false]

theorem anyTc_snoc_of (l : List Obs) {o : Obs} (h : Obs.isTc o = false) :
    (l ++ [o]).any Obs.isTc = l.any Obs.isTc := by
  rw [anyTc_snoc, h, Bool.or_false]

theorem noBw_snoc (l : List Obs) (o : Obs) : noBw (l ++ [o]) = (noBw l && !isBw o) := by
  unfold noBw; rw [List.all_append, List.all_cons, List.all_nil, Bool.and_true]

theorem wok_of_not_bw (hh st) {o : Obs} (h : isBw o = false) : wok hh st o = true := by
  cases o <;> first | rfl | exact Bool.noConfusion h

theorem wstep_sum_of_not_bw (ack st) {o : Obs} (h : isBw o = false) : (wstep ack st o).sum = st.sum := by
  cases o <;> first | rfl | exact Bool.noConfusion h

theorem wstep_quiet (ack st o) (h : quiet o = true) : wstep ack st o = st := by
  cases o <;> first | rfl | exact Bool.noConfusion h

theorem isW_quiet (o : Obs) (h : quiet o = true) : Obs.isW o = false := by
  cases o <;> first | rfl | exact Bool.noConfusion h

theorem isTc_quiet (o : Obs) (h : quiet o = true) : Obs.isTc o = false := by
  cases o <;> first | rfl | exact Bool.noConfusion h

theorem isBw_quiet (o : Obs) (h : quiet o = true) : isBw o = false := by
  cases o <;> first | rfl | exact Bool.noConfusion h

theorem walk'_noBw (ack h l st) (hl : noBw l = true) : walk' ack h l st = true := by
  induction l generalizing st with
  | nil => rfl
  | cons o l ih =>
    rw [noBw, List.all_cons, Bool.and_eq_true, Bool.not_eq_true'] at hl
    rw [walk', wok_of_not_bw _ _ hl.1, ih _ hl.2]; rfl

theorem track_sum (ack : Nat → Nat → Nat) (l : List Obs) (st : WSt) :
    (track ack l st).sum = l.foldl (fun a o => match o with | .bw n => a + n | _ => a) st.sum := by
  induction l generalizing st with
  | nil => rfl
  | cons o l ih =>
    rw [track, List.foldl_cons, List.foldl_cons, ← track, ih]
    cases o <;> rfl

theorem track_sum_noBw (ack l st) (hl : noBw l = true) : (track ack l st).sum = st.sum := by
  induction l generalizing st with
  | nil => rfl
  | cons o l ih =>
    rw [noBw, List.all_cons, Bool.and_eq_true, Bool.not_eq_true'] at hl
    rw [track, List.foldl_cons, ← track, ih _ hl.2, wstep_sum_of_not_bw _ _ hl.1]

theorem quiet_suffix {α : Type} (f : List Obs → α) (hf : ∀ l o, quiet o = true → f (l ++ [o]) = f l)
    (l q : List Obs) (hq : List.all q quiet = true) : f (l ++ q) = f l := by
  induction q generalizing l with
  | nil => rw [List.append_nil]
  | cons o q ih =>
    rw [List.all_cons, Bool.and_eq_true] at hq
    rw [List.append_cons, ih _ hq.2, hf _ _ hq.1]

theorem track_quiet (ack l q st) (hq : List.all q quiet = true) : track ack (l ++ q) st = track ack l st :=
  quiet_suffix (track ack · st) (fun l o h => by rw [track_snoc, wstep_quiet _ _ _ h]) l q hq

theorem walk'_quiet (ack h l q st) (hq : List.all q quiet = true) :
    walk' ack h (l ++ q) st = walk' ack h l st :=
  quiet_suffix (walk' ack h · st)
    (fun l o ho => by rw [walk'_snoc, wok_of_not_bw _ _ (isBw_quiet o ho), Bool.and_true]) l q hq

theorem wire_quiet (l q : List Obs) (hq : List.all q quiet = true) : Obs.wire (l ++ q) = Obs.wire l :=
  quiet_suffix Obs.wire (fun l o h => wire_snoc l (isW_quiet o h)) l q hq

theorem anyTc_quiet (l q : List Obs) (hq : List.all q quiet = true) :
    (l ++ q).any Obs.isTc = l.any Obs.isTc :=
  quiet_suffix (List.any · Obs.isTc) (fun l o h => anyTc_snoc_of l (isTc_quiet o h)) l q hq

theorem noBw_quiet (l q : List Obs) (hq : List.all q quiet = true) : noBw (l ++ q) = noBw l :=
  quiet_suffix noBw (fun l o h => by rw [noBw_snoc, isBw_quiet o h]; exact Bool.and_true _) l q hq

structure Core (ack : Nat → Nat → Nat) (s : Sock) : Prop where
  alive : s.alive = true
  wire : Obs.wire s.log = s.tcp.wire
  wr : (track ack s.log).written = s.tcp.wire.length
  ak : (track ack s.log).acked + s.tcp.unacked = s.tcp.wire.length
  tc : s.tcp.devOpen = true → s.log.any Obs.isTc = false
  tc2 : s.tcp.devOpen = false → s.log.any Obs.isTc = true

/-- the response can still be written to -/
def live (s : Sock) : Prop := s.tcp.devOpen = true ∧ s.tcp.conn = .connected ∧ s.ioOpen = true

/-- phase A: no head requested yet -/
structure PhA (s : Sock) : Prop where
  ws : s.ws = .none
  wire : s.tcp.wire = []
  un : s.tcp.unacked = 0
  lv : live s
  clean : cleanHead s = true
  nobw : noBw s.log = true

/-- phase B: closed before anything was written -/
structure PhB (s : Sock) : Prop where
  dev : s.tcp.devOpen = false
  wire : s.tcp.wire = []
  un : s.tcp.unacked = 0
  nobw : noBw s.log = true

/-- phase C: the head, `h` bytes long, is on the wire -/
structure PhC (ack : Nat → Nat → Nat) (h : Nat) (s : Sock) : Prop where
  hl : (breakOn CRLF2 s.tcp.wire).map (fun p => p.1.length + 4) = some h
  wk : walk' ack h s.log {} = true
  st : (s.ws = .headers ∧ live s ∧ s.hdrRemaining = (h : Int) - (track ack s.log).acked ∧
          (track ack s.log).acked < h ∧ (track ack s.log).sum = 0)
     ∨ (s.ws = .data ∧ live s ∧ h ≤ (track ack s.log).acked ∧
          (track ack s.log).sum = ((track ack s.log).acked : Int) - h)
     ∨ (s.ws = .finished ∧ s.tcp.devOpen = false ∧ s.ioOpen = false)

/-- `s'` differs from `s` in nothing the invariant looks at, except quiet observations -/
structure Frame (s s' : Sock) : Prop where
  tcp : s'.tcp = s.tcp
  ws : s'.ws = s.ws
  hdr : s'.hdrRemaining = s.hdrRemaining
  io : s'.ioOpen = s.ioOpen
  alive : s'.alive = s.alive
  log : ∃ q, List.all q quiet = true ∧ s'.log = s.log ++ q

/-- the part of a frame that `Core` and phase B look at -/
structure BFrame (s s' : Sock) : Prop where
  wire : s'.tcp.wire = s.tcp.wire
  un : s'.tcp.unacked = s.tcp.unacked
  dev : s'.tcp.devOpen = s.tcp.devOpen
  alive : s'.alive = s.alive
  log : ∃ q, List.all q quiet = true ∧ s'.log = s.log ++ q

theorem append_quiet {a b c : List Obs} {q1 q2 : List Obs} (h1 : List.all q1 quiet = true) (e1 : b = a ++ q1)
    (h2 : List.all q2 quiet = true) (e2 : c = b ++ q2) : ∃ q, List.all q quiet = true ∧ c = a ++ q :=
  ⟨q1 ++ q2, by rw [List.all_append, h1, h2]; rfl, by rw [e2, e1, List.append_assoc]⟩

theorem Frame.refl (s : Sock) : Frame s s := ⟨rfl, rfl, rfl, rfl, rfl, [], rfl, (List.append_nil _).symm⟩

theorem Frame.trans {a b c : Sock} (h1 : Frame a b) (h2 : Frame b c) : Frame a c := by
  obtain ⟨q1, hq1, hl1⟩ := h1.log
  obtain ⟨q2, hq2, hl2⟩ := h2.log
  exact ⟨h2.tcp.trans h1.tcp, h2.ws.trans h1.ws, h2.hdr.trans h1.hdr, h2.io.trans h1.io,
    h2.alive.trans h1.alive, append_quiet hq1 hl1 hq2 hl2⟩

theorem Frame.b {s s' : Sock} (f : Frame s s') : BFrame s s' :=
  ⟨by rw [f.tcp], by rw [f.tcp], by rw [f.tcp], f.alive, f.log⟩

theorem BFrame.refl (s : Sock) : BFrame s s := (Frame.refl s).b

theorem BFrame.trans {a b c : Sock} (h1 : BFrame a b) (h2 : BFrame b c) : BFrame a c := by
  obtain ⟨q1, hq1, hl1⟩ := h1.log
  obtain ⟨q2, hq2, hl2⟩ := h2.log
  exact ⟨h2.wire.trans h1.wire, h2.un.trans h1.un, h2.dev.trans h1.dev, h2.alive.trans h1.alive,
    append_quiet hq1 hl1 hq2 hl2⟩

theorem Core.bframe {ack s s'} (f : BFrame s s') (c : Core ack s) : Core ack s' := by
  obtain ⟨q, hq, hl⟩ := f.log
  constructor
  · rw [f.alive]; exact c.alive
  · rw [hl, f.wire, wire_quiet _ _ hq]; exact c.wire
  · rw [hl, f.wire, track_quiet _ _ _ _ hq]; exact c.wr
  · rw [hl, f.wire, f.un, track_quiet _ _ _ _ hq]; exact c.ak
  · rw [hl, f.dev, anyTc_quiet _ _ hq]; exact c.tc
  · rw [hl, f.dev, anyTc_quiet _ _ hq]; exact c.tc2

theorem Core.frame {ack s s'} (f : Frame s s') (c : Core ack s) : Core ack s' := c.bframe f.b

theorem PhB.bframe {s s'} (f : BFrame s s') (p : PhB s) : PhB s' := by
  obtain ⟨q, hq, hl⟩ := f.log
  exact ⟨by rw [f.dev]; exact p.dev, by rw [f.wire]; exact p.wire, by rw [f.un]; exact p.un,
    by rw [hl, noBw_quiet _ _ hq]; exact p.nobw⟩

theorem live_frame {s s'} (f : Frame s s') (h : live s) : live s' := by
  unfold live at *; rw [f.tcp, f.io]; exact h

theorem PhA.frame {s s'} (f : Frame s s') (hc : cleanHead s' = true) (p : PhA s) : PhA s' := by
  obtain ⟨q, hq, hl⟩ := f.log
  exact ⟨by rw [f.ws]; exact p.ws, by rw [f.tcp]; exact p.wire, by rw [f.tcp]; exact p.un,
    live_frame f p.lv, hc, by rw [hl, noBw_quiet _ _ hq]; exact p.nobw⟩

/-- phase C reads the history through `track` and `walk'` only -/
theorem PhC.of_track {ack h s s'} (p : PhC ack h s) (ht : track ack s'.log = track ack s.log)
    (hw : walk' ack h s'.log {} = true) (htcp : s'.tcp = s.tcp) (hws : s'.ws = s.ws)
    (hr : s'.hdrRemaining = s.hdrRemaining) (hio : s'.ioOpen = s.ioOpen) : PhC ack h s' := by
  refine ⟨by rw [htcp]; exact p.hl, hw, ?_⟩
  unfold live
  rw [ht, hws, hr, htcp, hio]
  exact p.st

theorem PhC.frame {ack h s s'} (f : Frame s s') (p : PhC ack h s) : PhC ack h s' := by
  obtain ⟨q, hq, hl⟩ := f.log
  exact p.of_track (by rw [hl, track_quiet _ _ _ _ hq]) (by rw [hl, walk'_quiet _ _ _ _ _ hq]; exact p.wk)
    f.tcp f.ws f.hdr f.io

theorem PhC.ws_ne {ack h s} (p : PhC ack h s) : s.ws ≠ .none := by
  rcases p.st with h1 | h1 | h1 <;> rw [h1.1] <;> exact WState.noConfusion

/-- `started` is the flag `C03.wfOps` has reached -/
def WInv (ack : Nat → Nat → Nat) (started : Bool) (s : Sock) : Prop :=
  Core ack s ∧ (PhB s ∨ (started = false ∧ PhA s) ∨ (started = true ∧ ∃ h, PhC ack h s))

theorem WInv.frame {ack st s s'} (f : Frame s s') (hc : cleanHead s = true → cleanHead s' = true)
    (i : WInv ack st s) : WInv ack st s' := by
  obtain ⟨co, ph⟩ := i
  refine ⟨co.frame f, ?_⟩
  rcases ph with pb | ⟨e, pa⟩ | ⟨e, h, pc⟩
  · exact Or.inl (pb.bframe f.b)
  · exact Or.inr (Or.inl ⟨e, pa.frame f (hc pa.clean)⟩)
  · exact Or.inr (Or.inr ⟨e, h, pc.frame f⟩)

theorem Core.wrote {ack s} (b : Bytes) (c : Core ack s) : Core ack (Sock.wrote s b) := by
  have e : track ack (s.log ++ [Obs.w b])
      = { track ack s.log with written := (track ack s.log).written + b.length } := track_snoc ..
  constructor
  · exact c.alive
  · show Obs.wire (s.log ++ [Obs.w b]) = s.tcp.wire ++ b
    rw [Obs.wire_snoc_w, c.wire]
  · show (track ack (s.log ++ [Obs.w b])).written = (s.tcp.wire ++ b).length
    rw [e, List.length_append, ← c.wr]
  · show (track ack (s.log ++ [Obs.w b])).acked + (s.tcp.unacked + b.length) = (s.tcp.wire ++ b).length
    rw [e, List.length_append, ← c.ak]; exact (Nat.add_assoc ..).symm
  · show _ → (s.log ++ [Obs.w b]).any Obs.isTc = false
    rw [anyTc_snoc_of _ rfl]; exact c.tc
  · show _ → (s.log ++ [Obs.w b]).any Obs.isTc = true
    rw [anyTc_snoc_of _ rfl]; exact c.tc2

theorem Core.tcpWrite {ack s} (b : Bytes) (c : Core ack s) : Core ack (Sock.tcpWrite s b) := by
  rcases Sock.tcpWrite_cases s b with h | ⟨_, _, _, h⟩ <;> rw [h]
  · exact c
  · exact c.wrote b

theorem PhB.tcpWrite {s} (b : Bytes) (p : PhB s) : Sock.tcpWrite s b = s := Sock.tcpWrite_closed s b p.dev

theorem PhC.wrote {ack h s} (b : Bytes) (p : PhC ack h s) : PhC ack h (Sock.wrote s b) := by
  refine ⟨?_, ?_, ?_⟩
  · have := p.hl
    cases hb : breakOn CRLF2 s.tcp.wire with
    | none => rw [hb] at this; cases this
    | some ar =>
      show (breakOn CRLF2 (s.tcp.wire ++ b)).map _ = _
      rw [Qhttp.breakOn_append b hb]
      rw [hb] at this; exact this
  · show walk' ack h (s.log ++ [Obs.w b]) {} = true
    rw [walk'_snoc, p.wk]; rfl
  · show (_ ∧ _ ∧ _ = (h : Int) - (track ack (s.log ++ [Obs.w b])).acked ∧
        (track ack (s.log ++ [Obs.w b])).acked < h ∧ (track ack (s.log ++ [Obs.w b])).sum = 0)
      ∨ (_ ∧ _ ∧ h ≤ (track ack (s.log ++ [Obs.w b])).acked ∧
        (track ack (s.log ++ [Obs.w b])).sum = ((track ack (s.log ++ [Obs.w b])).acked : Int) - h) ∨ _
    rw [track_snoc]
    exact p.st

theorem PhC.tcpWrite {ack h s} (b : Bytes) (p : PhC ack h s) : PhC ack h (Sock.tcpWrite s b) := by
  rcases Sock.tcpWrite_cases s b with h | ⟨_, _, _, h⟩ <;> rw [h]
  · exact p
  · exact p.wrote b

theorem writeHeaders_A {ack s} (c : Core ack s) (p : PhA s) :
    Core ack (Sock.writeHeaders s) ∧ PhC ack (Sock.headBytes s).length (Sock.writeHeaders s) := by
  have hw : Sock.writeHeaders s
      = Sock.wrote { s with ws := .headers, hdrRemaining := (Sock.headBytes s).length } (Sock.headBytes s) :=
    Sock.tcpWrite_open (s := { s with ws := .headers, hdrRemaining := (Sock.headBytes s).length })
      p.lv.1 p.lv.2.1 (Sock.headBytes_ne_nil s)
  have c1 : Core ack { s with ws := .headers, hdrRemaining := (Sock.headBytes s).length } :=
    ⟨c.alive, c.wire, c.wr, c.ak, c.tc, c.tc2⟩
  obtain ⟨a, ha, hl⟩ := breakOn_head s p.clean []
  rw [List.append_nil] at ha
  have hacked : (track ack (s.log ++ [Obs.w (Sock.headBytes s)])).acked = 0 := by
    have := c.ak; rw [p.wire, p.un] at this
    rw [track_snoc]; exact this
  have hsum : (track ack (s.log ++ [Obs.w (Sock.headBytes s)])).sum = 0 := by
    rw [track_snoc]; exact track_sum_noBw _ _ _ p.nobw
  rw [hw]
  refine ⟨c1.wrote _, ?_, ?_, Or.inl ⟨rfl, p.lv, ?_, ?_, hsum⟩⟩
  · show (breakOn CRLF2 (s.tcp.wire ++ Sock.headBytes s)).map _ = _
    rw [p.wire, List.nil_append, ha]; exact congrArg some hl
  · show walk' ack _ (s.log ++ [Obs.w (Sock.headBytes s)]) {} = true
    rw [walk'_snoc, walk'_noBw _ _ _ _ p.nobw]; rfl
  · show ((Sock.headBytes s).length : Int)
      = (Sock.headBytes s).length - ((track ack (s.log ++ [Obs.w (Sock.headBytes s)])).acked : Nat)
    rw [hacked]; exact (Int.sub_zero _).symm
  · show (track ack (s.log ++ [Obs.w (Sock.headBytes s)])).acked < _
    rw [hacked]; exact List.length_pos_iff.mpr (Sock.headBytes_ne_nil s)

theorem writeHeaders_B {s} (p : PhB s) :
    Frame s (Sock.writeHeaders s) ∨
    (Sock.writeHeaders s = { s with ws := .headers, hdrRemaining := (Sock.headBytes s).length }) :=
  Or.inr (Sock.tcpWrite_closed _ _ p.dev)

theorem noCR_of_hasCRLF (x : Bytes) (h : C03.hasCRLF x = false) : noCR x = true := by
  simp only [C03.hasCRLF, containsByte, CR, Bool.or_eq_false_iff] at h
  simp only [noCR, List.all_eq_true, bne_iff_ne, ne_eq]
  intro c hc hc13
  have := h.1
  simp only [List.any_eq_false, beq_iff_eq] at this
  exact this c hc hc13

theorem reason_noCR {r : Option Bytes} (h : (match r with | some x => !C03.hasCRLF x | none => true) = true) :
    ∀ x, r = some x → noCR x = true := by
  intro x hx; subst hx
  exact noCR_of_hasCRLF _ (Bool.not_eq_true' .. ▸ h)

theorem setStatusCode_frame (s : Sock) (c : Int) (r : Option Bytes) : Frame s (Sock.setStatusCode s c r) :=
  ⟨rfl, rfl, rfl, rfl, rfl, [], rfl, (List.append_nil _).symm⟩

theorem setHeader_frame (s : Sock) (n v : Bytes) (r : Bool) : Frame s (Sock.setHeader s n v r) := by
  rw [C03L.setHeader_eq]
  exact ⟨rfl, rfl, rfl, rfl, rfl, [], rfl, (List.append_nil _).symm⟩

theorem log_frame (s : Sock) (o : Obs) (h : quiet o = true) : Frame s { s with log := s.log ++ [o] } :=
  ⟨rfl, rfl, rfl, rfl, rfl, [o], by rw [List.all_cons, h]; rfl, rfl⟩

theorem emitDc_frame (env : Env) (s : Sock) :
    Frame s (Sock.emitDc env {} s) ∧ cleanHead (Sock.emitDc env {} s) = cleanHead s :=
  ⟨⟨rfl, rfl, rfl, rfl, rfl, [Obs.dc], rfl, rfl⟩, rfl⟩

theorem close_spec (s : Sock) :
    (Sock.close s).ws = .finished ∧ (Sock.close s).ioOpen = false ∧ (Sock.close s).alive = s.alive ∧
    (Sock.close s).tcp.devOpen = false ∧ (Sock.close s).tcp.wire = s.tcp.wire ∧
    (Sock.close s).tcp.unacked = s.tcp.unacked ∧
    (Sock.close s).log = (if s.tcp.devOpen then s.log ++ [Obs.tc] else s.log) := by
  simp only [Sock.close, Sock.tcpClose]
  cases hd : s.tcp.devOpen
  · simp [hd]
  · cases hc : s.tcp.conn
    · simp; split <;> simp
    · simp
    · simp

def frameOp : ApiOp → Bool
  | .wh | .write _ | .err _ _ | .redir _ _ | .json _ _ | .close => false
  | _ => true

/-- API calls the scenario may make: anything but recording an observation the walk looks at -/
def okOp : ApiOp → Bool
  | .note o => quiet o
  | _ => true

theorem nextSt_of_frameOp {op : ApiOp} (h : frameOp op = true) (st : Bool) : C03.nextSt op st = st := by
  cases op <;> first | rfl | exact Bool.noConfusion h

theorem cleanMap_of_all (m : List (Bytes × Bytes))
    (h : m.all (fun e => !e.1.isEmpty && !containsByte COLON e.1 && !C03.hasCRLF e.1 && !C03.hasCRLF e.2 && trim e.1 == e.1) = true) :
    cleanMap m = true := by
  simp only [List.all_eq_true, Bool.and_eq_true, Bool.not_eq_true'] at h
  simp only [cleanMap, List.all_eq_true, Bool.and_eq_true]
  intro e he
  have := h e he
  exact ⟨noCR_of_hasCRLF _ this.1.1.2, noCR_of_hasCRLF _ this.1.2⟩

/-- the calls that touch neither the transport nor the write state: a frame, and within the
    preconditions the pending head stays free of CR -/
theorem apiPrim_frame (env : Env) {s : Sock} (ha : s.alive = true) {op : ApiOp} (hf : frameOp op = true)
    (hop : okOp op = true) {st : Bool} (hwf : C03.wfOp op st = true) :
    Frame s (Sock.apiPrim env s op) ∧ (cleanHead s = true → cleanHead (Sock.apiPrim env s op) = true) := by
  cases op <;> first | exact Bool.noConfusion hf | (rw [Sock.apiPrim_alive env ha]; dsimp only)
  · rename_i n
    obtain ⟨q, k, d, e⟩ := Sock.read_eq s n
    rw [e]; exact ⟨⟨rfl, rfl, rfl, rfl, rfl, [_], rfl, rfl⟩, id⟩
  · obtain ⟨q, k, d, e⟩ := Sock.readAll_eq s
    rw [e]; exact ⟨⟨rfl, rfl, rfl, rfl, rfl, [_], rfl, rfl⟩, id⟩
  · exact ⟨log_frame s _ rfl, id⟩
  · exact ⟨log_frame s _ rfl, id⟩
  · simp only [C03.wfOp, Bool.and_eq_true] at hwf
    exact ⟨setStatusCode_frame s _ _, cleanHead_setStatusCode s _ _ (reason_noCR hwf.2)⟩
  · simp only [C03.wfOp, Bool.and_eq_true, Bool.not_eq_true'] at hwf
    exact ⟨setHeader_frame s _ _ _,
      cleanHead_setHeader s _ _ _ (noCR_of_hasCRLF _ hwf.1.1.2) (noCR_of_hasCRLF _ hwf.1.2)⟩
  · rename_i m
    refine ⟨⟨rfl, rfl, rfl, rfl, rfl, [], rfl, (List.append_nil _).symm⟩, fun hc => ?_⟩
    rw [cleanHead, Bool.and_eq_true] at hc ⊢
    exact ⟨hc.1, cleanMap_foldl_insert m [] (cleanMap_of_all m hwf) rfl⟩
  · exact ⟨log_frame s _ hop, id⟩

theorem writeHeaders_dead (s : Sock) (h : s.tcp.devOpen = false) : BFrame s (Sock.writeHeaders s) := by
  rw [show Sock.writeHeaders s = { s with ws := .headers, hdrRemaining := (Sock.headBytes s).length } from
    Sock.tcpWrite_closed _ _ h]
  exact ⟨rfl, rfl, rfl, rfl, [], rfl, (List.append_nil _).symm⟩

theorem write_dead (s : Sock) (b : Bytes) (h : s.tcp.devOpen = false) : BFrame s (Sock.write s b) := by
  unfold Sock.write
  split
  · exact BFrame.refl s
  · split
    · have f := writeHeaders_dead s h
      rw [Sock.tcpWrite_closed _ _ (f.dev.trans h)]
      exact f
    · rw [Sock.tcpWrite_closed _ _ h]; exact BFrame.refl s

theorem close_dead (s : Sock) (h : s.tcp.devOpen = false) : BFrame s (Sock.close s) := by
  simp only [Sock.close, Sock.tcpClose, h]
  exact ⟨rfl, rfl, rfl, rfl, [], rfl, by simp⟩

theorem bframe_closed {s0 : Sock} (h : s0.tcp.devOpen = false) : C03L.RespClosed (BFrame s0) where
  status := fun s c r f => f.trans (setStatusCode_frame s c r).b
  hdr := fun s n v r f => f.trans (setHeader_frame s n v r).b
  hdrs := fun _ _ f => f.trans ⟨rfl, rfl, rfl, rfl, [], rfl, (List.append_nil _).symm⟩
  wh := fun s f => f.trans (writeHeaders_dead s (f.dev.trans h))
  write := fun s b f => f.trans (write_dead s b (f.dev.trans h))
  close := fun s f => f.trans (close_dead s (f.dev.trans h))

theorem respOp_of_frameOp {op : ApiOp} (h : frameOp op = false) : C03L.respOp op = true := by
  cases op <;> first | rfl | exact Bool.noConfusion h

theorem write_A {ack s} (b : Bytes) (c : Core ack s) (p : PhA s) :
    Core ack (Sock.write s b) ∧ ∃ h, PhC ack h (Sock.write s b) := by
  have hw : Sock.write s b = Sock.tcpWrite (Sock.writeHeaders s) b := by
    simp [Sock.write, p.lv.2.2, p.ws]
  obtain ⟨c1, p1⟩ := writeHeaders_A c p
  rw [hw]
  exact ⟨c1.tcpWrite b, _, p1.tcpWrite b⟩

theorem write_C {ack h s} (b : Bytes) (c : Core ack s) (p : PhC ack h s) :
    Core ack (Sock.write s b) ∧ PhC ack h (Sock.write s b) := by
  unfold Sock.write
  split
  · exact ⟨c, p⟩
  · rw [if_neg p.ws_ne]
    exact ⟨c.tcpWrite b, p.tcpWrite b⟩

theorem Core.close {ack s} (c : Core ack s) : Core ack (Sock.close s) := by
  obtain ⟨_, _, h3, h4, h5, h6, h7⟩ := close_spec s
  cases hd : s.tcp.devOpen
  · exact c.bframe ⟨h5, h6, h4.trans hd.symm, h3, [], rfl, by rw [h7, hd, List.append_nil]; rfl⟩
  · replace h7 : (Sock.close s).log = s.log ++ [Obs.tc] := by rw [h7, hd]; rfl
    have e : track ack (s.log ++ [Obs.tc]) = track ack s.log := track_snoc ..
    constructor
    · rw [h3]; exact c.alive
    · rw [h7, h5, wire_snoc _ rfl]; exact c.wire
    · rw [h7, h5, e]; exact c.wr
    · rw [h7, h5, h6, e]; exact c.ak
    · rw [h4]; exact Bool.noConfusion
    · intro _; rw [h7, anyTc_snoc]; exact Bool.or_true _

theorem close_A {ack s} (c : Core ack s) (p : PhA s) : Core ack (Sock.close s) ∧ PhB (Sock.close s) := by
  obtain ⟨_, _, h3, h4, h5, h6, h7⟩ := close_spec s
  refine ⟨c.close, h4, h5.trans p.wire, h6.trans p.un, ?_⟩
  rw [h7, p.lv.1, if_pos rfl, noBw_snoc, p.nobw]; rfl

theorem close_C {ack h s} (c : Core ack s) (p : PhC ack h s) :
    Core ack (Sock.close s) ∧ PhC ack h (Sock.close s) := by
  obtain ⟨h1, h2, h3, h4, h5, h6, h7⟩ := close_spec s
  refine ⟨c.close, ?_, ?_, Or.inr (Or.inr ⟨h1, h4, h2⟩)⟩
  · rw [h5]; exact p.hl
  · rw [h7]; split
    · rw [walk'_snoc, p.wk]; rfl
    · exact p.wk

theorem setStatusCode_A {ack s} (c : Int) (r : Option Bytes) (hr : ∀ x, r = some x → noCR x = true)
    (co : Core ack s) (p : PhA s) :
    Core ack (Sock.setStatusCode s c r) ∧ PhA (Sock.setStatusCode s c r) :=
  ⟨co.frame (setStatusCode_frame s c r),
   p.frame (setStatusCode_frame s c r) (cleanHead_setStatusCode s c r hr p.clean)⟩

theorem setHeader_A {ack s} (n v : Bytes) (r : Bool) (hn : noCR n = true) (hv : noCR v = true)
    (co : Core ack s) (p : PhA s) :
    Core ack (Sock.setHeader s n v r) ∧ PhA (Sock.setHeader s n v r) :=
  ⟨co.frame (setHeader_frame s n v r),
   p.frame (setHeader_frame s n v r) (cleanHead_setHeader s n v r hn hv p.clean)⟩

theorem writeError_A {ack s} (env : Env) (c : Int) (r : Option Bytes)
    (hr : ∀ x, r = some x → noCR x = true) (co : Core ack s) (p : PhA s) :
    Core ack (Sock.writeError env s c r) ∧ ∃ h, PhC ack h (Sock.writeError env s c r) := by
  unfold Sock.writeError
  obtain ⟨c1, p1⟩ := setStatusCode_A c r hr co p
  obtain ⟨c2, p2⟩ := setHeader_A Sock.CONTENT_LENGTH
    (natDigits (env.errPage (Sock.setStatusCode s c r).code (Sock.setStatusCode s c r).reason).length) true
    (by decide) (noCR_natDigits _) c1 p1
  obtain ⟨c3, p3⟩ := setHeader_A Sock.CONTENT_TYPE Sock.TEXT_HTML true (by decide) (by decide) c2 p2
  obtain ⟨c4, p4⟩ := writeHeaders_A c3 p3
  obtain ⟨c5, p5⟩ := write_C (env.errPage (Sock.setStatusCode s c r).code (Sock.setStatusCode s c r).reason) c4 p4
  obtain ⟨c6, p6⟩ := close_C c5 p5
  exact ⟨c6, _, p6⟩

theorem writeRedirect_A {ack s} (path : Bytes) (pm : Bool) (hp : noCR path = true)
    (co : Core ack s) (p : PhA s) :
    Core ack (Sock.writeRedirect s path pm) ∧ ∃ h, PhC ack h (Sock.writeRedirect s path pm) := by
  unfold Sock.writeRedirect
  obtain ⟨c1, p1⟩ := setStatusCode_A (if pm then 301 else 302) none (fun _ hx => nomatch hx) co p
  obtain ⟨c2, p2⟩ := setHeader_A (lit ['L','o','c','a','t','i','o','n']) path true (by decide) hp c1 p1
  obtain ⟨c3, p3⟩ := writeHeaders_A c2 p2
  obtain ⟨c4, p4⟩ := close_C c3 p3
  exact ⟨c4, _, p4⟩

theorem writeJson_A {ack s} (bd : Bytes) (c : Int) (co : Core ack s) (p : PhA s) :
    Core ack (Sock.writeJson s bd c) ∧ ∃ h, PhC ack h (Sock.writeJson s bd c) := by
  unfold Sock.writeJson
  obtain ⟨c1, p1⟩ := setStatusCode_A c none (fun _ hx => nomatch hx) co p
  obtain ⟨c2, p2⟩ := setHeader_A Sock.CONTENT_LENGTH (natDigits bd.length) true
    (by decide) (noCR_natDigits _) c1 p1
  obtain ⟨c3, p3⟩ := setHeader_A Sock.CONTENT_TYPE Sock.APP_JSON true (by decide) (by decide) c2 p2
  obtain ⟨c4, h, p4⟩ := write_A bd c3 p3
  obtain ⟨c5, p5⟩ := close_C c4 p4
  exact ⟨c5, _, p5⟩

theorem apiPrim_A (env : Env) (ack) {s : Sock} {op : ApiOp} (hf : frameOp op = false)
    (hwf : C03.wfOp op false = true) (co : Core ack s) (p : PhA s) :
    WInv ack (C03.nextSt op false) (Sock.apiPrim env s op) := by
  cases op <;> first | exact Bool.noConfusion hf | (rw [Sock.apiPrim_alive env co.alive]; dsimp only)
  · obtain ⟨c1, p1⟩ := writeHeaders_A co p
    exact ⟨c1, Or.inr (Or.inr ⟨rfl, _, p1⟩)⟩
  · obtain ⟨c1, h, p1⟩ := write_A _ co p
    exact ⟨c1, Or.inr (Or.inr ⟨rfl, _, p1⟩)⟩
  · simp only [C03.wfOp, Bool.and_eq_true] at hwf
    obtain ⟨c1, h, p1⟩ := writeError_A env _ _ (reason_noCR hwf.2) co p
    exact ⟨c1, Or.inr (Or.inr ⟨rfl, _, p1⟩)⟩
  · simp only [C03.wfOp, Bool.and_eq_true, Bool.not_eq_true'] at hwf
    obtain ⟨c1, h, p1⟩ := writeRedirect_A _ _ (noCR_of_hasCRLF _ hwf.2) co p
    exact ⟨c1, Or.inr (Or.inr ⟨rfl, _, p1⟩)⟩
  · obtain ⟨c1, h, p1⟩ := writeJson_A _ _ co p
    exact ⟨c1, Or.inr (Or.inr ⟨rfl, _, p1⟩)⟩
  · obtain ⟨c1, p1⟩ := close_A co p
    exact ⟨c1, Or.inl p1⟩

theorem apiPrim_C (env : Env) (ack) (h : Nat) {s : Sock} {op : ApiOp} (hf : frameOp op = false)
    (hwf : C03.wfOp op true = true) (co : Core ack s) (p : PhC ack h s) :
    Core ack (Sock.apiPrim env s op) ∧ PhC ack h (Sock.apiPrim env s op) := by
  cases op <;> first | exact Bool.noConfusion hf | exact Bool.noConfusion hwf |
    (rw [Sock.apiPrim_alive env co.alive]; dsimp only)
  · exact write_C _ co p
  · exact close_C co p

theorem api_inv (env : Env) (ack) (s : Sock) (op : ApiOp) (st : Bool)
    (hop : okOp op = true) (hwf : C03.wfOp op st = true) (i : WInv ack st s) :
    WInv ack (C03.nextSt op st) (Sock.api env {} s op) := by
  have key : WInv ack (C03.nextSt op st) (Sock.apiPrim env s op) := by
    cases hf : frameOp op
    · obtain ⟨co, ph⟩ := i
      rcases ph with pb | ⟨rfl, pa⟩ | ⟨rfl, h, pc⟩
      · have f := (bframe_closed pb.dev).apiPrim env (respOp_of_frameOp hf) (BFrame.refl s)
        exact ⟨co.bframe f, Or.inl (pb.bframe f)⟩
      · exact apiPrim_A env ack hf hwf co pa
      · obtain ⟨c1, p1⟩ := apiPrim_C env ack h hf hwf co pc
        exact ⟨c1, Or.inr (Or.inr ⟨C03.nextSt_mono op rfl, h, p1⟩)⟩
    · rw [nextSt_of_frameOp hf]
      obtain ⟨f, hcl⟩ := apiPrim_frame env i.1.alive hf hop hwf
      exact i.frame f hcl
  rw [Sock.api_eq]
  split
  · exact key.frame (emitDc_frame env _).1 fun h => (emitDc_frame env _).2.trans h
  · exact key

theorem obw_stay (env : Env) (s : Sock) (b : Int) (hws : s.ws = .headers) (h : s.hdrRemaining - b > 0) :
    Sock.onBytesWritten env {} s b = { s with hdrRemaining := s.hdrRemaining - b } := by
  unfold Sock.onBytesWritten
  rw [if_pos hws, if_pos h]
  simp [hws]

theorem obw_done (env : Env) (s : Sock) (b : Int) (hws : s.ws = .headers) (h : ¬ s.hdrRemaining - b > 0) :
    Sock.onBytesWritten env {} s b
      = { s with ws := .data, log := s.log ++ [Obs.bw (b - s.hdrRemaining)] } := by
  unfold Sock.onBytesWritten
  rw [if_pos hws, if_neg h]
  simp [Sock.emit, Sock.apis]

theorem obw_data (env : Env) (s : Sock) (b : Int) (hws : s.ws = .data) :
    Sock.onBytesWritten env {} s b = { s with log := s.log ++ [Obs.bw b] } := by
  unfold Sock.onBytesWritten
  rw [if_neg (by rw [hws]; simp)]
  simp [Sock.emit, Sock.apis, hws]

theorem obw_other (env : Env) (s : Sock) (b : Int) (h1 : s.ws ≠ .headers) (h2 : s.ws ≠ .data) :
    Sock.onBytesWritten env {} s b = s := by
  unfold Sock.onBytesWritten
  rw [if_neg h1]
  simp [h2]

theorem obw_tcp (env : Env) (s : Sock) (b : Int) : (Sock.onBytesWritten env {} s b).tcp = s.tcp := by
  by_cases h1 : s.ws = .headers
  · by_cases h2 : s.hdrRemaining - b > 0
    · rw [obw_stay env s b h1 h2]
    · rw [obw_done env s b h1 h2]
  · by_cases h3 : s.ws = .data
    · rw [obw_data env s b h3]
    · rw [obw_other env s b h1 h3]

/-- when the last outstanding byte is acknowledged after `close`, `disconnected` is emitted -/
theorem ackTail_bframe (env : Env) (s : Sock) :
    BFrame s (Sock.ackTail env {} s) ∧ (Sock.ackTail env {} s).ws = s.ws ∧
    (Sock.ackTail env {} s).ioOpen = s.ioOpen := by
  unfold Sock.ackTail
  split
  · exact ⟨⟨rfl, rfl, rfl, rfl, [Obs.dc], rfl, rfl⟩, rfl, rfl⟩
  · exact ⟨BFrame.refl s, rfl, rfl⟩

theorem ackN_unacked (env : Env) (s : Sock) (n : Nat) :
    (Sock.ackN env {} s n).tcp.unacked = s.tcp.unacked - min n s.tcp.unacked := by
  by_cases h : min n s.tcp.unacked = 0
  · rw [Sock.ackN_zero env {} h, h]; rfl
  · rw [Sock.ackN_pos env {} h, (ackTail_bframe env _).1.un, obw_tcp]

theorem Core.snoc_bw {ack s s'} (c : Core ack s) (m : Int) (hl : s'.log = s.log ++ [Obs.bw m])
    (ht : s'.tcp = s.tcp) (ha : s'.alive = s.alive) : Core ack s' := by
  have e : track ack (s.log ++ [Obs.bw m]) = { track ack s.log with sum := (track ack s.log).sum + m } :=
    track_snoc ..
  constructor
  · rw [ha]; exact c.alive
  · rw [hl, ht, wire_snoc _ rfl]; exact c.wire
  · rw [hl, ht, e]; exact c.wr
  · rw [hl, ht, e]; exact c.ak
  · rw [hl, ht, anyTc_snoc_of _ rfl]; exact c.tc
  · rw [hl, ht, anyTc_snoc_of _ rfl]; exact c.tc2

theorem PhC.notify {ack h s s'} (c : Core ack s)
    (hh : (breakOn CRLF2 s.tcp.wire).map (fun p => p.1.length + 4) = some h)
    (wk : walk' ack h s.log {} = true) (hlv : live s) (m : Int) (hm : 0 ≤ m)
    (hA : h ≤ (track ack s.log).acked)
    (hs : (track ack s.log).sum + m = ((track ack s.log).acked : Int) - h)
    (hl : s'.log = s.log ++ [Obs.bw m]) (ht : s'.tcp = s.tcp) (ha : s'.alive = s.alive)
    (hio : s'.ioOpen = s.ioOpen) (hws : s'.ws = .data) : Core ack s' ∧ PhC ack h s' := by
  have e : track ack (s.log ++ [Obs.bw m]) = { track ack s.log with sum := (track ack s.log).sum + m } :=
    track_snoc ..
  have hle : (track ack s.log).acked ≤ (track ack s.log).written := by
    have := c.wr; have := c.ak; omega
  refine ⟨c.snoc_bw m hl ht ha, by rw [ht]; exact hh, ?_, Or.inr (Or.inl ⟨hws, ?_, ?_, ?_⟩)⟩
  · rw [hl, walk'_snoc, wk, Bool.true_and]
    simp only [wok, Bool.and_eq_true, decide_eq_true_eq]
    omega
  · unfold live at *; rw [ht, hio]; exact hlv
  · rw [hl, e]; exact hA
  · rw [hl, e]; exact hs

/-- the notification after `n'` more bytes were acknowledged (`a` before, `a + n'` now) -/
theorem obw_C (env : Env) (ack : Nat → Nat → Nat) (h : Nat) (s2 : Sock) (a n' : Nat)
    (c2 : Core ack s2)
    (hl : (breakOn CRLF2 s2.tcp.wire).map (fun p => p.1.length + 4) = some h)
    (wk2 : walk' ack h s2.log {} = true)
    (ha : (track ack s2.log).acked = a + n')
    (st : (s2.ws = .headers ∧ live s2 ∧ s2.hdrRemaining = (h : Int) - a ∧ a < h ∧ (track ack s2.log).sum = 0)
        ∨ (s2.ws = .data ∧ live s2 ∧ h ≤ a ∧ (track ack s2.log).sum = (a : Int) - h)
        ∨ (s2.ws = .finished ∧ s2.tcp.devOpen = false ∧ s2.ioOpen = false)) :
    Core ack (Sock.ackTail env {} (Sock.onBytesWritten env {} s2 (n' : Nat))) ∧
    PhC ack h (Sock.ackTail env {} (Sock.onBytesWritten env {} s2 (n' : Nat))) := by
  rcases st with ⟨hws, hlv, hrem, hlt, hsum⟩ | ⟨hws, hlv, hge, hsum⟩ | ⟨hws, hd, hio⟩
  · -- inside the header block
    by_cases hstay : s2.hdrRemaining - ((n' : Nat) : Int) > 0
    · rw [obw_stay env s2 _ hws hstay, Sock.ackTail_connected]
      · refine ⟨⟨c2.alive, c2.wire, c2.wr, c2.ak, c2.tc, c2.tc2⟩, hl, wk2, Or.inl ⟨hws, hlv, ?_, ?_, hsum⟩⟩
        · show s2.hdrRemaining - (n' : Int) = (h : Int) - ((track ack s2.log).acked : Nat)
          rw [ha, hrem]; omega
        · show (track ack s2.log).acked < h
          rw [hrem] at hstay; omega
      · exact hlv.2.1
    · rw [obw_done env s2 _ hws hstay, Sock.ackTail_connected]
      · exact PhC.notify c2 hl wk2 hlv _ (by omega) (by omega) (by rw [hsum, ha, hrem]; omega) rfl rfl rfl rfl rfl
      · exact hlv.2.1
  · -- body bytes
    rw [obw_data env s2 _ hws, Sock.ackTail_connected]
    · exact PhC.notify c2 hl wk2 hlv _ (by omega) (by omega) (by rw [hsum, ha]; omega) rfl rfl rfl rfl hws
    · exact hlv.2.1
  · -- closed: no notification; the last acknowledgement may complete the shutdown
    rw [obw_other env s2 _ (by rw [hws]; exact WState.noConfusion) (by rw [hws]; exact WState.noConfusion)]
    obtain ⟨f, fws, fio⟩ := ackTail_bframe env s2
    obtain ⟨q, hq, hlog⟩ := f.log
    exact ⟨c2.bframe f, by rw [f.wire]; exact hl, by rw [hlog, walk'_quiet _ _ _ _ _ hq]; exact wk2,
      Or.inr (Or.inr ⟨fws.trans hws, f.dev.trans hd, fio.trans hio⟩)⟩

theorem Core.marker {ack s s'} (c : Core ack s) (k : Nat) (hl : s'.log = s.log ++ [Obs.ev k])
    (hle : ack k s.tcp.unacked ≤ s.tcp.unacked) (hw : s'.tcp.wire = s.tcp.wire)
    (hd : s'.tcp.devOpen = s.tcp.devOpen) (hu : s'.tcp.unacked = s.tcp.unacked - ack k s.tcp.unacked)
    (ha : s'.alive = s.alive) :
    Core ack s' ∧ track ack s'.log
      = { track ack s.log with acked := (track ack s.log).acked + ack k s.tcp.unacked } := by
  have hdiff : (track ack s.log).written - (track ack s.log).acked = s.tcp.unacked := by
    have := c.wr; have := c.ak; omega
  have e : track ack s'.log
      = { track ack s.log with acked := (track ack s.log).acked + ack k s.tcp.unacked } := by
    rw [hl, track_snoc]
    show WSt.mk _ (_ + ack k (_ - _)) _ = _
    rw [hdiff]
  refine ⟨⟨by rw [ha]; exact c.alive, ?_, ?_, ?_, ?_, ?_⟩, e⟩
  · rw [hl, hw, wire_snoc _ rfl]; exact c.wire
  · rw [e, hw]; exact c.wr
  · rw [e, hw, hu]
    have := c.ak
    show (track ack s.log).acked + ack k s.tcp.unacked + _ = _
    omega
  · rw [hl, hd, anyTc_snoc_of _ rfl]; exact c.tc
  · rw [hl, hd, anyTc_snoc_of _ rfl]; exact c.tc2

theorem marker0 {ack : Nat → Nat → Nat} {s : Sock} (k : Nat) (st : Bool) (h0 : ack k s.tcp.unacked = 0)
    (i : WInv ack st s) : WInv ack st { s with log := s.log ++ [Obs.ev k] } := by
  obtain ⟨co, ph⟩ := i
  obtain ⟨c1, e⟩ := co.marker (s' := { s with log := s.log ++ [Obs.ev k] }) k rfl (by rw [h0]; exact Nat.zero_le _)
    rfl rfl (by rw [h0]; rfl) rfl
  have htr : track ack (s.log ++ [Obs.ev k]) = track ack s.log := by rw [e, h0]; rfl
  have hnb : noBw s.log = true → noBw (s.log ++ [Obs.ev k]) = true := fun h => by rw [noBw_snoc, h]; rfl
  refine ⟨c1, ?_⟩
  rcases ph with pb | ⟨e, pa⟩ | ⟨e, h, pc⟩
  · exact Or.inl ⟨pb.dev, pb.wire, pb.un, hnb pb.nobw⟩
  · exact Or.inr (Or.inl ⟨e, pa.ws, pa.wire, pa.un, pa.lv, pa.clean, hnb pa.nobw⟩)
  · exact Or.inr (Or.inr ⟨e, h, pc.of_track htr
      (show walk' ack h (s.log ++ [Obs.ev k]) {} = true by rw [walk'_snoc, pc.wk]; rfl) rfl rfl rfl rfl⟩)

/-- the `k`-th event is an acknowledgement of `n` bytes: marker and acknowledgement together -/
theorem ackN_C (env : Env) (ack : Nat → Nat → Nat) (h : Nat) (s : Sock) (k n : Nat)
    (co : Core ack s) (p : PhC ack h s) (hack : ack k s.tcp.unacked = min n s.tcp.unacked)
    (hn : ¬ min n s.tcp.unacked = 0) :
    Core ack (Sock.ackN env {} { s with log := s.log ++ [Obs.ev k] } n) ∧
    PhC ack h (Sock.ackN env {} { s with log := s.log ++ [Obs.ev k] } n) := by
  rw [Sock.ackN_pos env {} (s := { s with log := s.log ++ [Obs.ev k] }) hn]
  -- the state after the marker and the decrement of `unacked`
  obtain ⟨c2, e⟩ := co.marker
    (s' := { s with log := s.log ++ [Obs.ev k],
                    tcp := { s.tcp with unacked := s.tcp.unacked - min n s.tcp.unacked } })
    k rfl (by rw [hack]; exact Nat.min_le_right _ _) rfl rfl (by rw [hack]) rfl
  rw [hack] at e
  refine obw_C env ack h _ (track ack s.log).acked (min n s.tcp.unacked) c2 p.hl ?_ (by rw [e]) ?_
  · show walk' ack h (s.log ++ [Obs.ev k]) {} = true
    rw [walk'_snoc, p.wk]; rfl
  · have hsum : (track ack (s.log ++ [Obs.ev k])).sum = (track ack s.log).sum := by
      rw [show track ack (s.log ++ [Obs.ev k]) = _ from e]
    show (s.ws = .headers ∧ live s ∧ _ ∧ _ ∧ (track ack (s.log ++ [Obs.ev k])).sum = 0)
      ∨ (s.ws = .data ∧ live s ∧ _ ∧ (track ack (s.log ++ [Obs.ev k])).sum = _) ∨ _
    rw [hsum]; exact p.st

def okEvent : Event → Bool
  | .api op => okOp op
  | .ack _ => true
  | .ackAll => true
  | _ => false

/-- as `C03.apiOps` -/
def opsOf (evs : List Event) : List ApiOp :=
  evs.filterMap fun e => match e with | .api o => some o | _ => none

def nextSt (e : Event) (st : Bool) : Bool :=
  match e with
  | .api op => C03.nextSt op st
  | _ => st

/-- as `C18.ackOf` -/
def ackOfEvent (e : Event) (u : Nat) : Nat :=
  match e with
  | .ack n => min n u
  | .ackAll => u
  | _ => 0

theorem ackN_inv (env : Env) (ack : Nat → Nat → Nat) (s : Sock) (k n : Nat) (st : Bool)
    (hack : ack k s.tcp.unacked = min n s.tcp.unacked) (i : WInv ack st s) :
    WInv ack st (Sock.ackN env {} { s with log := s.log ++ [Obs.ev k] } n) := by
  by_cases hn : min n s.tcp.unacked = 0
  · rw [Sock.ackN_zero env {} (s := { s with log := s.log ++ [Obs.ev k] }) hn]
    exact marker0 k st (hack.trans hn) i
  · obtain ⟨co, ph⟩ := i
    have hu : s.tcp.unacked ≠ 0 := fun h => hn (by rw [h]; exact Nat.min_zero _)
    rcases ph with pb | ⟨e, pa⟩ | ⟨e, h, pc⟩
    · exact absurd pb.un hu
    · exact absurd pa.un hu
    · obtain ⟨c1, p1⟩ := ackN_C env ack h s k n co pc hack hn
      exact ⟨c1, Or.inr (Or.inr ⟨e, h, p1⟩)⟩

theorem opsOf_cons_api (op : ApiOp) (rest : List Event) : opsOf (.api op :: rest) = op :: opsOf rest := rfl

theorem stepK_inv (env : Env) (ack : Nat → Nat → Nat) (s : Sock) (k : Nat) (e : Event)
    (rest : List Event) (st : Bool) (hev : okEvent e = true)
    (hwf : C03.wfOps (opsOf (e :: rest)) st = true)
    (hack : ∀ u, ack k u = ackOfEvent e u) (i : WInv ack st s) :
    WInv ack (nextSt e st) (Sock.stepK env {} (s, k) e).1 ∧
    C03.wfOps (opsOf rest) (nextSt e st) = true ∧
    (e = .ackAll → (Sock.stepK env {} (s, k) e).1.tcp.unacked = 0) ∧
    (Sock.stepK env {} (s, k) e).2 = k + 1 := by
  have halive : s.alive = true := i.1.alive
  rw [Sock.stepK_alive env {} k e halive]
  cases e <;> first | exact Bool.noConfusion hev | skip
  · rename_i n
    rw [show Sock.step env {} { s with log := s.log ++ [Obs.ev k] } (.ack n)
        = Sock.ackN env {} { s with log := s.log ++ [Obs.ev k] } n from if_neg (by rw [halive]; decide)]
    exact ⟨ackN_inv env ack s k n st (hack _) i, hwf, Event.noConfusion, rfl⟩
  · rw [show Sock.step env {} { s with log := s.log ++ [Obs.ev k] } .ackAll
        = Sock.ackN env {} { s with log := s.log ++ [Obs.ev k] } s.tcp.unacked from
      if_neg (by rw [halive]; decide)]
    refine ⟨ackN_inv env ack s k s.tcp.unacked st ((hack _).trans (Nat.min_self _).symm) i, hwf, fun _ => ?_, rfl⟩
    rw [ackN_unacked]
    show s.tcp.unacked - min s.tcp.unacked s.tcp.unacked = 0
    rw [Nat.min_self, Nat.sub_self]
  · rename_i op
    rw [Sock.step_api env {} op (s := { s with log := s.log ++ [Obs.ev k] }) halive]
    rw [opsOf_cons_api, C03.wfOps_cons, Bool.and_eq_true] at hwf
    exact ⟨api_inv env ack _ op st hev hwf.1 (marker0 k st (hack _) i), hwf.2, Event.noConfusion, rfl⟩

theorem fold_inv (env : Env) (ack : Nat → Nat → Nat) (evs : List Event)
    (hack : ∀ j e, evs[j]? = some e → ∀ u, ack j u = ackOfEvent e u) :
    ∀ (suf pre : List Event) (sk : Sock × Nat) (st : Bool),
      pre ++ suf = evs → sk.2 = pre.length → suf.all okEvent = true →
      C03.wfOps (opsOf suf) st = true → WInv ack st sk.1 →
      (pre.getLast? = some .ackAll → sk.1.tcp.unacked = 0) →
      ∃ st', WInv ack st' (suf.foldl (Sock.stepK env {}) sk).1 ∧
        (evs.getLast? = some .ackAll → (suf.foldl (Sock.stepK env {}) sk).1.tcp.unacked = 0) := by
  intro suf
  induction suf with
  | nil =>
    intro pre sk st hpre _ _ _ i hl
    rw [List.append_nil] at hpre
    exact ⟨st, i, by rw [← hpre]; exact hl⟩
  | cons e suf ih =>
    intro pre sk st hpre hk hall hwf i _
    obtain ⟨s, k⟩ := sk
    simp only at hk i
    simp only [List.all_cons, Bool.and_eq_true] at hall
    have hidx : evs[k]? = some e := by
      rw [← hpre, hk]; simp
    obtain ⟨i', hwf', hlast, hk'⟩ := stepK_inv env ack s k e suf st hall.1 hwf (hack k e hidx) i
    rw [List.foldl_cons]
    refine ih (pre ++ [e]) _ _ (by rw [← hpre]; simp) (by rw [hk', hk]; simp) hall.2 hwf' i' ?_
    intro hl
    rw [List.getLast?_concat] at hl
    exact hlast (Option.some.inj hl)

theorem init_inv (env : Env) (ack : Nat → Nat → Nat) (h0 : ∀ u, ack 0 u = 0) :
    WInv ack false (Sock.stepK env {} ({}, 0) .new).1 ∧ (Sock.stepK env {} ({}, 0) .new).2 = 1 := by
  have e : Sock.stepK env {} ({}, 0) .new = ({ initPending := true, log := [Obs.ev 0] }, 1) := rfl
  rw [e]
  refine ⟨⟨⟨rfl, rfl, rfl, ?_, fun _ => rfl, fun h => by cases h⟩, Or.inr (Or.inl ⟨rfl, rfl, rfl, rfl, ⟨rfl, rfl, rfl⟩, by decide, rfl⟩)⟩, rfl⟩
  show (track ack [Obs.ev 0]).acked + 0 = 0
  simp [track, wstep, h0]

theorem run_inv (env : Env) (ack : Nat → Nat → Nat) (rest : List Event)
    (hack : ∀ j e, (Event.new :: rest)[j]? = some e → ∀ u, ack j u = ackOfEvent e u)
    (hall : rest.all okEvent = true) (hwf : C03.wfOps (opsOf rest) false = true) :
    ∃ st', WInv ack st' (Sock.run env {} (.new :: rest)) ∧
      ((Event.new :: rest).getLast? = some .ackAll → (Sock.run env {} (.new :: rest)).tcp.unacked = 0) := by
  obtain ⟨i0, hk0⟩ := init_inv env ack (fun u => hack 0 .new rfl u)
  have := fold_inv env ack (.new :: rest) hack rest [.new] (Sock.stepK env {} ({}, 0) .new) false rfl
    (by rw [hk0]; rfl) hall hwf i0 (by intro h; cases h)
  simpa [Sock.run] using this

end C18L
end Qhttp
