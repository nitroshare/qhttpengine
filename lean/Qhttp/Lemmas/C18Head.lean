import Qhttp.Lemmas.HttpRender
/-
  C18: the first blank line of a response head built from CR-free pieces is its last four bytes
  (so `breakOn CRLF2` on the wire measures exactly the head), and the response-side setters keep
  the pieces CR-free when the call satisfies `C03.wfOp` (no CR or LF in names, values, reason).
-/
namespace Qhttp
namespace C18L

def noCR (x : Bytes) : Bool := x.all (fun c => c != 13)

@[simp] theorem noCR_nil : noCR [] = true := rfl
@[simp] theorem noCR_cons (c : UInt8) (x : Bytes) : noCR (c :: x) = (c != 13 && noCR x) := by
  simp [noCR]
@[simp] theorem noCR_append (x y : Bytes) : noCR (x ++ y) = (noCR x && noCR y) := by
  simp [noCR]

theorem noCR_iff {x : Bytes} : noCR x = true ↔ CR ∉ x :=
  ⟨not_mem_of_all_bne, fun h => List.all_eq_true.2 fun c hc => bne_iff_ne.2 fun e => h (by
    rw [CR, ← e]; exact hc)⟩

theorem breakOn_append (d xs ys a r : Bytes) (h : breakOn d xs = some (a, r)) :
    breakOn d (xs ++ ys) = some (a, r ++ ys) :=
  Qhttp.breakOn_append ys h

theorem breakOn_length (d xs a r : Bytes) (h : breakOn d xs = some (a, r)) :
    a.length + d.length + r.length = xs.length :=
  (Qhttp.breakOn_length h).symm

/-- Bool-valued (like `noCR`, which is `CR ∉ x`) because the invariants of `C18Inv` transport it
    by equations `cleanHead s' = cleanHead s` -/
def cleanMap (m : HeaderMap) : Bool := m.all (fun e => noCR e.1 && noCR e.2)

theorem noCR_natDigits (n : Nat) : noCR (natDigits n) = true :=
  noCR_iff.2 (HB.CR_not_mem_natDigits n)

theorem noCR_intText (i : Int) : noCR (intText i) = true := by
  unfold intText
  split
  · simp [noCR_natDigits, b]
  · exact noCR_natDigits _

def cleanHead (s : Sock) : Bool := noCR s.reason && cleanMap s.respHeaders

theorem breakOn_head (s : Sock) (hc : cleanHead s = true) (rest : Bytes) :
    ∃ a, breakOn CRLF2 (Sock.headBytes s ++ rest) = some (a, rest) ∧
         a.length + 4 = (Sock.headBytes s).length := by
  simp only [cleanHead, cleanMap, Bool.and_eq_true, List.all_eq_true] at hc
  have hfree : ∀ {x : Bytes}, noCR x = true → ¬ CRLF <:+: x :=
    fun h c => noCR_iff.1 h (CR_mem_of_CRLF_infix c)
  have hP : noCR (lit ['H','T','T','P','/','1','.','0',' '] ++ intText s.code ++ [SP] ++ s.reason) = true := by
    simp only [noCR_append, noCR_intText, hc.1, Bool.and_true]
    decide
  refine ⟨_, Http.breakOn_CRLF2_render _ s.respHeaders rest (hfree hP)
    (fun e he => ⟨hfree (hc.2 e he).1, hfree (hc.2 e he).2⟩), ?_⟩
  have := congrArg List.length (Http.CRLF_headerLines s.respHeaders)
  simp only [Sock.headBytes, List.length_append, CRLF, List.length_cons, List.length_nil] at this ⊢
  omega

theorem cleanMap_cons (k v : Bytes) (m : HeaderMap) :
    cleanMap ((k, v) :: m) = (noCR k && noCR v && cleanMap m) := by
  simp [cleanMap]

theorem cleanMap_insert (k v : Bytes) (m : HeaderMap) (hk : noCR k = true) (hv : noCR v = true)
    (hm : cleanMap m = true) : cleanMap (HeaderMap.insert k v m) = true := by
  induction m with
  | nil => simp [HeaderMap.insert, hk, hv, cleanMap]
  | cons e m ih =>
    obtain ⟨k', v'⟩ := e
    rw [cleanMap_cons] at hm
    simp only [Bool.and_eq_true] at hm
    simp only [HeaderMap.insert]
    split
    · rw [cleanMap_cons, ih hm.2]; simp [hm.1]
    · rw [cleanMap_cons, cleanMap_cons]; simp [hk, hv, hm]

theorem cleanMap_remove (k : Bytes) (m : HeaderMap) (hm : cleanMap m = true) :
    cleanMap (HeaderMap.remove k m) = true := by
  simp only [cleanMap, HeaderMap.remove, List.all_eq_true] at hm ⊢
  intro e he
  exact hm e (List.mem_filter.mp he).1

theorem cleanMap_replace (k v : Bytes) (m : HeaderMap) (hk : noCR k = true) (hv : noCR v = true)
    (hm : cleanMap m = true) : cleanMap (HeaderMap.replace k v m) = true := by
  induction m with
  | nil => simp [HeaderMap.replace, hk, hv, cleanMap]
  | cons e m ih =>
    obtain ⟨k', v'⟩ := e
    rw [cleanMap_cons] at hm
    simp only [Bool.and_eq_true] at hm
    simp only [HeaderMap.replace]
    split
    · rw [cleanMap_cons]; simp [hm, hv]
    · split
      · rw [cleanMap_cons, ih hm.2]; simp [hm.1]
      · rw [cleanMap_cons, cleanMap_cons]; simp [hk, hv, hm]

theorem noCR_value (k : Bytes) (m : HeaderMap) (hm : cleanMap m = true) :
    noCR (HeaderMap.value k m) = true := by
  unfold HeaderMap.value
  split
  · rename_i v rest hv
    have hmem : v ∈ HeaderMap.values k m := by rw [hv]; simp
    simp only [HeaderMap.values, List.mem_map, List.mem_filter] at hmem
    obtain ⟨e, ⟨he, _⟩, rfl⟩ := hmem
    simp only [cleanMap, List.all_eq_true, Bool.and_eq_true] at hm
    exact (hm e he).2
  · rfl

theorem cleanHead_setHeader (s : Sock) (n v : Bytes) (r : Bool) (hn : noCR n = true)
    (hv : noCR v = true) (h : cleanHead s = true) : cleanHead (Sock.setHeader s n v r) = true := by
  simp only [cleanHead, Bool.and_eq_true] at h ⊢
  unfold Sock.setHeader
  split
  · exact ⟨h.1, cleanMap_insert _ _ _ hn hv (cleanMap_remove _ _ h.2)⟩
  · refine ⟨h.1, cleanMap_replace _ _ _ hn ?_ h.2⟩
    simp [noCR_value _ _ h.2, hv]

theorem cleanMap_foldl_insert (m : List (Bytes × Bytes)) (acc : HeaderMap)
    (hm : cleanMap m = true) (ha : cleanMap acc = true) :
    cleanMap (m.foldl (fun acc e => HeaderMap.insert e.1 e.2 acc) acc) = true := by
  induction m generalizing acc with
  | nil => simpa using ha
  | cons e m ih =>
    rw [cleanMap_cons] at hm
    simp only [Bool.and_eq_true] at hm
    exact ih _ hm.2 (cleanMap_insert _ _ _ hm.1.1 hm.1.2 ha)

theorem noCR_statusReason (c : Int) : noCR (statusReason c) = true :=
  noCR_iff.2 (CR_not_mem_statusReason c)

theorem cleanHead_setStatusCode (s : Sock) (c : Int) (r : Option Bytes)
    (hr : ∀ x, r = some x → noCR x = true) (h : cleanHead s = true) :
    cleanHead (Sock.setStatusCode s c r) = true := by
  simp only [cleanHead, Bool.and_eq_true, Sock.setStatusCode] at h ⊢
  refine ⟨?_, h.2⟩
  cases r with
  | none => exact noCR_statusReason c
  | some x => exact hr x rfl

end C18L
end Qhttp
