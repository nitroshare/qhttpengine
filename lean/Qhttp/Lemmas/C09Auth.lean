import Qhttp.Model.BasicAuth
import Qhttp.Lemmas.SplitChar
/-
  What `BasicAuth.lookup` (the `QMap` of registered users) returns.
-/
namespace Qhttp
namespace BasicAuth

theorem lookup_nil (u : Bytes) : lookup [] u = none := rfl

/-- `QMap::insert`: the most recent registration of a user wins -/
theorem lookup_append_singleton (t : List (Bytes × Bytes)) (u p x : Bytes) :
    lookup (t ++ [(u, p)]) x = if u = x then some p else lookup t x := by
  unfold lookup
  rw [List.reverse_append]
  simp only [List.reverse_cons, List.reverse_nil, List.nil_append, List.cons_append, List.find?_cons]
  by_cases h : u = x
  · subst h; simp
  · have : (u == x) = false := by simpa using h
    simp [this, h]

/-- what `lookup` returns is a registered pair for exactly that user (whole-string equality) -/
theorem lookup_some_mem {t : List (Bytes × Bytes)} {u p : Bytes} (h : lookup t u = some p) :
    (u, p) ∈ t := by
  unfold lookup at h
  cases hf : t.reverse.find? (fun e => e.1 == u) with
  | none => rw [hf] at h; cases h
  | some e =>
    rw [hf] at h
    have h1 := List.mem_of_find?_eq_some hf
    have h2 := List.find?_some hf
    obtain ⟨e1, e2⟩ := e
    have h3 : e1 = u := by simpa using h2
    have h4 : e2 = p := by simpa using h
    subst h3 h4
    simpa using h1

theorem lookup_isSome_iff {t : List (Bytes × Bytes)} {u : Bytes} :
    (lookup t u).isSome ↔ ∃ p, (u, p) ∈ t := by
  constructor
  · intro h
    obtain ⟨p, hp⟩ := Option.isSome_iff_exists.1 h
    exact ⟨p, lookup_some_mem hp⟩
  · rintro ⟨p, hp⟩
    unfold lookup
    rw [Option.isSome_map, List.find?_isSome]
    exact ⟨(u, p), by simpa using hp, by simp⟩

/-- a user registered once: `lookup` returns exactly that password -/
theorem lookup_of_unique {t : List (Bytes × Bytes)} {u p : Bytes} (hm : (u, p) ∈ t)
    (hu : ∀ q, (u, q) ∈ t → q = p) : lookup t u = some p := by
  have : (lookup t u).isSome := lookup_isSome_iff.2 ⟨p, hm⟩
  obtain ⟨q, hq⟩ := Option.isSome_iff_exists.1 this
  rw [hq, hu q (lookup_some_mem hq)]

end BasicAuth
end Qhttp
