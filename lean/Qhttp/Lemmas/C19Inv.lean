import Qhttp.Lemmas.C19Api
/-
  C19: the counting invariant.

  `K` is stated over the fields C19 depends on: unacknowledged bytes `u`, the device flag `o`,
  the connection state `c`, `dcFlag` `f`, the history `l` and whether the request head is still
  being read (`rh`).  Ghost parameters:
    `d`  — a `dc` that is owed because the transport was set to unconnected by the caller
           (peerClose, last acknowledgement) and `emitDc` has not run yet;
    `m`  — how many `rt` notes the running `headersParsed` slot may still record;
    `q`  — whether "closing implies bytes outstanding" currently holds (it is transiently false
           inside `ackN`, between the decrement and the check that follows the `bw` slot);
    `ak` — the acknowledgement function of the event list (`ackAt evs`).
  The first clause is the heart of C19: `disconnected` reported (`dc` in the history) + owed (`d`)
  + due (`f`) is 1 when the transport is unconnected and 0 otherwise.
  `KP` is `K` of a socket, between primitives; `KS` adds `dcFlag = false`, which holds between
  signals.
-/
namespace Qhttp.C19L
open Qhttp Qhttp.Obs Qhttp.Sock

def K (ak : Nat → Nat → Nat) (q : Bool) (d m u : Nat) (o : Bool) (c : Conn) (f : Bool)
    (l : List Obs) (rh : Prop) : Prop :=
  countP isDc l + d + (if f = true then 1 else 0) = (if c = .unconnected then 1 else 0) ∧
  countP isTc l = (if o = true then 0 else 1) ∧
  aftClose l = true ∧
  (o = false → c ≠ .connected) ∧
  (c = .closing → o = false) ∧
  countP isHp l ≤ 1 ∧
  countP isRt l + m ≤ countP isHp l ∧
  (rh → countP isHp l = 0) ∧
  (trk ak l).1 = (trk ak l).2 + u ∧
  (q = true → c = .closing → 0 < u)

def KP (ak : Nat → Nat → Nat) (q : Bool) (d m : Nat) (s : Sock) : Prop :=
  K ak q d m s.tcp.unacked s.tcp.devOpen s.tcp.conn s.dcFlag s.log (s.rs = .headers)

/-! Each lemma on one more observation first rewrites the four counters and the walk (what the
  observation does not count adds a `0` that reduces away), then treats the clauses that move. -/

theorem K_note {ak q d m u o c f l rh} {x : Obs} (hx : quiet x = true)
    (h : K ak q d m u o c f l rh) : K ak q d m u o c f (l ++ [x]) rh := by
  obtain ⟨h1, h2, h3, h⟩ := h
  obtain ⟨q1, q2, q3, q4, q5, _⟩ := quiet_facts hx
  unfold K
  rw [countP_snoc isDc, countP_snoc isTc, countP_snoc isHp, countP_snoc isRt, trk_snoc]
  rw [q1, q2, q4, q5, trk1_quiet _ _ hx]
  exact ⟨h1, h2, aftClose_snoc _ h3 q3, h⟩

theorem K_write {ak q d m u o c f l rh} (b : Bytes) (ho : o = true) (hc : c = .connected)
    (h : K ak q d m u o c f l rh) : K ak q d m (u + b.length) o c f (l ++ [.w b]) rh := by
  obtain ⟨h1, h2, h3, h4, h5, h6, h7, h8, h9, h10⟩ := h
  unfold K
  rw [countP_snoc isDc, countP_snoc isTc, countP_snoc isHp, countP_snoc isRt, trk_snoc]
  refine ⟨h1, h2, aftClose_of_noTc ?_, h4, h5, h6, h7, h8, ?_, fun _ hcl => ?_⟩
  · rw [ho] at h2
    rw [List.any_append, countP_eq_zero_any.mp h2]; rfl
  · show (trk ak l).1 + b.length = (trk ak l).2 + (u + b.length)
    rw [h9, Nat.add_assoc]
  · rw [hc] at hcl; cases hcl

/-- `tcpClose` on an open device: unconnected at once (a `dc` is due) when nothing is
    outstanding, closing otherwise; a transport that was not connected stays as it was -/
theorem K_tc {ak q d m u c f l rh}
    (h : K ak q d m u true c f l rh) (c' : Conn) (f' : Bool)
    (hc : (c = .connected ∧ u = 0 ∧ c' = .unconnected ∧ f' = true) ∨
          (c = .connected ∧ u ≠ 0 ∧ c' = .closing ∧ f' = f) ∨
          (c ≠ .connected ∧ c' = c ∧ f' = f)) :
    K ak q d m u false c' f' (l ++ [.tc]) rh := by
  obtain ⟨h1, h2, h3, h4, h5, h6, h7, h8, h9, h10⟩ := h
  unfold K
  rw [countP_snoc isDc, countP_snoc isTc, countP_snoc isHp, countP_snoc isRt, trk_snoc]
  refine ⟨?_, by rw [h2]; rfl, aftClose_snoc _ h3 rfl, fun _ => ?_, fun _ => rfl, h6, h7, h8, h9,
    fun _ hcl => ?_⟩
  · rcases hc with ⟨rfl, rfl, rfl, rfl⟩ | ⟨rfl, _, rfl, rfl⟩ | ⟨_, rfl, rfl⟩
    · have h0 : countP isDc l + d + (if f = true then 1 else 0) = 0 := h1
      show countP isDc l + d + 1 = 1
      rw [(Nat.eq_zero_of_add_eq_zero h0).1]
    · exact h1
    · exact h1
  · rcases hc with ⟨_, _, rfl, _⟩ | ⟨_, _, rfl, _⟩ | ⟨hc, rfl, _⟩
    · exact Conn.noConfusion
    · exact Conn.noConfusion
    · exact hc
  · rcases hc with ⟨_, _, rfl, _⟩ | ⟨_, hu, _, _⟩ | ⟨_, rfl, _⟩
    · cases hcl
    · exact Nat.pos_of_ne_zero hu
    · cases h5 hcl

theorem K_dc {ak q d m u o c f l rh} (h : K ak q d m u o c f l rh)
    (hd : d + (if f = true then 1 else 0) = 1) : K ak q 0 m u o c false (l ++ [.dc]) rh := by
  obtain ⟨h1, h2, h3, h⟩ := h
  unfold K
  rw [countP_snoc isDc, countP_snoc isTc, countP_snoc isHp, countP_snoc isRt, trk_snoc]
  refine ⟨?_, h2, aftClose_snoc _ h3 rfl, h⟩
  rw [← h1, Nat.add_assoc _ d, hd]; rfl

theorem K_hp {ak q d u o c f l} {rh : Prop} (h : K ak q d 0 u o c f l rh) (hr : rh) :
    K ak q d 1 u o c f (l ++ [.hp]) False := by
  obtain ⟨h1, h2, h3, h4, h5, h6, h7, h8, h⟩ := h
  have h0 := h8 hr
  rw [h0] at h7
  unfold K
  rw [countP_snoc isDc, countP_snoc isTc, countP_snoc isHp, countP_snoc isRt, trk_snoc]
  rw [h0]
  exact ⟨h1, h2, aftClose_snoc _ h3 rfl, h4, h5, Nat.le_refl 1, Nat.add_le_add_right h7 1,
    False.elim, h⟩

theorem K_rt {ak q d m u o c f l rh} (a : Nat) (b : Bytes) (h : K ak q d (m + 1) u o c f l rh) :
    K ak q d m u o c f (l ++ [.rt a b]) rh := by
  obtain ⟨h1, h2, h3, h4, h5, h6, h7, h⟩ := h
  unfold K
  rw [countP_snoc isDc, countP_snoc isTc, countP_snoc isHp, countP_snoc isRt, trk_snoc]
  refine ⟨h1, h2, aftClose_snoc _ h3 rfl, h4, h5, h6, ?_, h⟩
  rw [Nat.add_assoc, Nat.add_comm _ m]; exact h7

theorem K_weaken {ak q d m m' u o c f l rh} (h : K ak q d m u o c f l rh) (hm : m' ≤ m) :
    K ak q d m' u o c f l rh := by
  obtain ⟨h1, h2, h3, h4, h5, h6, h7, h8, h9, h10⟩ := h
  exact ⟨h1, h2, h3, h4, h5, h6, by omega, h8, h9, h10⟩

theorem K_rh {ak q d m u o c f l} {rh rh' : Prop} (h : K ak q d m u o c f l rh) (hr : rh' → rh) :
    K ak q d m u o c f l rh' := by
  obtain ⟨h1, h2, h3, h4, h5, h6, h7, h8, h9, h10⟩ := h
  exact ⟨h1, h2, h3, h4, h5, h6, h7, fun x => h8 (hr x), h9, h10⟩

theorem K_qfalse {ak q d m u o c f l rh} (h : K ak q d m u o c f l rh) :
    K ak false d m u o c f l rh := by
  obtain ⟨h1, h2, h3, h4, h5, h6, h7, h8, h9, h10⟩ := h
  exact ⟨h1, h2, h3, h4, h5, h6, h7, h8, h9, fun x => by cases x⟩

theorem K_qtrue {ak q d m u o c f l rh} (h : K ak q d m u o c f l rh)
    (hq : c = .closing → 0 < u) : K ak true d m u o c f l rh := by
  obtain ⟨h1, h2, h3, h4, h5, h6, h7, h8, h9, h10⟩ := h
  exact ⟨h1, h2, h3, h4, h5, h6, h7, h8, h9, fun _ => hq⟩

/-- the marker of the k-th event, together with the decrement the event is about to make -/
theorem K_ev {ak q d m u o c f l rh} (k : Nat) (h : K ak q d m u o c f l rh) (hk : ak k u ≤ u) :
    K ak false d m (u - ak k u) o c f (l ++ [.ev k]) rh := by
  obtain ⟨h1, h2, h3, h4, h5, h6, h7, h8, h9, _⟩ := h
  unfold K
  rw [countP_snoc isDc, countP_snoc isTc, countP_snoc isHp, countP_snoc isRt, trk_snoc]
  refine ⟨h1, h2, aftClose_snoc _ h3 rfl, h4, h5, h6, h7, h8, ?_, fun x => by cases x⟩
  show (trk ak l).1 = (trk ak l).2 + ak k ((trk ak l).1 - (trk ak l).2) + (u - ak k u)
  rw [h9, Nat.add_sub_cancel_left, Nat.add_assoc, Nat.add_sub_of_le hk]

/-- the transport becomes unconnected from outside the API: a `dc` is owed -/
theorem K_unconn {ak q m u o c l rh} (h : K ak q 0 m u o c false l rh) (hc : c ≠ .unconnected) :
    K ak true 1 m u o .unconnected false l rh := by
  obtain ⟨h1, h2, h3, h4, h5, h6, h7, h8, h9, h10⟩ := h
  refine ⟨?_, h2, h3, ?_, ?_, h6, h7, h8, h9, ?_⟩
  · simp [hc] at h1 ⊢; omega
  · intro _ x; cases x
  · intro x; cases x
  · intro _ x; cases x

theorem K_dc_le {ak q d m u o c f l rh} (h : K ak q d m u o c f l rh) :
    countP isDc l + d + (if f = true then 1 else 0) ≤ 1 := by
  rw [h.1]; split <;> decide

theorem K_init (ak : Nat → Nat → Nat) (rh : Prop) :
    K ak true 0 0 0 true .connected false [] rh := by
  refine ⟨?_, ?_, ?_, ?_, ?_, ?_, ?_, ?_, ?_, ?_⟩ <;> simp [countP_nil, aftClose_nil, trk_nil]

theorem KP_same {ak q d m} {s s' : Sock} (hs : Same s s') (h : KP ak q d m s) : KP ak q d m s' := by
  unfold KP at *
  rw [hs.u, hs.o, hs.c, hs.f, hs.l]
  exact K_rh h hs.r

theorem KP_tcpWrite {ak q d m} {s : Sock} (b : Bytes) (h : KP ak q d m s) :
    KP ak q d m (tcpWrite s b) := by
  unfold tcpWrite
  split
  · rename_i hc
    simp only [Bool.and_eq_true, beq_iff_eq] at hc
    exact K_write b hc.1.1 hc.1.2 h
  · exact h

theorem KP_tcpClose {ak q d m} {s : Sock} (h : KP ak q d m s) : KP ak q d m (tcpClose s) := by
  refine tcpClose_cases s (fun _ => h) (fun ho hc hu => ?_) (fun ho hc hu => ?_) (fun ho hc => ?_)
  all_goals
    unfold KP at h
    rw [ho] at h
  · exact K_tc h _ _ (Or.inl ⟨hc, hu, rfl, rfl⟩)
  · exact K_tc h _ _ (Or.inr (Or.inl ⟨hc, hu, rfl, rfl⟩))
  · exact K_tc h _ _ (Or.inr (Or.inr ⟨hc, rfl, rfl⟩))

theorem KP_frame (ak q d m) : Frame quiet (KP ak q d m) where
  res := quiet_res
  same := fun _ _ hs h => KP_same hs h
  tw := fun _ b h => KP_tcpWrite b h
  tcl := fun _ _ h => KP_tcpClose h
  note := fun _ _ ho h => K_note ho h

def rtNote : ApiOp → Bool
  | .note (.rt _ _) => true
  | _ => false

def hOp (op : ApiOp) : Bool := rtNote op || qOp op

theorem hOp_cases {op : ApiOp} (h : hOp op = true) :
    (∃ a b, op = .note (.rt a b)) ∨ (rtNote op = false ∧ qOp op = true) := by
  cases hr : rtNote op
  · rw [hOp, hr] at h; exact Or.inr ⟨rfl, h⟩
  · left
    unfold rtNote at hr
    split at hr
    · exact ⟨_, _, rfl⟩
    · cases hr

/-- the quiet reactions: all that matters of the application outside the `headersParsed` slot -/
structure AppQ (app : App) : Prop where
  rr  : ∀ s, (app.onRr s).all qOp = true
  rcf : ∀ s, (app.onRcf s).all qOp = true
  bw  : ∀ s, (app.onBw s).all qOp = true
  dc  : ∀ s, (app.onDc s).all qOp = true

/-- `C19.AppOK` -/
structure AppOK (app : App) : Prop where
  hp  : ∀ s, (app.onHp s).all hOp = true ∧ ((app.onHp s).filter rtNote).length ≤ 1
  rr  : ∀ s, (app.onRr s).all qOp = true
  rcf : ∀ s, (app.onRcf s).all qOp = true
  bw  : ∀ s, (app.onBw s).all qOp = true
  dc  : ∀ s, (app.onDc s).all qOp = true

theorem AppOK.toQ {app : App} (h : AppOK app) : AppQ app := ⟨h.rr, h.rcf, h.bw, h.dc⟩

/-- between signals no `disconnected` emission is due -/
def KS (ak : Nat → Nat → Nat) (q : Bool) (d m : Nat) (s : Sock) : Prop :=
  KP ak q d m s ∧ s.dcFlag = false

theorem dcge_frame (n : Nat) : Frame quiet (fun s => n ≤ countP isDc s.log) where
  res := quiet_res
  same := fun s s' hs h => by rw [hs.l]; exact h
  tw := fun s b h => by
    unfold tcpWrite; split
    · show n ≤ countP isDc (s.log ++ [.w b])
      rw [countP_snoc_false _ rfl]; exact h
    · exact h
  tcl := fun s _ h => by
    rcases (tcpClose_facts s).2.2.2 with e | e <;> rw [e]
    · exact h
    · rw [countP_snoc_false _ rfl]; exact h
  note := fun s o ho h => by
    show n ≤ countP isDc (s.log ++ [o])
    rw [countP_snoc_false _ (quiet_facts ho).2.2.2.2.1]; exact h

variable {env : Env} {app : App} {ak : Nat → Nat → Nat} {q : Bool} {d m : Nat} {s : Sock}

/-- the reaction to `disconnected` runs with a `dc` in the history; by the first clause of `K`
    that leaves no room for `dcFlag = true`: no nested emission -/
theorem dcFold (s1 : Sock) (h1 : KP ak q 0 m s1) (h2 : 1 ≤ countP isDc s1.log)
    (ops : List ApiOp) (hq : ops.all qOp = true) :
    KP ak q 0 m (ops.foldl (apiPrim env) s1) ∧ (ops.foldl (apiPrim env) s1).dcFlag = false := by
  have h3 := foldl_apiPrim_frame (P := fun s => KP ak q 0 m s ∧ 1 ≤ countP isDc s.log)
    ((KP_frame ak q 0 m).and (dcge_frame 1)) env ops hq (s := s1) ⟨h1, h2⟩
  generalize List.foldl (apiPrim env) s1 ops = s2 at h3 ⊢
  obtain ⟨h3, h4⟩ := h3
  refine ⟨h3, ?_⟩
  cases hf : s2.dcFlag
  · rfl
  · have : countP isDc s2.log + 0 + 1 ≤ 1 := by
      have := K_dc_le h3
      rwa [hf] at this
    omega

theorem emitDc_KS (happ : AppQ app) (h : KP ak q d m s)
    (hd : d + (if s.dcFlag = true then 1 else 0) = 1) : KS ak q 0 m (emitDc env app s) := by
  unfold emitDc
  dsimp only
  have h1 : KP ak q 0 m { s with dcFlag := false, log := s.log ++ [.dc] } := K_dc h hd
  have h2 : 1 ≤ countP isDc ({ s with dcFlag := false, log := s.log ++ [.dc] } : Sock).log := by
    show 1 ≤ countP isDc (s.log ++ [.dc])
    rw [countP_snoc]; simp [isDc]
  have h3 := dcFold (env := env) _ h1 h2
    (app.onDc { s with dcFlag := false, log := s.log ++ [.dc] }) (happ.dc _)
  generalize List.foldl (apiPrim env) _ _ = s2 at h3 ⊢
  obtain ⟨h3, hf⟩ := h3
  unfold KP at h3
  rw [hf] at h3
  exact ⟨h3, rfl⟩

theorem fin_KS (happ : AppQ app) (h : KP ak q d m s) :
    KS ak q d m (if s.dcFlag = true then emitDc env app s else s) := by
  split
  · rename_i hf
    have h0 : countP isDc s.log + d + 1 ≤ 1 := by
      have := K_dc_le h
      rwa [hf] at this
    obtain rfl : d = 0 := by omega
    exact emitDc_KS happ h (by rw [hf]; rfl)
  · rename_i hf
    exact ⟨h, by simpa using hf⟩

theorem api_quiet (happ : AppQ app) {op : ApiOp} (hq : qOp op = true) (h : KP ak q d m s) :
    KS ak q d m (api env app s op) := by
  unfold api
  exact fin_KS happ (apiPrim_frame (KP_frame ak q d m) env (qOp_note hq) h)

theorem api_rt (happ : AppQ app) (a : Nat) (b : Bytes) (h : KP ak q d (m + 1) s) :
    KS ak q d m (api env app s (.note (.rt a b))) := by
  unfold api
  apply fin_KS happ
  unfold apiPrim
  split
  · exact K_weaken h (Nat.le_succ m)
  · exact K_rt a b h

theorem apis_quiet (happ : AppQ app) (ops : List ApiOp) (hq : ops.all qOp = true)
    (h : KS ak q d m s) : KS ak q d m (apis env app s ops) :=
  foldl_closed (P := KS ak q d m) (f := api env app) (fun hq h => api_quiet happ hq h.1) ops hq h

/-- `m` bounds the routing notes the slot may still record -/
theorem apis_hp (happ : AppQ app) (ops : List ApiOp) (hq : ops.all hOp = true)
    (hn : (ops.filter rtNote).length ≤ m) (h : KS ak q d m s) :
    KS ak q d 0 (apis env app s ops) := by
  unfold apis
  induction ops generalizing s m with
  | nil => exact ⟨K_weaken h.1 (Nat.zero_le m), h.2⟩
  | cons op ops ih =>
    simp only [List.all_cons, Bool.and_eq_true] at hq
    rcases hOp_cases hq.1 with ⟨a, b, rfl⟩ | ⟨hr, hqo⟩
    · have hn' : (ops.filter rtNote).length + 1 ≤ m := hn
      obtain ⟨m', rfl⟩ : ∃ m', m = m' + 1 := ⟨m - 1, by omega⟩
      exact ih hq.2 (by omega) (api_rt happ a b h.1)
    · rw [List.filter_cons, hr] at hn
      exact ih hq.2 hn (api_quiet happ hqo h.1)

theorem emit_quiet (happ : AppQ app) {o : Obs} (ho : quiet o = true) (ops : List ApiOp)
    (hq : ops.all qOp = true) (h : KS ak q d m s) : KS ak q d m (emit env app s o ops) := by
  unfold emit
  exact apis_quiet happ ops hq ⟨K_note ho h.1, h.2⟩

end Qhttp.C19L
