import Qhttp.Lemmas.C13Sock
import Qhttp.Lemmas.C13Spec
/-
  C13: `onUpstreamReadyRead` / `deliverAll` / `onUpstreamError` of the proxy model over the socket's
  writer, for every chunking of the upstream stream.
-/
namespace Qhttp.C13L
open Qhttp Qhttp.Sock Qhttp.Proxy

/-- the response head the proxy writes for an upstream head `(code, reason, hs)` -/
def headOut (code : Int) (reason : Bytes) (hs : HeaderMap) : Bytes :=
  lit ['H','T','T','P','/','1','.','0',' '] ++ intText code ++ [SP] ++ reason ++ CRLF ++
    Sock.headerLines hs ++ CRLF

/-- the 502 response on a socket whose header map was `H` -/
abbrev err502 (env : Env) (H : HeaderMap) : Bytes := errBytes env H 502

/-! `ourr_` = onUpstreamReadyRead, case by case (the whole function as one equation: `ProxyL.ourr_eq`) -/

theorem ourr_parsed (env : Env) {st : St} (hp : st.headersParsed = true) (c : Bytes) :
    onUpstreamReadyRead env st c = { st with sock := api env app st.sock (.write c) } := by
  unfold onUpstreamReadyRead
  rw [if_pos hp]

theorem ourr_wait (env : Env) {st : St} {c : Bytes} (hp : st.headersParsed = false)
    (hb : breakOn CRLF2 (st.upRead ++ c) = none) :
    onUpstreamReadyRead env st c = { st with upRead := st.upRead ++ c } := by
  unfold onUpstreamReadyRead
  rw [if_neg (by rw [hp]; decide)]
  dsimp only
  rw [hb]

theorem ourr_bad (env : Env) {st : St} {c head rest : Bytes} (hp : st.headersParsed = false)
    (hb : breakOn CRLF2 (st.upRead ++ c) = some (head, rest)) (hq : Parser.parseResponseHeaders head = none) :
    onUpstreamReadyRead env st c =
      { st with upRead := st.upRead ++ c, sock := api env app st.sock (.err 502 none) } := by
  unfold onUpstreamReadyRead
  rw [if_neg (by rw [hp]; decide)]
  dsimp only
  rw [hb]
  dsimp only
  rw [hq]

theorem ourr_head (env : Env) {st : St} {c head rest reason : Bytes} {code : Int} {hs : HeaderMap}
    (ho : WOpen st.sock) (hp : st.headersParsed = false)
    (hb : breakOn CRLF2 (st.upRead ++ c) = some (head, rest))
    (hq : Parser.parseResponseHeaders head = some (code, reason, hs)) :
    onUpstreamReadyRead env st c =
      { st with sock := api env app (api env app
                  { st.sock with code := code, reason := reason, respHeaders := hs } .wh) (.write rest),
                headersParsed := true, upRead := [] } := by
  unfold onUpstreamReadyRead
  rw [if_neg (by rw [hp]; decide)]
  dsimp only
  rw [hb]
  dsimp only
  rw [hq]
  dsimp only
  rw [api_status env app ho.alive ho.dcF, if_pos ho.alive]

theorem wstep_head (env : Env) {s : Sock} (h : WOpen s) (rest : Bytes) :
    WStep s (api env app (api env app s .wh) (.write rest)) (headBytes s ++ rest) ∧
    (api env app (api env app s .wh) (.write rest)).ws ≠ .none := by
  obtain ⟨w3, ws3⟩ := wstep_writeHeaders h
  have hw3 : (writeHeaders s).ws ≠ .none := by rw [ws3]; exact fun e => nomatch e
  have w4 := wstep_api_write env app w3.op hw3 rest
  rw [api_wh env app h]
  exact ⟨w3.trans w4, w4.ws hw3⟩

/-- once the head is relayed every chunk goes through as it is -/
theorem passthrough (env : Env) (cs : List Bytes) : ∀ {st : St}, WOpen st.sock → st.headersParsed = true →
    st.sock.ws ≠ .none →
    ∃ s', deliverAll env cs st = { st with sock := s' } ∧ WStep st.sock s' cs.flatten := by
  induction cs with
  | nil => intro st h _ _; exact ⟨st.sock, rfl, WStep.refl h⟩
  | cons c cs ih =>
    intro st h hp hw
    have w1 := wstep_api_write env app h hw c
    obtain ⟨s2, e2, w2⟩ := ih (st := { st with sock := api env app st.sock (.write c) }) w1.op hp (w1.ws hw)
    refine ⟨s2, ?_, ?_⟩
    · show deliverAll env cs (onUpstreamReadyRead env st c) = _
      rw [ourr_parsed env hp c, e2]
    · simpa using w1.trans w2

theorem frozen_onUpstreamReadyRead (env : Env) {w : Bytes} {st : St} (h : Frozen w st.sock) (c : Bytes) :
    Frozen w (onUpstreamReadyRead env st c).sock := by
  unfold onUpstreamReadyRead
  split
  · exact h.api env app rfl
  · dsimp only
    split
    · exact h
    · split
      · exact h.api env app rfl
      · dsimp only
        rename_i code reason hs _
        have h1 : Frozen w (Sock.api env app st.sock (.status code (some reason))) := h.api env app rfl
        refine Frozen.api env app (Frozen.api env app ?_ rfl) rfl
        split
        · exact h1.same rfl rfl
        · exact h1

theorem frozen_deliverAll (env : Env) {w : Bytes} (cs : List Bytes) : ∀ {st : St}, Frozen w st.sock →
    Frozen w (deliverAll env cs st).sock := by
  induction cs with
  | nil => intro st h; exact h
  | cons c cs ih => intro st h; exact ih (frozen_onUpstreamReadyRead env h c)

theorem frozen_onUpstreamError (env : Env) {w : Bytes} {st : St} (h : Frozen w st.sock) :
    Frozen w (onUpstreamError env st).sock := by
  unfold onUpstreamError
  split
  · exact h.api env app rfl
  · exact h.api env app rfl

/-- what the chunks delivered so far amount to, given everything accumulated (`acc ++ chunks`) -/
inductive Outcome (env : Env) (st : St) (all : Bytes) (st' : St) : Prop
  /-- no blank line yet: nothing written, everything kept -/
  | waiting (h : breakOn CRLF2 all = none) (e : st' = { st with upRead := all })
  /-- a complete head the parser accepts: relayed, then the rest as it came -/
  | relayed (head body : Bytes) (code : Int) (reason : Bytes) (hs : HeaderMap)
      (hb : breakOn CRLF2 all = some (head, body))
      (hp : Parser.parseResponseHeaders head = some (code, reason, hs))
      (op : WOpen st'.sock)
      (wire : Obs.wire st'.sock.log = Obs.wire st.sock.log ++ (headOut code reason hs ++ body))
      (parsed : st'.headersParsed = true) (ws : st'.sock.ws ≠ .none) (respH : st'.sock.respHeaders = hs)
      (initP : st'.sock.initPending = st.sock.initPending)
      (rest : (st'.conn, st'.fromUp, st'.upClosing) = (st.conn, st.fromUp, st.upClosing))
  /-- a complete head the parser rejects: exactly one 502, transport closed -/
  | failed (head body : Bytes)
      (hb : breakOn CRLF2 all = some (head, body))
      (hp : Parser.parseResponseHeaders head = none)
      (fr : Frozen (Obs.wire st.sock.log ++ err502 env st.sock.respHeaders) st'.sock)
      (parsed : st'.headersParsed = false)
      (rest : (st'.conn, st'.fromUp, st'.upClosing) = (st.conn, st.fromUp, st.upClosing))

theorem deliverAll_fields (env : Env) (cs : List Bytes) : ∀ (st : St),
    ((deliverAll env cs st).conn, (deliverAll env cs st).fromUp, (deliverAll env cs st).upClosing) =
      (st.conn, st.fromUp, st.upClosing) := by
  induction cs with
  | nil => intro st; rfl
  | cons c cs ih =>
    intro st
    show ((deliverAll env cs (onUpstreamReadyRead env st c)).conn,
      (deliverAll env cs (onUpstreamReadyRead env st c)).fromUp,
      (deliverAll env cs (onUpstreamReadyRead env st c)).upClosing) = _
    rw [ih]
    unfold onUpstreamReadyRead
    split
    · rfl
    · dsimp only; split
      · rfl
      · split <;> rfl

/-- after a rejected head the proxy keeps rejecting: `headersParsed` stays false -/
theorem failed_stays (env : Env) {head : Bytes} (hbad : Parser.parseResponseHeaders head = none)
    (cs : List Bytes) : ∀ (st : St) (b : Bytes), st.headersParsed = false →
    breakOn CRLF2 st.upRead = some (head, b) → (deliverAll env cs st).headersParsed = false := by
  induction cs with
  | nil => intro st _ h _; exact h
  | cons c cs ih =>
    intro st b hp hu
    show (deliverAll env cs (onUpstreamReadyRead env st c)).headersParsed = false
    have hb := breakOn_append c hu
    rw [ourr_bad env hp hb hbad]
    exact ih _ (b ++ c) hp hb

theorem deliverAll_append (env : Env) (cs cs' : List Bytes) (st : St) :
    deliverAll env (cs ++ cs') st = deliverAll env cs' (deliverAll env cs st) := by
  induction cs generalizing st with
  | nil => rfl
  | cons c cs ih => exact ih _

/-- from a state that has not relayed a head and holds no complete head, for
    EVERY list of chunks: the result is determined by the bytes accumulated, not by the chunking -/
theorem deliver_outcome (env : Env) (cs : List Bytes) : ∀ (st : St), WOpen st.sock →
    st.headersParsed = false → breakOn CRLF2 st.upRead = none →
    Outcome env st (st.upRead ++ cs.flatten) (deliverAll env cs st) := by
  induction cs with
  | nil =>
    intro st _ _ hu
    exact Outcome.waiting (by simpa using hu) (by simp [deliverAll])
  | cons c cs ih =>
    intro st ho hp hu
    rw [show st.upRead ++ (c :: cs).flatten = (st.upRead ++ c) ++ cs.flatten by simp]
    show Outcome env st _ (deliverAll env cs (onUpstreamReadyRead env st c))
    cases hb : breakOn CRLF2 (st.upRead ++ c) with
    | none =>
      rw [ourr_wait env hp hb]
      cases ih { st with upRead := st.upRead ++ c } ho hp hb with
      | waiting h e' => exact Outcome.waiting h (by rw [e'])
      | relayed head body code reason hs hb' hp' op wire parsed ws respH initP rest =>
        exact Outcome.relayed head body code reason hs hb' hp' op wire parsed ws respH initP rest
      | failed head body hb' hp' fr parsed rest =>
        exact Outcome.failed head body hb' hp' fr parsed rest
    | some p =>
      obtain ⟨head, rest⟩ := p
      have hb2 := breakOn_append cs.flatten hb
      cases hq : Parser.parseResponseHeaders head with
      | none =>
        rw [ourr_bad env hp hb hq]
        refine Outcome.failed head (rest ++ cs.flatten) hb2 hq
          (frozen_deliverAll env cs (frozen_api_err env ho 502)) ?_ ?_
        · exact failed_stays env hq cs _ rest hp hb
        · rw [deliverAll_fields]
      | some x =>
        obtain ⟨code, reason, hs⟩ := x
        rw [ourr_head env ho hp hb hq]
        obtain ⟨w4, ws4⟩ := wstep_head env (wopen_setHead ho code reason hs) rest
        obtain ⟨s', e', w'⟩ := passthrough env cs (st := { st with
            sock := api env app (api env app
              { st.sock with code := code, reason := reason, respHeaders := hs } .wh) (.write rest),
            headersParsed := true, upRead := [] }) w4.op rfl ws4
        rw [e']
        have w := w4.trans w'
        refine Outcome.relayed head (rest ++ cs.flatten) code reason hs hb2 hq w.op ?_ rfl (w'.ws ws4)
          w.respH w.initP rfl
        rw [w.wire]
        simp [headOut, headBytes, List.append_assoc]

theorem accumulate (env : Env) (cs : List Bytes) : ∀ (st : St), st.headersParsed = false →
    breakOn CRLF2 (st.upRead ++ cs.flatten) = none →
    deliverAll env cs st = { st with upRead := st.upRead ++ cs.flatten } := by
  induction cs with
  | nil => intro st _ _; simp [deliverAll]
  | cons c cs ih =>
    intro st hp hn
    have hall : st.upRead ++ (c :: cs).flatten = (st.upRead ++ c) ++ cs.flatten := by simp
    rw [hall] at hn ⊢
    show deliverAll env cs (onUpstreamReadyRead env st c) = _
    rw [ourr_wait env hp (breakOn_none_of_append hn)]
    exact ih { st with upRead := st.upRead ++ c } hp hn

theorem first_blank_line_stable {acc head rest : Bytes} (pre post : List Bytes)
    (h : breakOn CRLF2 (acc ++ pre.flatten) = some (head, rest)) :
    breakOn CRLF2 (acc ++ (pre ++ post).flatten) = some (head, rest ++ post.flatten) := by
  have := breakOn_append post.flatten h
  simpa [List.append_assoc] using this

end Qhttp.C13L
