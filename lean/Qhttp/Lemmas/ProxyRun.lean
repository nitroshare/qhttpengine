import Qhttp.Lemmas.ProxyRelay
/-
  C12 — `Proxy.turn` as the composition of its phases, the event shapes of the relay theorems
  (`relayPEv`: the upstream server only listens; `relayPEvU`: it answers at any time) and the
  induction over the prefixes of a run that all run theorems share.
-/
namespace Qhttp.ProxyL
open Qhttp Proxy Qhttp.C02

theorem rinv_misc {evs : List Event} {head : Bytes} {N : Nat} {fed : Bytes} {s : Sock}
    (h : RInv evs head N fed s) (b : Bytes) :
    RInv evs head N fed { s with log := s.log ++ [Obs.misc 20 b] } := by
  obtain ⟨a, hb, B, hm, hin, hrel⟩ := h
  exact ⟨none, hb, B,
    hm.push_log (Obs.misc 20 b) rfl rfl (Nat.le_refl _) rfl rfl rfl rfl,
    hin, hrel.of_rs rfl⟩

theorem Extra.misc {rh : Parser.ReqHead} {s : Sock} (h : Extra rh s) (b : Bytes) :
    Extra rh { s with log := s.log ++ [Obs.misc 20 b] } := h.of_eq rfl ⟨rfl, rfl, rfl⟩ rfl rfl

theorem flush_connected (c : Cfg) {st : St} (hc : st.conn = .connected) :
    ∃ s', connectFlush c st = { st with sock := s', toUp := [] } ∧
      (s' = st.sock ∨ ∃ b, s' = { st.sock with log := st.sock.log ++ [Obs.misc 20 b] }) ∧
      s'.rs = st.sock.rs ∧ s'.ioOpen = st.sock.ioOpen ∧
      rdsOf s'.log = rdsOf st.sock.log ∧ upBytes s'.log = upBytes st.sock.log ++ st.toUp ∧
      Obs.reads s'.log = Obs.reads st.sock.log := by
  obtain ⟨sock, conn, buf, hw, hpd, upRead, toUp, fromUp, upClosing, errored, seenRd⟩ := st
  simp only at hc
  subst hc
  cases toUp with
  | nil => exact ⟨sock, by simp [connectFlush], Or.inl rfl, rfl, rfl, rfl, (List.append_nil _).symm, rfl⟩
  | cons x xs =>
    obtain ⟨l1, l2, l3⟩ := logs_misc sock.log (x :: xs)
    exact ⟨{ sock with log := sock.log ++ [Obs.misc 20 (x :: xs)] }, by simp [connectFlush], Or.inr ⟨_, rfl⟩,
      rfl, rfl, l1, l2, l3⟩

theorem connectFlush_good {c : Cfg} {rh : Parser.ReqHead} {st : St} (hP : Relay c rh st)
    (hf : st.sock.rs ≠ .headers →
      st.sock.method = rh.method ∧ st.sock.rawPath = rh.rawPath ∧ st.sock.reqHeaders = rh.headers) :
    Relay c rh (connectFlush c st) ∧
    ((connectFlush c st).sock = st.sock ∨
      ∃ b, (connectFlush c st).sock = { st.sock with log := st.sock.log ++ [Obs.misc 20 b] }) ∧
    (st.sock.rs ≠ .headers → (connectFlush c st).conn = .connected ∧ (connectFlush c st).toUp = []) := by
  obtain ⟨sock, conn, buf, hw, hpd, upRead, toUp, fromUp, upClosing, errored, seenRd⟩ := st
  obtain ⟨seen, hfu, huc, hcn, hnone, hcing, hced, hncl⟩ := hP
  simp only at seen hfu huc hcn hnone hcing hced hncl hf
  cases conn with
  | none =>
    have h0 : sock.rs = .headers := hcn.mp rfl
    have e : connectFlush c ⟨sock, .none, buf, hw, hpd, upRead, toUp, fromUp, upClosing, errored, seenRd⟩ =
        ⟨sock, .none, buf, hw, hpd, upRead, toUp, fromUp, upClosing, errored, seenRd⟩ := by
      simp [connectFlush]
    rw [e]
    exact ⟨⟨seen, hfu, huc, hcn, hnone, hcing, hced, hncl⟩, Or.inl rfl, fun h => absurd h0 h⟩
  | connecting =>
    obtain ⟨b1, b2, b3, b4⟩ := hcing rfl
    subst b1 b2
    have h0 : sock.rs ≠ .headers := fun h => by have := hcn.mpr h; cases this
    have hH := upstreamHead_congr c sock rh (hf h0)
    have hne : (upstreamHead c sock ++ buf).isEmpty = false := by
      cases hh : upstreamHead c sock with
      | nil => exact absurd hh (upstreamHead_ne_nil c sock)
      | cons x xs => rfl
    have e : connectFlush c ⟨sock, .connecting, buf, false, hpd, upRead, [], fromUp, upClosing, errored, seenRd⟩ =
        ⟨{ sock with log := sock.log ++ [Obs.misc 20 (upstreamHead c sock ++ buf)] }, .connected, [], true, hpd,
          upRead, [], fromUp, upClosing, errored, seenRd⟩ := by
      simp [connectFlush, hne]
    rw [e]
    obtain ⟨l1, l2, l3⟩ := logs_misc sock.log (upstreamHead c sock ++ buf)
    refine ⟨⟨?_, hfu, huc, ⟨(fun h => nomatch h), fun h => absurd h h0⟩, (fun h => nomatch h),
      (fun h => nomatch h), fun _ => ⟨rfl, rfl, buf, ?_, ?_⟩, by simp⟩, Or.inr ⟨_, rfl⟩, fun _ => ⟨rfl, rfl⟩⟩
    · exact seen.trans (congrArg List.length l1.symm)
    · exact l2.trans (by rw [b3, hH]; rfl)
    · exact (List.append_nil buf).trans (b4.trans l3.symm)
  | connected =>
    obtain ⟨b1, b2, d, b3, b4⟩ := hced rfl
    subst b1 b2
    have h0 : sock.rs ≠ .headers := fun h => by have := hcn.mpr h; cases this
    obtain ⟨s', e, hs', r1, _, l1, l2, l3⟩ := flush_connected c
      (st := ⟨sock, .connected, [], true, hpd, upRead, toUp, fromUp, upClosing, errored, seenRd⟩) rfl
    rw [e]
    exact ⟨⟨seen.trans (congrArg List.length l1.symm), hfu, huc,
      ⟨(fun h => nomatch h), fun h => absurd (r1.symm.trans h) h0⟩, (fun h => nomatch h), (fun h => nomatch h),
      fun _ => ⟨rfl, rfl, d ++ toUp, l2.trans (by rw [b3, List.append_assoc]),
        (List.append_nil _).trans (b4.trans l3.symm)⟩, by simp⟩, hs', fun _ => ⟨rfl, rfl⟩⟩
  | closed => exact absurd rfl hncl

/-- the three last phases of `Proxy.turn` -/
def deliverPhase (env : Env) (st : St) : St :=
  if st.conn == .connected then deliverAll env st.fromUp { st with fromUp := [] } else st
def closePhase (env : Env) (st : St) : St :=
  if st.conn == .connected && st.upClosing
  then onUpstreamError env { st with conn := .closed, upClosing := false } else st
def delPhase (st : St) : St :=
  { st with sock := if st.sock.delPending
                    then { st.sock with alive := false, delPending := false, log := st.sock.log ++ [Obs.del] }
                    else st.sock }

/-- `connectFlush` with the refusal branch of the model -/
def connectFlushR (env : Env) (c : Cfg) (st : St) : St :=
  let st :=
    if st.conn == .connecting then
      if c.refuse then onUpstreamError env { st with conn := .closed }
      else
      { st with conn := .connected, headersWritten := true,
                toUp := st.toUp ++ upstreamHead c st.sock ++ st.buf, buf := [] }
    else st
  if st.conn == .connected && !st.toUp.isEmpty
  then { st with sock := { st.sock with log := st.sock.log ++ [Obs.misc 20 st.toUp] }, toUp := [] } else st

theorem turn_eq0 (env : Env) (c : Cfg) (st : St) :
    turn env c st = if !st.sock.alive then st else
      delPhase (closePhase env (deliverPhase env (connectFlushR env c
        (routed (Obs.countP Obs.isHp st.sock.log) st (turnSock env st.sock (countEv st.sock.log)))))) := by
  delta turn
  extract_lets s hpB k s1 s2 st1 stc st2 x1 x2 x3 x4 x5
  have e1 : s2 = turnSock env st.sock (countEv st.sock.log) := rfl
  have e2 : st1 = routed (Obs.countP Obs.isHp st.sock.log) st s2 := rfl
  have e3 : x2 = connectFlushR env c st1 := rfl
  have e4 : x3 = deliverPhase env x2 := rfl
  have e5 : x4 = closePhase env x3 := rfl
  have e6 : ({ x4 with sock := if x5.delPending = true then
            { x5 with alive := false, delPending := false, log := x5.log ++ [Obs.del] } else x5 } : St) = delPhase x4 := rfl
  rw [← e1, ← e2, ← e3, ← e4, ← e5, ← e6]

theorem connectFlushR_eq (env : Env) (c : Cfg) (st : St) (hc : c.refuse = false) :
    connectFlushR env c st = connectFlush c st := by
  unfold connectFlushR connectFlush
  simp only [hc, Bool.false_eq_true, if_false]

theorem connectFlushR_connected (env : Env) (c : Cfg) {st : St} (h : st.conn = .connected) :
    connectFlushR env c st = connectFlush c st := by
  unfold connectFlushR connectFlush
  rw [h]
  rfl

theorem tail_id (env : Env) (st : St) (h1 : st.fromUp = []) (h2 : st.upClosing = false)
    (h3 : st.sock.delPending = false) : delPhase (closePhase env (deliverPhase env st)) = st := by
  obtain ⟨sock, conn, buf, hw, hpd, upRead, toUp, fromUp, upClosing, errored, seenRd⟩ := st
  simp only at h1 h2 h3
  subst h1 h2
  cases conn <;> simp [delPhase, closePhase, deliverPhase, deliverAll, h3]

theorem marker_def (st : St) :
    marker st = if st.sock.alive = true
      then { st with sock := { st.sock with log := st.sock.log ++ [Obs.ev (countEv st.sock.log)] } } else st := by
  unfold marker
  simp only []
  by_cases ha : st.sock.alive = true
  · rw [if_neg (by simp [ha]), if_pos ha]; rfl
  · rw [if_pos (by simpa using ha), if_neg ha]

theorem marker_eq (st : St) : marker st = { st with sock := (marker st).sock } := by
  rw [marker_def]; split <;> rfl

theorem marker_alive (st : St) (ha : st.sock.alive = true) :
    marker st = { st with sock := { st.sock with log := st.sock.log ++ [Obs.ev (countEv st.sock.log)] } } := by
  rw [marker_def, if_pos ha]

theorem step_up_eq (env : Env) (c : Cfg) (st : St) (b : Bytes) :
    step env c st (.up b) =
      if st.conn = .connected then { st with sock := (marker st).sock, fromUp := st.fromUp ++ [b] }
      else { st with sock := (marker st).sock } := by
  show (if (marker st).conn == .connected then { marker st with fromUp := (marker st).fromUp ++ [b] } else marker st) = _
  rw [marker_eq st]
  by_cases h : st.conn = .connected
  · rw [if_pos h, if_pos (by simp [h])]
  · rw [if_neg h, if_neg (by simpa using h)]

def relayPEv : PEv → Bool
  | .sock .new => true | .sock (.feed _) => true | .turn => true | _ => false

/-- the socket event a proxy event of the relay shape amounts to -/
def proj : PEv → Event
  | .sock e => e
  | _ => .turn

theorem relaySock_proj {e : PEv} (h : relayPEv e = true) : relaySockEvent (proj e) = true := by
  cases e with
  | sock ev => cases ev <;> simp [relayPEv] at h <;> rfl
  | turn => rfl
  | up b => simp [relayPEv] at h
  | upClose => simp [relayPEv] at h

/-- events of the relay shape with an answering upstream server -/
def relayPEvU : PEv → Bool
  | .up _ => true
  | e => relayPEv e

theorem relaySock_projU {e : PEv} (h : relayPEvU e = true) : relaySockEvent (proj e) = true := by
  cases e with
  | sock ev => exact relaySock_proj (e := .sock ev) h
  | turn => rfl
  | up b => rfl
  | upClose => simp [relayPEvU, relayPEv] at h

theorem relayPEvU_of_relayPEv {e : PEv} (h : relayPEv e = true) : relayPEvU e = true := by
  cases e <;> first | exact h | rfl

theorem rinv_hpCount {evs : List Event} {head : Bytes} {N : Nat} {fed : Bytes} {s : Sock}
    (h : RInv evs head N fed s) :
    Obs.countP Obs.isHp s.log = if s.rs = .headers then 0 else 1 := h.counts.1

theorem rinv_reads_nil {evs : List Event} {head : Bytes} {N : Nat} {fed : Bytes} {s : Sock}
    (h : RInv evs head N fed s) (hrs : s.rs = .headers) : Obs.reads s.log = [] := by
  obtain ⟨a, hb, B, hm, _, _⟩ := h
  exact (hm.hdr hrs).2.2.2.2.1

theorem rinv_flags {evs : List Event} {head : Bytes} {N : Nat} {fed : Bytes} {s : Sock}
    (h : RInv evs head N fed s) : s.alive = true ∧ s.delPending = false := by
  obtain ⟨a, hb, B, hm, _, _⟩ := h
  exact ⟨hm.alive, hm.delPending⟩

def fedP (evs : List PEv) : Bytes := Scenario.fed (evs.map proj)

theorem fedP_append (a b : List PEv) : fedP (a ++ b) = fedP a ++ fedP b := by
  simp [fedP, fed_append]

theorem fedP_single (e : PEv) : fedP [e] = evBytesOf (proj e) := by
  simp [fedP, fed_single]

theorem proj_at_split {pevs pre post : List PEv} {e : PEv} (h : pevs = pre ++ e :: post) :
    (pevs.map proj)[pre.length]? = some (proj e) := by
  rw [h]; simp

theorem fedP_prefix_split {pevs pre post : List PEv} {e : PEv} (h : pevs = pre ++ e :: post) :
    (fedP pre ++ evBytesOf (proj e)) <+: fedP pevs := by
  have : pre ++ e :: post = (pre ++ [e]) ++ post := by simp
  rw [h, this, fedP_append, fedP_append, fedP_single]
  exact List.prefix_append _ _

/-- induction over the prefixes of a run -/
theorem run_induct (env : Env) (c : Cfg) (pevs : List PEv) (Q : List PEv → St → Prop) (h0 : Q [] {})
    (hs : ∀ pre e post st, pevs = pre ++ e :: post → Q pre st → Q (pre ++ [e]) (step env c st e))
    (pre post : List PEv) (hevs : pevs = pre ++ post) : Q pre (Proxy.run env c pre) := by
  have key : ∀ (mid pre post : List PEv) (st : St), pevs = pre ++ mid ++ post → Q pre st →
      Q (pre ++ mid) (mid.foldl (step env c) st) := by
    intro mid
    induction mid with
    | nil => intro pre post st _ h; simpa using h
    | cons e mid ih =>
      intro pre post st hevs h
      have := ih (pre ++ [e]) post (step env c st e) (by rw [hevs]; simp)
        (hs pre e (mid ++ post) st (by rw [hevs]; simp) h)
      simpa using this
  simpa [Proxy.run] using key pre [] post {} (by simpa using hevs) h0

theorem rs_of_full {evs : List Event} {head : Bytes} {N : Nat} {fed restF : Bytes} {s : Sock}
    (h : RInv evs head N fed s) (hfin : breakOn CRLF2 fed = some (head, restF)) : s.rs ≠ .headers := by
  intro hc
  obtain ⟨a, hb, B, hm, _, hrel⟩ := h
  have := (hrel.1 hc).2
  rw [hfin] at this; cases this

end Qhttp.ProxyL
