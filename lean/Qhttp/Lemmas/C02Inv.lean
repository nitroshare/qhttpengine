import Qhttp.Lemmas.C02Read
/-
  C02 — the invariant `Mid` that holds wherever application code can run: one more observation in
  the history (`Mid.push`), reader calls singly and as whole reactions (`Mid.fold`).
-/
namespace Qhttp.C02
open Qhttp

/-- What is true whenever control is outside the library's private slots or inside a reaction.
    `fedLen`: bytes delivered so far; `hb`: the buffer while the head is incomplete;
    `B`: the body bytes the reader is entitled to so far (read + buffered); `a`: pending
    `bytesAvailable` answer in the history walk. -/
structure Mid (evs : List Event) (hl N fedLen : Nat) (hb B : Bytes) (a : Option Nat) (s : Sock) : Prop where
  alive : s.alive = true
  ioOpen : s.ioOpen = true
  devOpen : s.tcp.devOpen = true
  dcFlag : s.dcFlag = false
  delPending : s.delPending = false
  walk : walkL evs hl N s.log 0 false none = true
  wst : wst evs s.log 0 false none = (fedLen, s.rs != .headers, a)
  hp : Obs.countP Obs.isHp s.log = if s.rs = .headers then 0 else 1
  rcf : Obs.countP Obs.isRcf s.log = if s.rs = .finished then 1 else 0
  tc : s.log.any Obs.isTc = false
  hdr : s.rs = .headers → s.readBuffer = hb ∧ s.reqHeaders = [] ∧ s.query = [] ∧ s.qio = [] ∧
          Obs.reads s.log = [] ∧ s.dataRead = 0
  dat : s.rs ≠ .headers → Obs.reads s.log ++ s.qio ++ s.readBuffer = B ∧
          s.dataRead = ((Obs.reads s.log).length + s.qio.length : Nat) ∧ s.total = N ∧
          hl + B.length ≤ fedLen

variable {evs : List Event} {hl N fedLen : Nat} {hb B : Bytes} {a : Option Nat} {s : Sock}

/-- One observation, neither a notification nor `tc`, is appended and the buffers change as in a
    read that returned `Obs.reads [o]`: to supply are the walk's clause for `o` and its next state. -/
theorem Mid.push (h : Mid evs hl N fedLen hb B a s) (o : Obs) (q b : Bytes) (d : Int)
    {fedLen' : Nat} {a' : Option Nat}
    (hw : walkL evs hl N [o] fedLen (s.rs != .headers) a = true)
    (hs : C02.wst evs [o] fedLen (s.rs != .headers) a = (fedLen', s.rs != .headers, a'))
    (hf : fedLen ≤ fedLen')
    (h1 : Obs.isHp o = false) (h2 : Obs.isRcf o = false) (h3 : Obs.isTc o = false)
    (hH : s.rs = .headers → Obs.reads [o] = [] ∧ q = s.qio ∧ b = s.readBuffer ∧ d = s.dataRead)
    (hD : s.rs ≠ .headers → Obs.reads [o] ++ q ++ b = s.qio ++ s.readBuffer ∧
            d + s.qio.length = s.dataRead + (Obs.reads [o]).length + q.length) :
    Mid evs hl N fedLen' hb B a'
      { s with qio := q, readBuffer := b, dataRead := d, log := s.log ++ [o] } := by
  refine { alive := h.alive, ioOpen := h.ioOpen, devOpen := h.devOpen,
           dcFlag := h.dcFlag, delPending := h.delPending,
           walk := ?_, wst := ?_, hp := ?_, rcf := ?_, tc := ?_, hdr := ?_, dat := ?_ }
  · show walkL evs hl N (s.log ++ [o]) 0 false none = true
    rw [walkL_append, h.walk, h.wst]; exact hw
  · show C02.wst evs (s.log ++ [o]) 0 false none = _
    rw [wst_append, h.wst]; exact hs
  · exact (Obs.countP_snoc _ _ _).trans (by rw [h1]; exact h.hp)
  · exact (Obs.countP_snoc _ _ _).trans (by rw [h2]; exact h.rcf)
  · show (s.log ++ [o]).any Obs.isTc = false
    rw [List.any_append, h.tc, List.any_cons, h3]; rfl
  · intro hh
    obtain ⟨g1, g2, g3, g4, g5, g6⟩ := h.hdr hh
    obtain ⟨e1, e2, e3, e4⟩ := hH hh
    exact ⟨e3.trans g1, g2, g3, e2.trans g4, by rw [Obs.reads_append, g5, e1]; rfl, e4.trans g6⟩
  · intro hh
    obtain ⟨g1, g2, g3, g4⟩ := h.dat hh
    obtain ⟨e1, e2⟩ := hD hh
    show Obs.reads (s.log ++ [o]) ++ q ++ b = B ∧
      d = ((Obs.reads (s.log ++ [o])).length + q.length : Nat) ∧ s.total = N ∧ hl + B.length ≤ fedLen'
    refine ⟨?_, ?_, g3, Nat.le_trans g4 hf⟩
    · rw [Obs.reads_append, ← g1, List.append_assoc, List.append_assoc, List.append_assoc,
        ← List.append_assoc (Obs.reads [o]), e1]
    · rw [Obs.reads_append, List.length_append]; omega

theorem Mid.push_log (h : Mid evs hl N fedLen hb B a s) (o : Obs) {fedLen' : Nat} {a' : Option Nat}
    (hw : walkL evs hl N [o] fedLen (s.rs != .headers) a = true)
    (hs : C02.wst evs [o] fedLen (s.rs != .headers) a = (fedLen', s.rs != .headers, a'))
    (hf : fedLen ≤ fedLen')
    (h1 : Obs.isHp o = false) (h2 : Obs.isRcf o = false) (h3 : Obs.isTc o = false)
    (h4 : Obs.reads [o] = []) :
    Mid evs hl N fedLen' hb B a' { s with log := s.log ++ [o] } :=
  h.push o s.qio s.readBuffer s.dataRead hw hs hf h1 h2 h3 (fun _ => ⟨h4, rfl, rfl, rfl⟩)
    (fun _ => by rw [h4]; exact ⟨rfl, by simp⟩)

theorem Mid.rr (h : Mid evs hl N fedLen hb B a s) :
    Mid evs hl N fedLen hb B none { s with log := s.log ++ [Obs.rr] } :=
  h.push_log Obs.rr rfl rfl (Nat.le_refl _) rfl rfl rfl rfl

theorem Mid.ev (h : Mid evs hl N fedLen hb B a s) (k : Nat) :
    Mid evs hl N (fedLen + evLen evs k) hb B none { s with log := s.log ++ [Obs.ev k] } :=
  h.push_log (Obs.ev k) rfl rfl (Nat.le_add_right _ _) rfl rfl rfl rfl

theorem Mid.av (h : Mid evs hl N fedLen hb B a s) (m : Nat) :
    Mid evs hl N fedLen hb B (some m) { s with log := s.log ++ [Obs.av m] } :=
  h.push_log (Obs.av m) rfl rfl (Nat.le_refl _) rfl rfl rfl rfl

theorem Mid.reads (h : Mid evs hl N fedLen hb B a s) {r : Sock × Bytes} (hr : ReadSpec s r)
    (ha : a = none ∨ a = some r.2.length) :
    Mid evs hl N fedLen hb B none { r.1 with log := r.1.log ++ [Obs.rd r.2] } := by
  obtain ⟨out, g, q, b, d, rfl, e1, e2, e3, e4⟩ := hr
  have hr : Obs.reads [Obs.rd out] = out := List.append_nil out
  -- head incomplete: nothing is fetched, and the `QIODevice` buffer is empty
  have hH : s.rs = .headers → out = [] ∧ q = s.qio ∧ b = s.readBuffer ∧ d = s.dataRead := fun hh => by
    have hg := e4 hh
    subst hg
    rw [(h.hdr hh).2.2.2.1] at e1 ⊢
    obtain ⟨rfl, rfl⟩ := List.append_eq_nil_iff.mp e1
    exact ⟨rfl, rfl, e2, e3.trans (Int.add_zero _)⟩
  refine h.push (Obs.rd out) q b d ?_ rfl (Nat.le_refl _) rfl rfl rfl (by rw [hr]; exact hH)
    (fun _ => by
      rw [hr, e1, List.append_assoc, e2]
      have := congrArg List.length e1
      rw [List.length_append, List.length_append] at this
      exact ⟨rfl, by omega⟩)
  -- the walk's clause for a read: nothing before `headersParsed`, and a pending answer is exact
  have h1 : ((s.rs != .headers) || out.isEmpty) = true := by
    by_cases hh : s.rs = .headers
    · rw [(hH hh).1]; exact Bool.or_true _
    · rw [bne_iff_ne.mpr hh]; rfl
  show ((_ || _) && _ && true) = true
  rw [h1]
  rcases ha with rfl | rfl
  · rfl
  · show (true && (out.length == out.length) && true) = true
    rw [beq_self_eq_true]; rfl

theorem Mid.apiPrim_read (env : Env) (h : Mid evs hl N fedLen hb B none s) (n : Nat) :
    Mid evs hl N fedLen hb B none (Sock.apiPrim env s (.read n)) := by
  rw [Sock.apiPrim_alive env h.alive]
  exact h.reads (read_spec s n) (Or.inl rfl)

theorem Mid.avail_exact (h : Mid evs hl N fedLen hb B a s) :
    Sock.bytesAvailable s = (Sock.readAll s).2.length := by
  unfold Sock.bytesAvailable
  by_cases hh : s.rs = .headers
  · rw [if_pos hh, readAll_headers s hh (h.hdr hh).2.2.2.1]; rfl
  · rw [if_neg hh, readAll_data s h.ioOpen hh, List.length_append, Nat.add_comm]

theorem Mid.apiPrim_readAll (env : Env) (h : Mid evs hl N fedLen hb B a s)
    (ha : a = none ∨ a = some (Sock.bytesAvailable s)) :
    Mid evs hl N fedLen hb B none (Sock.apiPrim env s .readAll) := by
  rw [Sock.apiPrim_alive env h.alive]
  exact h.reads (readAll_spec s) (by rw [← h.avail_exact]; exact ha)

theorem Mid.apiPrim_avail (env : Env) (h : Mid evs hl N fedLen hb B none s) :
    Mid evs hl N fedLen hb B (some (Sock.bytesAvailable s)) (Sock.apiPrim env s .avail) := by
  rw [Sock.apiPrim_alive env h.alive]
  exact h.av _

theorem bytesAvailable_avail (env : Env) (s : Sock) :
    Sock.bytesAvailable (Sock.apiPrim env s .avail) = Sock.bytesAvailable s := by
  cases ha : s.alive with
  | false => rw [Sock.apiPrim_dead env _ ha]
  | true => rw [Sock.apiPrim_alive env ha]; rfl

def SameCtl (s s' : Sock) : Prop :=
  s'.rs = s.rs ∧ s'.tcp = s.tcp ∧ s'.initPending = s.initPending ∧ s'.total = s.total

theorem SameCtl.refl (s : Sock) : SameCtl s s := ⟨rfl, rfl, rfl, rfl⟩
theorem SameCtl.trans {s1 s2 s3 : Sock} (h1 : SameCtl s1 s2) (h2 : SameCtl s2 s3) : SameCtl s1 s3 :=
  ⟨h2.1.trans h1.1, h2.2.1.trans h1.2.1, h2.2.2.1.trans h1.2.2.1, h2.2.2.2.trans h1.2.2.2⟩

theorem apiPrim_reader (env : Env) (s : Sock) (op : ApiOp) (hop : readerOp op = true) :
    ∃ q b d l, Sock.apiPrim env s op = { s with qio := q, readBuffer := b, dataRead := d, log := l } := by
  rcases Bool.eq_false_or_eq_true s.alive with ha | ha
  · cases op with
    | read n =>
      obtain ⟨out, g, q, b, d, e, _⟩ := read_spec s n
      rw [Sock.apiPrim_alive env ha]; dsimp only; rw [e]; exact ⟨q, b, d, s.log ++ [Obs.rd out], rfl⟩
    | readAll =>
      obtain ⟨out, g, q, b, d, e, _⟩ := readAll_spec s
      rw [Sock.apiPrim_alive env ha]; dsimp only; rw [e]; exact ⟨q, b, d, s.log ++ [Obs.rd out], rfl⟩
    | avail => rw [Sock.apiPrim_alive env ha]; exact ⟨s.qio, s.readBuffer, s.dataRead, _, rfl⟩
    | _ => exact absurd hop Bool.false_ne_true
  · exact ⟨s.qio, s.readBuffer, s.dataRead, s.log, Sock.apiPrim_dead env op ha⟩

theorem apiPrim_sameCtl (env : Env) (s : Sock) (op : ApiOp) (hop : readerOp op = true) :
    SameCtl s (Sock.apiPrim env s op) := by
  obtain ⟨q, b, d, l, e⟩ := apiPrim_reader env s op hop
  rw [e]; exact ⟨rfl, rfl, rfl, rfl⟩

theorem api_of_reader (env : Env) (app : App) (s : Sock) (op : ApiOp) (hop : readerOp op = true)
    (hdc : s.dcFlag = false) : Sock.api env app s op = Sock.apiPrim env s op := by
  obtain ⟨q, b, d, l, e⟩ := apiPrim_reader env s op hop
  exact Sock.api_of_dcFlag env app s op (by rw [e]; exact hdc)

/-- a reader reaction, for any way `f` of making the calls that agrees with `apiPrim` as long as no
    `disconnected` becomes due (`api`, and `apiPrim` itself) -/
theorem Mid.fold (env : Env) (f : Sock → ApiOp → Sock)
    (hf : ∀ s op, (Sock.apiPrim env s op).dcFlag = false → f s op = Sock.apiPrim env s op)
    (ops : List ApiOp) (hops : ReaderOps ops) :
    ∀ s, Mid evs hl N fedLen hb B none s →
      Mid evs hl N fedLen hb B none (ops.foldl f s) ∧ SameCtl s (ops.foldl f s) := by
  unfold ReaderOps at hops
  fun_induction readerOps ops with
  | case1 => intro s h; exact ⟨h, SameCtl.refl s⟩
  | case2 n l ih =>
    intro s h
    have h1 := h.apiPrim_read env n
    obtain ⟨h2, c2⟩ := ih hops _ h1
    rw [List.foldl_cons, hf s _ h1.dcFlag]
    exact ⟨h2, (apiPrim_sameCtl env s _ rfl).trans c2⟩
  | case3 l ih =>
    intro s h
    have h1 := h.apiPrim_readAll env (Or.inl rfl)
    obtain ⟨h2, c2⟩ := ih hops _ h1
    rw [List.foldl_cons, hf s _ h1.dcFlag]
    exact ⟨h2, (apiPrim_sameCtl env s _ rfl).trans c2⟩
  | case4 l ih =>
    intro s h
    have h1 := h.apiPrim_avail env
    have h2 := h1.apiPrim_readAll env (Or.inr (by rw [bytesAvailable_avail]))
    obtain ⟨h3, c3⟩ := ih hops _ h2
    rw [List.foldl_cons, List.foldl_cons, hf s _ h1.dcFlag, hf _ _ h2.dcFlag]
    exact ⟨h3, ((apiPrim_sameCtl env s _ rfl).trans (apiPrim_sameCtl env _ _ rfl)).trans c3⟩
  | case5 l h1 h2 h3 h4 => exact absurd hops Bool.false_ne_true

theorem Mid.apis (env : Env) (app : App) (ops : List ApiOp) (hops : ReaderOps ops) :
    ∀ s, Mid evs hl N fedLen hb B none s →
      Mid evs hl N fedLen hb B none (Sock.apis env app s ops) ∧ SameCtl s (Sock.apis env app s ops) :=
  Mid.fold env (Sock.api env app) (Sock.api_of_dcFlag env app) ops hops

end Qhttp.C02
