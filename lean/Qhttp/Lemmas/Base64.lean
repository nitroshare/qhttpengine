import Qhttp.Model.BasicAuth
/-
  The standard base64 encoder (RFC 4648 alphabet, '=' padding) and the round trip through the
  model of Qt's lenient decoder `fromBase64`.
-/
namespace Qhttp
namespace BasicAuth

/-- the base64 alphabet (RFC 4648, table 1): `A`-`Z`, `a`-`z`, `0`-`9`, `+`, `/` -/
def b64char (n : Nat) : UInt8 :=
  if n < 26 then UInt8.ofNat (65 + n)
  else if n < 52 then UInt8.ofNat (97 + (n - 26))
  else if n < 62 then UInt8.ofNat (48 + (n - 52))
  else if n = 62 then 43 else 47

def PAD : UInt8 := 61

/-- standard base64 with '=' padding -/
def b64encode : Bytes → Bytes
  | [] => []
  | [x] => [b64char (x.toNat / 4), b64char (x.toNat % 4 * 16), PAD, PAD]
  | [x, y] => [b64char (x.toNat / 4), b64char (x.toNat % 4 * 16 + y.toNat / 16),
               b64char (y.toNat % 16 * 4), PAD]
  | x :: y :: z :: rest =>
      b64char (x.toNat / 4) :: b64char (x.toNat % 4 * 16 + y.toNat / 16) ::
      b64char (y.toNat % 16 * 4 + z.toNat / 64) :: b64char (z.toNat % 64) :: b64encode rest

theorem b64val_b64char : ∀ n, n < 64 → b64val (b64char n) = some n := by decide +kernel

theorem b64val_PAD : b64val PAD = none := by decide

/-- one decoder step on an alphabet character -/
theorem b64dec_char (buf nbits n : Nat) (hn : n < 64) (cs : Bytes) :
    b64dec buf nbits (b64char n :: cs) =
      if nbits + 6 ≥ 8 then
        UInt8.ofNat ((buf * 64 + n) / 2 ^ (nbits + 6 - 8)) ::
          b64dec ((buf * 64 + n) % 2 ^ (nbits + 6 - 8)) (nbits + 6 - 8) cs
      else b64dec (buf * 64 + n) (nbits + 6) cs := by
  rw [b64dec]
  simp only [b64val_b64char n hn]

/-- padding (like every byte outside the alphabet) is skipped -/
theorem b64dec_PAD (buf nbits : Nat) (cs : Bytes) : b64dec buf nbits (PAD :: cs) = b64dec buf nbits cs := by
  rw [b64dec]
  simp only [b64val_PAD]

theorem b64dec_nil (buf nbits : Nat) : b64dec buf nbits [] = [] := by rw [b64dec]

/-- the first two characters of a group carry the first byte and four bits `q` of the second -/
theorem b64dec_pair (x : UInt8) (q : Nat) (hq : q < 16) (cs : Bytes) :
    b64dec 0 0 (b64char (x.toNat / 4) :: b64char (x.toNat % 4 * 16 + q) :: cs) = x :: b64dec q 4 cs := by
  have hx := x.toNat_lt
  rw [b64dec_char _ _ _ (by omega), if_neg (by decide), b64dec_char _ _ _ (by omega), if_pos (by decide)]
  have e : (0 * 64 + x.toNat / 4) * 64 + (x.toNat % 4 * 16 + q) = 16 * x.toNat + q := by omega
  rw [e, show (0 + 6 + 6 - 8 : Nat) = 4 from rfl, show (2 : Nat) ^ 4 = 16 from rfl,
    Nat.mul_add_div (by decide), Nat.mul_add_mod, Nat.div_eq_of_lt hq, Nat.mod_eq_of_lt hq, Nat.add_zero,
    UInt8.ofNat_toNat]

/-- the third character completes the second byte (`q`, `r` its halves) and carries two bits `t` -/
theorem b64dec_third (q r t : Nat) (ht : t < 4) (hr : r < 16) (cs : Bytes) :
    b64dec q 4 (b64char (r * 4 + t) :: cs) = UInt8.ofNat (q * 16 + r) :: b64dec t 2 cs := by
  rw [b64dec_char _ _ _ (by omega), if_pos (by decide)]
  have e : q * 64 + (r * 4 + t) = 4 * (q * 16 + r) + t := by omega
  rw [e, show (4 + 6 - 8 : Nat) = 2 from rfl, show (2 : Nat) ^ 2 = 4 from rfl,
    Nat.mul_add_div (by decide), Nat.mul_add_mod, Nat.div_eq_of_lt ht, Nat.mod_eq_of_lt ht, Nat.add_zero]

/-- the fourth character completes the third byte and returns to the empty state -/
theorem b64dec_fourth (t w : Nat) (hw : w < 64) (cs : Bytes) :
    b64dec t 2 (b64char w :: cs) = UInt8.ofNat (t * 64 + w) :: b64dec 0 0 cs := by
  rw [b64dec_char _ _ _ hw, if_pos (by decide)]
  rw [show (2 + 6 - 8 : Nat) = 0 from rfl, show (2 : Nat) ^ 0 = 1 from rfl, Nat.div_one, Nat.mod_one]

/-- a full group of four characters decodes to its three bytes -/
theorem b64dec_group (x y z : UInt8) (cs : Bytes) :
    b64dec 0 0 (b64char (x.toNat / 4) :: b64char (x.toNat % 4 * 16 + y.toNat / 16) ::
      b64char (y.toNat % 16 * 4 + z.toNat / 64) :: b64char (z.toNat % 64) :: cs)
    = x :: y :: z :: b64dec 0 0 cs := by
  have hy := y.toNat_lt
  have hz := z.toNat_lt
  rw [b64dec_pair x _ (by omega), b64dec_third _ _ _ (by omega) (by omega), b64dec_fourth _ _ (by omega),
    Nat.div_add_mod', Nat.div_add_mod', UInt8.ofNat_toNat, UInt8.ofNat_toNat]

/-- the one-byte tail: two characters and two pads; the four pending zero bits are dropped -/
theorem b64dec_tail1 (x : UInt8) :
    b64dec 0 0 [b64char (x.toNat / 4), b64char (x.toNat % 4 * 16), PAD, PAD] = [x] := by
  show b64dec 0 0 (b64char (x.toNat / 4) :: b64char (x.toNat % 4 * 16 + 0) :: [PAD, PAD]) = [x]
  rw [b64dec_pair x 0 (by decide), b64dec_PAD, b64dec_PAD, b64dec_nil]

/-- the two-byte tail: three characters and one pad; the two pending zero bits are dropped -/
theorem b64dec_tail2 (x y : UInt8) :
    b64dec 0 0 [b64char (x.toNat / 4), b64char (x.toNat % 4 * 16 + y.toNat / 16),
      b64char (y.toNat % 16 * 4), PAD] = [x, y] := by
  have hy := y.toNat_lt
  rw [b64dec_pair x _ (by omega)]
  show x :: b64dec (y.toNat / 16) 4 (b64char (y.toNat % 16 * 4 + 0) :: [PAD]) = [x, y]
  rw [b64dec_third _ _ 0 (by decide) (by omega), b64dec_PAD, b64dec_nil, Nat.div_add_mod', UInt8.ofNat_toNat]

/-- decoding the standard encoding of any byte string gives the byte string back -/
theorem b64_roundtrip (x : Bytes) : fromBase64 (b64encode x) = x := by
  unfold fromBase64
  induction x using b64encode.induct with
  | case1 => rfl
  | case2 x => rw [b64encode]; exact b64dec_tail1 x
  | case3 x y => rw [b64encode]; exact b64dec_tail2 x y
  | case4 x y z rest ih => rw [b64encode, b64dec_group, ih]

/-- the encoder's output stays in the alphabet plus '=': in particular no space -/
theorem b64char_ne_SP (n : Nat) : b64char n ≠ SP := by
  unfold b64char
  by_cases h : n < 64
  · revert n; decide +kernel
  · have h1 : ¬ n < 26 := by omega
    have h2 : ¬ n < 52 := by omega
    have h3 : ¬ n < 62 := by omega
    have h4 : ¬ n = 62 := by omega
    simp only [h1, h2, h3, h4, if_false]
    decide

theorem SP_not_mem_b64encode (x : Bytes) : SP ∉ b64encode x := by
  induction x using b64encode.induct with
  | case1 => simp [b64encode]
  | case2 x =>
    rw [b64encode]
    simp only [List.mem_cons, List.not_mem_nil, or_false, not_or]
    exact ⟨(b64char_ne_SP _).symm, (b64char_ne_SP _).symm, by decide, by decide⟩
  | case3 x y =>
    rw [b64encode]
    simp only [List.mem_cons, List.not_mem_nil, or_false, not_or]
    exact ⟨(b64char_ne_SP _).symm, (b64char_ne_SP _).symm, (b64char_ne_SP _).symm, by decide⟩
  | case4 x y z rest ih =>
    rw [b64encode]
    simp only [List.mem_cons, not_or]
    exact ⟨(b64char_ne_SP _).symm, (b64char_ne_SP _).symm, (b64char_ne_SP _).symm,
      (b64char_ne_SP _).symm, ih⟩

/-- `dXNlcjpwYXNz` -/
example : b64encode (lit ['u','s','e','r',':','p','a','s','s']) =
    lit ['d','X','N','l','c','j','p','w','Y','X','N','z'] := by decide +kernel
example : b64encode (lit ['a',':','b']) = lit ['Y','T','p','i'] := by decide +kernel
example : b64encode (lit ['a',':']) = lit ['Y','T','o','='] := by decide +kernel
example : b64encode (lit ['a']) = lit ['Y','Q','=','='] := by decide +kernel

end BasicAuth
end Qhttp
