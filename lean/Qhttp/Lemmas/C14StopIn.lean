import Qhttp.Model.CopierStopIn
import Qhttp.Lemmas.C14Run
/-
  `stop()` called from inside write number `k` of the destination
  (`Copier.nextBlockS` / `Copier.runS`, Model/CopierStopIn.lean) against the plain model.

  A random-access copy after `start` and `i` turns is either still in the block loop (`RunI i`:
  timer armed, not stopped, exactly `i` writes made, no completion logged) or over (`Over`: timer
  idle, the log is closed) — `Running`/`Done` of C14Block without what needs `rangeOK`: the
  equivalence holds for every configuration.  Up to turn `k` the two models make the same steps; the turn that
  makes write `k` is analysed by cases (`turn_eq`); after it both timers are idle.
-/
namespace Qhttp.C14L
open Qhttp Copier

/-- literal copy of `C14.noMark` -/
def noMark (l : List Obs) : List Obs := l.filter fun o => match o with | .ev _ => false | _ => true

theorem noMark_cons (a : Obs) (l : List Obs) :
    noMark (a :: l) = if isMk a then noMark l else a :: noMark l := by
  have : (match a with | .ev _ => false | _ => true) = !isMk a := by cases a <;> rfl
  simp only [noMark, List.filter_cons, this]
  cases isMk a <;> rfl

theorem noMark_append (a b : List Obs) : noMark (a ++ b) = noMark a ++ noMark b :=
  List.filter_append ..
theorem noMark_cons_ev (k : Nat) (l : List Obs) : noMark (Obs.ev k :: l) = noMark l := rfl
theorem noMark_cons_fin (l : List Obs) : noMark (fin :: l) = fin :: noMark l := rfl
theorem noMark_of_mk {l : List Obs} (h : ∀ o ∈ l, isMk o = true) : noMark l = [] := by
  induction l with
  | nil => rfl
  | cons a l ih =>
    rw [noMark_cons, if_pos (h a (List.mem_cons_self ..)), ih fun o ho => h o (List.mem_cons_of_mem _ ho)]

theorem written_noMark (l : List Obs) : written (noMark l) = written l := by
  induction l with
  | nil => rfl
  | cons a l ih =>
    rw [noMark_cons, written_cons a l, ← ih]
    cases h : isMk a
    · exact written_cons a _
    · obtain ⟨k, rfl⟩ := eq_ev_of_isMk h
      rw [if_pos rfl, written_ev, List.nil_append]
theorem cnt_noMark {p : Obs → Bool} (hp : ∀ o, isMk o = true → p o = false) (l : List Obs) :
    Obs.countP p (noMark l) = Obs.countP p l := by
  induction l with
  | nil => rfl
  | cons a l ih =>
    rw [noMark_cons, Obs.countP_cons p a l, ← ih]
    cases h : isMk a
    · exact Obs.countP_cons p a _
    · rw [if_pos rfl, hp a h]; simp

/-- a closed log without its markers: signals, then the one completion, then nothing -/
theorem Closed.strip {log : List Obs} (h : Closed log) :
    ∃ l1, noMark log = l1 ++ [fin] ∧ Obs.countP isFin l1 = 0 := by
  obtain ⟨l1, l2, rfl, h1, h2⟩ := h
  refine ⟨noMark l1, ?_, ?_⟩
  · rw [noMark_append, noMark_cons_fin, noMark_of_mk h2]
  · rw [cnt_noMark mk_not_fin]; exact h1

theorem nextBlockS_eq0 (c : Cfg) (k : Nat) (s : St) (hs : s.stopped = false) :
    nextBlockS c k s =
      if c.readFailAt == some s.reads then
        { s with reads := s.reads + 1, log := s.log ++ [err, fin] }
      else
        let s2 : St := { s with reads := s.reads + 1, pos := nbPos c s.pos, writes := s.writes + 1,
                                log := s.log ++ (if wfail c s.writes (nbN c s.pos) then [] else wr (nbD c s.pos)) }
        if wfail c s.writes (nbN c s.pos) then { s2 with log := s2.log ++ [err, fin] }
        else if s.writes == k then { s2 with connected := false, stopped := true, log := s2.log ++ [fin] }
        else if nbDone c s.pos then { s2 with log := s2.log ++ [fin] }
        else { s2 with pending := .nextBlock } := by
  unfold nextBlockS
  simp only [hs, Bool.false_eq_true, ↓reduceIte, destWrite_eq]
  cases h3 : (s.writes == k)
  · simp only [Bool.false_eq_true, ↓reduceIte]
    rfl
  · simp only [stop, ↓reduceIte]
    rfl

/-- `nextBlockS` on a copier that was not stopped: read failure / write failure / write `k`
    (the block is written and `stop()` runs: completion, nothing more) / any other write -/
theorem nextBlockS_eq (c : Cfg) (k : Nat) (s : St) (hs : s.stopped = false) :
    nextBlockS c k s =
      if c.readFailAt == some s.reads then
        { s with reads := s.reads + 1, log := s.log ++ [err, fin] }
      else if wfail c s.writes (nbN c s.pos) then
        { s with reads := s.reads + 1, pos := nbPos c s.pos, writes := s.writes + 1, log := s.log ++ [err, fin] }
      else if s.writes = k then
        { s with reads := s.reads + 1, pos := nbPos c s.pos, writes := s.writes + 1,
                 log := s.log ++ (wr (nbD c s.pos) ++ [fin]), connected := false, stopped := true }
      else
        { s with reads := s.reads + 1, pos := nbPos c s.pos, writes := s.writes + 1,
                 log := s.log ++ (wr (nbD c s.pos) ++ (if nbDone c s.pos then [fin] else [])),
                 pending := if nbDone c s.pos then s.pending else .nextBlock } := by
  rw [nextBlockS_eq0 c k s hs]
  cases h1 : (c.readFailAt == some s.reads)
  · cases h2 : wfail c s.writes (nbN c s.pos)
    · by_cases h3 : s.writes = k
      · simp [h3]
      · have h3' : (s.writes == k) = false := by simp [h3]
        cases h4 : nbDone c s.pos <;> simp [h3, h3']
    · simp
  · rfl

def runFromS (c : Cfg) (k : Nat) (sk : St × Nat) (evs : List Ev) : St × Nat := evs.foldl (stepKS c k) sk

theorem runFromS_cons (c : Cfg) (k : Nat) (s : St) (j : Nat) (e : Ev) (l : List Ev) :
    runFromS c k (s, j) (e :: l) = runFromS c k (stepS c k (mk s j) e, j + 1) l := rfl
theorem runFromS_append (c : Cfg) (k : Nat) (sk : St × Nat) (l1 l2 : List Ev) :
    runFromS c k sk (l1 ++ l2) = runFromS c k (runFromS c k sk l1) l2 := by
  simp [runFromS, List.foldl_append]
theorem runS_eq (c : Cfg) (k : Nat) (evs : List Ev) : runS c k evs = (runFromS c k (init c, 0) evs).1 := rfl

/-- the copy is in its block loop: the timer is armed, `i` writes were made, no completion yet -/
structure RunI (i : Nat) (s : St) : Prop where
  pending : s.pending = .nextBlock
  stopped : s.stopped = false
  writes : s.writes = i
  nofin : Obs.countP isFin s.log = 0

/-- the copy is over: the timer is idle, one completion, only event markers after it -/
structure Over (s : St) : Prop where
  pending : s.pending = .none
  closed : Closed s.log

theorem Over.marker {s : St} (h : Over s) (j : Nat) : Over (C14L.mk s j) :=
  ⟨h.pending, h.closed.snoc_mk j⟩

theorem stepS_turn_done (c : Cfg) (k : Nat) (s : St) (j : Nat) (h : s.pending = .none) :
    stepS c k (mk s j) .turn = mk s j := by
  simp only [stepS]
  have : (mk s j).pending = .none := h
  rw [this]

theorem step_turn_armed (c : Cfg) (s : St) (j : Nat) (h : s.pending = .nextBlock) :
    step c (mk s j) .turn = nextBlock c { mk s j with pending := .none } := by
  simp only [step]
  have : (mk s j).pending = .nextBlock := h
  rw [this]

theorem stepS_turn_armed (c : Cfg) (k : Nat) (s : St) (j : Nat) (h : s.pending = .nextBlock) :
    stepS c k (mk s j) .turn = nextBlockS c k { mk s j with pending := .none } := by
  simp only [stepS]
  have : (mk s j).pending = .nextBlock := h
  rw [this]

theorem start_runI (c : Cfg) (hseq : c.seq = false) (s : St) (j : Nat) (hf : Fresh c s) :
    RunI 0 (start c (mk s j)) ∨ Over (start c (mk s j)) := by
  have hfin : Obs.countP isFin (s.log ++ [Obs.ev j]) = 0 := (cnt_snoc_ev isFin_ev s.log j).trans hf.nofin
  rw [start_eq]
  cases hsf : startFails c
  · left
    simp only [Bool.false_eq_true, if_false, hseq]
    exact ⟨rfl, rfl, hf.writes, hfin⟩
  · right
    simp only [if_true]
    exact ⟨hf.pending, Closed.of_err_fin hfin⟩

/-- the timer tells the two apart -/
theorem over_of_idle {i : Nat} {s : St} (h : RunI i s ∨ Over s) (hp : s.pending = .none) : Over s :=
  h.resolve_left fun hr => nomatch hr.pending.symm.trans hp

theorem nb_run (c : Cfg) (i : Nat) (u : St) (hp : u.pending = .none) (hs : u.stopped = false)
    (hw : u.writes = i) (hfin : Obs.countP isFin u.log = 0) :
    RunI (i + 1) (nextBlock c u) ∨ Over (nextBlock c u) := by
  have hcl := Closed.of_err_fin hfin
  rw [nextBlock_eq c u hs]
  cases h1 : (c.readFailAt == some u.reads)
  · cases h2 : wfail c u.writes (nbN c u.pos)
    · simp only [Bool.false_eq_true, if_false]
      cases h4 : nbDone c u.pos
      · left
        simp only [Bool.false_eq_true, if_false, List.append_nil]
        refine ⟨rfl, hs, by show u.writes + 1 = i + 1; rw [hw], ?_⟩
        show Obs.countP isFin (u.log ++ wr (nbD c u.pos)) = 0
        rw [Obs.countP_append, hfin, wr_fin]
      · right
        simp only [if_true]
        refine ⟨hp, ?_⟩
        show Closed (u.log ++ (wr (nbD c u.pos) ++ [fin]))
        rw [← List.append_assoc]
        apply Closed.of_snoc_fin
        rw [Obs.countP_append, hfin, wr_fin]
    · right
      simp only [Bool.false_eq_true, if_false, if_true]
      exact ⟨hp, hcl⟩
  · right
    simp only [if_true]
    exact ⟨hp, hcl⟩

theorem nbS_ne (c : Cfg) (k : Nat) (u : St) (hs : u.stopped = false) (hw : u.writes ≠ k) :
    nextBlockS c k u = nextBlock c u := by
  rw [nextBlock_eq c u hs, nextBlockS_eq c k u hs]
  simp only [hw, if_false]

theorem nbS_eq (c : Cfg) (k : Nat) (u : St) (hp : u.pending = .none) (hs : u.stopped = false)
    (hw : u.writes = k) (hfin : Obs.countP isFin u.log = 0) :
    (nextBlockS c k u).pending = .none ∧
    ((Over (nextBlock c u) ∧ (nextBlockS c k u).log = (nextBlock c u).log) ∨
     (RunI (k + 1) (nextBlock c u) ∧ (nextBlockS c k u).stopped = true ∧
        (nextBlockS c k u).log = (nextBlock c u).log ++ [fin])) := by
  have hrun := nb_run c k u hp hs hw hfin
  rw [nextBlock_eq c u hs] at hrun ⊢
  rw [nextBlockS_eq c k u hs]
  simp only [hw, if_true] at hrun ⊢
  cases h1 : (c.readFailAt == some u.reads)
  · cases h2 : wfail c k (nbN c u.pos)
    · simp only [h1, h2, Bool.false_eq_true, if_false] at hrun ⊢
      refine ⟨hp, ?_⟩
      cases h4 : nbDone c u.pos
      · simp only [h4, Bool.false_eq_true, if_false, List.append_nil] at hrun ⊢
        exact Or.inr ⟨hrun.resolve_right (fun ho => nomatch ho.pending), trivial, by simp⟩
      · simp only [h4, if_true] at hrun ⊢
        exact Or.inl ⟨over_of_idle hrun hp, trivial⟩
    · simp only [h1, h2, Bool.false_eq_true, if_false, if_true] at hrun ⊢
      exact ⟨hp, Or.inl ⟨over_of_idle hrun hp, trivial⟩⟩
  · simp only [h1, if_true] at hrun ⊢
    exact ⟨hp, Or.inl ⟨over_of_idle hrun hp, trivial⟩⟩

theorem RunI.armed {i : Nat} {s : St} (h : RunI i s) (j : Nat) :
    ({ C14L.mk s j with pending := .none } : St).pending = .none ∧
    ({ C14L.mk s j with pending := .none } : St).stopped = false ∧
    ({ C14L.mk s j with pending := .none } : St).writes = i ∧
    Obs.countP isFin ({ C14L.mk s j with pending := .none } : St).log = 0 := by
  exact ⟨rfl, h.stopped, h.writes, (cnt_snoc_ev isFin_ev s.log j).trans h.nofin⟩

theorem turn_run (c : Cfg) (i : Nat) (s : St) (j : Nat) (h : RunI i s) :
    RunI (i + 1) (step c (mk s j) .turn) ∨ Over (step c (mk s j) .turn) := by
  obtain ⟨a1, a2, a3, a4⟩ := h.armed j
  rw [step_turn_armed c s j h.pending]
  exact nb_run c i _ a1 a2 a3 a4

theorem turn_ne (c : Cfg) (k i : Nat) (s : St) (j : Nat) (h : RunI i s) (hik : i ≠ k) :
    stepS c k (mk s j) .turn = step c (mk s j) .turn := by
  obtain ⟨a1, a2, a3, a4⟩ := h.armed j
  rw [step_turn_armed c s j h.pending, stepS_turn_armed c k s j h.pending]
  exact nbS_ne c k _ a2 (by rw [a3]; exact hik)

/-- the turn that makes write `k`: the timer of the nested-stop model is idle afterwards; either
    the plain model's copy is over as well (a device fault, or the block was the last one) and the
    two logs are the same, or the plain model goes on and the nested-stop model has logged the
    completion signalled by `stop()` -/
theorem turn_eq (c : Cfg) (k : Nat) (s : St) (j : Nat) (h : RunI k s) :
    (stepS c k (mk s j) .turn).pending = .none ∧
    ((Over (step c (mk s j) .turn) ∧ (stepS c k (mk s j) .turn).log = (step c (mk s j) .turn).log) ∨
     (RunI (k + 1) (step c (mk s j) .turn) ∧ (stepS c k (mk s j) .turn).stopped = true ∧
        (stepS c k (mk s j) .turn).log = (step c (mk s j) .turn).log ++ [fin])) := by
  obtain ⟨a1, a2, a3, a4⟩ := h.armed j
  rw [step_turn_armed c s j h.pending, stepS_turn_armed c k s j h.pending]
  exact nbS_eq c k _ a1 a2 a3 a4

theorem runFromS_idle_eq (c : Cfg) (k : Nat) : ∀ (m : Nat) (s : St) (j : Nat), s.pending = .none →
    runFromS c k (s, j) (List.replicate m Ev.turn) = runFrom c (s, j) (List.replicate m Ev.turn) := by
  intro m
  induction m with
  | zero => intro s j _; rfl
  | succ m ih =>
    intro s j h
    rw [List.replicate_succ, runFromS_cons, runFrom_cons, stepS_turn_done c k s j h, step_turn_done c s j h]
    exact ih _ _ h

theorem Over.turns {s : St} (h : Over s) (c : Cfg) (m j : Nat) :
    Over (runFrom c (s, j) (List.replicate m Ev.turn)).1 := by
  rw [runFrom_idle c m s j h.pending]
  exact ⟨h.pending, h.closed.append_mk (range'_map_mk _ _)⟩

/-- as long as write `k` is not reached (or once the copy is over) the two models make the same
    steps -/
theorem runFromS_same (c : Cfg) (k : Nat) : ∀ (m i : Nat) (s : St) (j : Nat),
    (RunI i s ∧ i + m ≤ k) ∨ Over s →
    runFromS c k (s, j) (List.replicate m Ev.turn) = runFrom c (s, j) (List.replicate m Ev.turn) ∧
    (RunI (i + m) (runFrom c (s, j) (List.replicate m Ev.turn)).1 ∨
     Over (runFrom c (s, j) (List.replicate m Ev.turn)).1) := by
  intro m
  induction m with
  | zero => intro i s j h; exact ⟨rfl, h.imp (·.1) id⟩
  | succ m ih =>
    intro i s j h
    rcases h with ⟨h, hle⟩ | h
    · rw [List.replicate_succ, runFromS_cons, runFrom_cons, turn_ne c k i s j h (by omega),
        show i + (m + 1) = i + 1 + m by omega]
      exact ih (i + 1) _ (j + 1) ((turn_run c i s j h).imp (⟨·, by omega⟩) id)
    · exact ⟨runFromS_idle_eq c k _ s j h.pending, Or.inr (h.turns c _ j)⟩

theorem run_start (c : Cfg) (l : List Ev) :
    run c (.start :: l) = (runFrom c (start c (mk (init c) 0), 1) l).1 := rfl
theorem runS_start (c : Cfg) (k : Nat) (l : List Ev) :
    runS c k (.start :: l) = (runFromS c k (start c (mk (init c) 0), 1) l).1 := rfl

theorem runS_short (c : Cfg) (hseq : c.seq = false) (k n : Nat) (h : n ≤ k) :
    runS c k (.start :: List.replicate n .turn) = run c (.start :: List.replicate n .turn) := by
  rw [runS_start, run_start]
  have h0 := start_runI c hseq (init c) 0 (fresh_init c)
  have h0' : (RunI 0 (start c (mk (init c) 0)) ∧ 0 + n ≤ k) ∨ Over (start c (mk (init c) 0)) := by
    rcases h0 with h0 | h0
    · exact Or.inl ⟨h0, by omega⟩
    · exact Or.inr h0
  rw [(runFromS_same c k n 0 _ 1 h0').1]

/-- at least `k + 1` turns.  `t`: the plain model after `start` and `k + 1` turns.  The timer of
    the nested-stop model is idle; either the plain copy is over by then (fewer than `k + 1`
    blocks, a device fault, or block `k` was the last one) and the nested-stop model has the log of
    the plain model left to run, or the plain copy would go on and the nested-stop model has
    logged, after `t`'s log, the completion `stop()` signals — and then event markers only -/
theorem runS_cases (c : Cfg) (hseq : c.seq = false) (k m : Nat) :
    (runS c k (.start :: List.replicate (k + 1 + m) .turn)).pending = .none ∧
    ((Over (run c (.start :: List.replicate (k + 1) .turn)) ∧
        (runS c k (.start :: List.replicate (k + 1 + m) .turn)).log =
          (run c (.start :: List.replicate (k + 1) .turn)).log ++ (List.range' (k + 2) m).map Obs.ev ∧
        (run c (.start :: List.replicate (k + 1 + m) .turn)).log =
          (run c (.start :: List.replicate (k + 1) .turn)).log ++ (List.range' (k + 2) m).map Obs.ev) ∨
     (RunI (k + 1) (run c (.start :: List.replicate (k + 1) .turn)) ∧
        (runS c k (.start :: List.replicate (k + 1 + m) .turn)).stopped = true ∧
        (runS c k (.start :: List.replicate (k + 1 + m) .turn)).log =
          (run c (.start :: List.replicate (k + 1) .turn)).log ++ fin :: (List.range' (k + 2) m).map Obs.ev)) := by
  have e1 : List.replicate (k + 1 + m) Ev.turn = List.replicate k Ev.turn ++ (Ev.turn :: List.replicate m Ev.turn) := by
    rw [show k + 1 + m = k + (m + 1) by omega, ← List.replicate_append_replicate, List.replicate_succ]
  have e2 : List.replicate (k + 1) Ev.turn = List.replicate k Ev.turn ++ [Ev.turn] := by
    exact List.replicate_succ'
  rw [runS_start, run_start, run_start, e1, e2, runFromS_append, runFrom_append, runFrom_append]
  have h0 := start_runI c hseq (init c) 0 (fresh_init c)
  have h0' : (RunI 0 (start c (mk (init c) 0)) ∧ 0 + k ≤ k) ∨ Over (start c (mk (init c) 0)) := by
    rcases h0 with h0 | h0
    · exact Or.inl ⟨h0, by omega⟩
    · exact Or.inr h0
  obtain ⟨hsame, hk⟩ := runFromS_same c k k 0 _ 1 h0'
  rw [hsame]
  have hcnt := runFrom_counter c (List.replicate k Ev.turn) (start c (mk (init c) 0)) 1
  generalize runFrom c (start c (mk (init c) 0), 1) (List.replicate k Ev.turn) = sk at hk hcnt ⊢
  obtain ⟨s, j⟩ := sk
  simp only [List.length_replicate] at hcnt
  have hj : j = k + 1 := by omega
  subst hj
  rw [Nat.zero_add] at hk
  rw [runFromS_cons, runFrom_cons, runFrom_cons, runFrom_nil]
  rcases hk with hk | hk
  · obtain ⟨hp, hcase⟩ := turn_eq c k s (k + 1) hk
    rw [runFromS_idle_eq c k m _ _ hp, runFrom_idle c m _ _ hp]
    refine ⟨hp, ?_⟩
    rcases hcase with ⟨ho, hl⟩ | ⟨hr, hst, hl⟩
    · left
      refine ⟨ho, ?_, ?_⟩
      · show (stepS c k (mk s (k + 1)) .turn).log ++ _ = _
        rw [hl]
      · rw [runFrom_idle c m _ _ ho.pending]
    · right
      refine ⟨hr, hst, ?_⟩
      show (stepS c k (mk s (k + 1)) .turn).log ++ _ = _
      rw [hl]; simp
  · rw [stepS_turn_done c k s (k + 1) hk.pending, step_turn_done c s (k + 1) hk.pending,
      runFromS_idle_eq c k m _ _ (show (mk s (k + 1)).pending = .none from hk.pending),
      runFrom_idle c m _ _ (show (mk s (k + 1)).pending = .none from hk.pending)]
    exact ⟨hk.pending, Or.inl ⟨hk.marker (k + 1), rfl, rfl⟩⟩

/-- `i` blocks were written and the loop is armed, or everything wanted was written, without
    error, within `i` blocks -/
def QInv (c : Cfg) (i : Nat) (s : St) : Prop :=
  Running c i s ∨
  (Done c s ∧ Obs.countP isErr s.log = 0 ∧ written s.log = wanted c ∧ (wanted c).length ≤ i * c.block)

theorem run_qinv (c : Cfg) (hseq : c.seq = false) (hr : RangeNF c)
    (hnf : anyFault c = false) (n : Nat) : QInv c n (run c (.start :: List.replicate n .turn)) :=
  (run_turns_loop c hseq hr n).imp id fun ⟨hd, hq⟩ => ⟨hd, hd.noerr hnf, (hq (hd.noerr hnf)).1, (hq (hd.noerr hnf)).2.1⟩

theorem QInv.written {c : Cfg} {i : Nat} {s : St} (h : QInv c i s) :
    C14L.written s.log = (wanted c).take (i * c.block) := by
  rcases h with h | ⟨_, _, hw, hl⟩
  · exact h.wr
  · rw [hw, List.take_of_length_le hl]

theorem QInv.noerr {c : Cfg} {i : Nat} {s : St} (h : QInv c i s) : Obs.countP isErr s.log = 0 := by
  rcases h with h | ⟨_, he, _, _⟩
  · exact h.noerr
  · exact he

end Qhttp.C14L
