import Qhttp.Model.RouteScn
import Qhttp.Lemmas.HttpRender
import Qhttp.Lemmas.BytesLemmas
import Qhttp.Lemmas.RouteLemmas
import Qhttp.Lemmas.SockEqns
import Qhttp.Lemmas.ObsLog
/-
  The socket model under the API calls the instrumented handlers make (`RouteScn.actOps`), and the
  run of a `RouteScn` scenario (`.new`, `.feed stream`, `.turn`) as a function of the operations
  performed on `headersParsed`.
-/
namespace Qhttp.RouteL
open Qhttp Qhttp.Sock

/-- the response has not been started and the transport is open -/
structure Ready (s : Sock) : Prop where
  alive : s.alive = true
  ws : s.ws = .none
  io : s.ioOpen = true
  dcF : s.dcFlag = false
  dev : s.tcp.devOpen = true
  conn : s.tcp.conn = .connected

/-- the response is complete and the transport was closed by the library -/
structure Done (s : Sock) : Prop where
  alive : s.alive = true
  rs : s.rs = .finished
  dev : s.tcp.devOpen = false
  dcF : s.dcFlag = false

/-- `s'` is `s` after a complete response that appended `obs` to the history -/
structure Resp (s s' : Sock) (obs : List Obs) : Prop where
  done : Done s'
  del : s'.delPending = s.delPending
  log : s'.log = s.log ++ obs

def LOC : Bytes := lit ['L','o','c','a','t','i','o','n']

def headOf (code : Int) (reason : Bytes) (hs : HeaderMap) : Bytes :=
  lit ['H','T','T','P','/','1','.','0',' '] ++ intText code ++ [SP] ++ reason ++ CRLF ++ headerLines hs ++ CRLF

/-- a body chunk reaches the transport only when it is not empty -/
def wObs (b : Bytes) : List Obs := if b.isEmpty then [] else [.w b]

def errHeaders (hs : HeaderMap) (n : Nat) : HeaderMap :=
  HeaderMap.insert CONTENT_TYPE TEXT_HTML (HeaderMap.remove CONTENT_TYPE
    (HeaderMap.insert CONTENT_LENGTH (natDigits n) (HeaderMap.remove CONTENT_LENGTH hs)))

theorem api_note (env : Env) (app : App) {s : Sock} (h : Ready s) (o : Obs) :
    api env app s (.note o) = { s with log := s.log ++ [o] } := by
  simp [api, apiPrim, h.alive, h.dcF]

theorem Ready.note {s : Sock} (h : Ready s) (l : List Obs) : Ready { s with log := l } :=
  ⟨h.alive, h.ws, h.io, h.dcF, h.dev, h.conn⟩

theorem api_hdr (env : Env) (app : App) {s : Sock} (h : Ready s) (n v : Bytes) :
    api env app s (.hdr n v true) =
      { s with respHeaders := HeaderMap.insert n v (HeaderMap.remove n s.respHeaders) } := by
  simp [api, apiPrim, h.alive, h.dcF, setHeader]

theorem Ready.hdrs {s : Sock} (h : Ready s) (m : HeaderMap) : Ready { s with respHeaders := m } :=
  ⟨h.alive, h.ws, h.io, h.dcF, h.dev, h.conn⟩

/-! Everything the instrumented handlers do is: set status and headers, write (the first write sends
  the head), perhaps close.  `Wrote` is what holds between the head and the close. -/

/-- `s'` is `s` after response bytes were written: `obs` appended, bytes unacknowledged, transport up -/
structure Wrote (s s' : Sock) (obs : List Obs) : Prop where
  alive : s'.alive = true
  dcF : s'.dcFlag = false
  dev : s'.tcp.devOpen = true
  conn : s'.tcp.conn = .connected
  unacked : s'.tcp.unacked ≠ 0
  io : s'.ioOpen = true
  ws : s'.ws = .headers
  rs : s'.rs = s.rs
  del : s'.delPending = s.delPending
  log : s'.log = s.log ++ obs

theorem tcpWrite_frame (s : Sock) (b : Bytes) :
    (tcpWrite s b).alive = s.alive ∧ (tcpWrite s b).dcFlag = s.dcFlag ∧
    (tcpWrite s b).tcp.devOpen = s.tcp.devOpen ∧ (tcpWrite s b).tcp.conn = s.tcp.conn ∧
    (tcpWrite s b).ioOpen = s.ioOpen ∧ (tcpWrite s b).ws = s.ws ∧ (tcpWrite s b).rs = s.rs ∧
    (tcpWrite s b).delPending = s.delPending := by
  rcases tcpWrite_cases s b with e | ⟨_, _, _, e⟩ <;> rw [e] <;> exact ⟨rfl, rfl, rfl, rfl, rfl, rfl, rfl, rfl⟩

theorem tcpWrite_up {s : Sock} (hd : s.tcp.devOpen = true) (hc : s.tcp.conn = .connected) (b : Bytes) :
    (tcpWrite s b).log = s.log ++ wObs b ∧ (tcpWrite s b).tcp.unacked = s.tcp.unacked + b.length := by
  cases b with
  | nil => rw [tcpWrite_nil]; exact ⟨(List.append_nil _).symm, rfl⟩
  | cons c cs => rw [tcpWrite_open hd hc (List.cons_ne_nil c cs)]; exact ⟨rfl, rfl⟩

theorem wrote_head {s : Sock} (h : Ready s) : Wrote s (writeHeaders s) [.w (headBytes s)] := by
  have e : writeHeaders s =
      tcpWrite { s with ws := .headers, hdrRemaining := (headBytes s).length } (headBytes s) := rfl
  rw [e]
  obtain ⟨f1, f2, f3, f4, f5, f6, f7, f8⟩ :=
    tcpWrite_frame { s with ws := .headers, hdrRemaining := (headBytes s).length } (headBytes s)
  obtain ⟨l, u⟩ := tcpWrite_up (s := { s with ws := .headers, hdrRemaining := (headBytes s).length })
    h.dev h.conn (headBytes s)
  exact ⟨f1.trans h.alive, f2.trans h.dcF, f3.trans h.dev, f4.trans h.conn,
    by rw [u]; exact Nat.ne_of_gt (Nat.add_pos_right _ (List.length_pos_iff.2 (headBytes_ne_nil s))),
    f5.trans h.io, f6, f7, f8, l⟩

theorem Wrote.more {s s' : Sock} {obs : List Obs} (h : Wrote s s' obs) (b : Bytes) :
    Wrote s (tcpWrite s' b) (obs ++ wObs b) := by
  obtain ⟨f1, f2, f3, f4, f5, f6, f7, f8⟩ := tcpWrite_frame s' b
  obtain ⟨l, u⟩ := tcpWrite_up h.dev h.conn b
  exact ⟨f1.trans h.alive, f2.trans h.dcF, f3.trans h.dev, f4.trans h.conn,
    by rw [u]; exact fun e => h.unacked (Nat.eq_zero_of_add_eq_zero_right e),
    f5.trans h.io, f6.trans h.ws, f7.trans h.rs, f8.trans h.del,
    by rw [l, h.log, List.append_assoc]⟩

theorem write_ready {s : Sock} (h : Ready s) (b : Bytes) : write s b = tcpWrite (writeHeaders s) b := by
  simp only [write, h.io, h.ws, Bool.not_true, Bool.false_eq_true, if_false, if_true]

theorem write_wrote {s s' : Sock} {obs : List Obs} (h : Wrote s s' obs) (b : Bytes) :
    write s' b = tcpWrite s' b := by
  simp only [write, h.io, h.ws, Bool.not_true, Bool.false_eq_true, if_false, reduceCtorEq]

/-- closing while bytes are unacknowledged completes the response; `disconnected` is not due yet -/
theorem Wrote.close {s s' : Sock} {obs : List Obs} (h : Wrote s s' obs) :
    Resp s (Sock.close s') (obs ++ [.tc]) := by
  have e : Sock.close s' =
      { s' with ioOpen := false, qio := [], rs := .finished, ws := .finished, closeCalled := true,
                tcp := { s'.tcp with devOpen := false, conn := .closing }, log := s'.log ++ [Obs.tc] } := by
    simp only [Sock.close, tcpClose, h.dev, h.conn, h.unacked, Bool.not_true, Bool.false_eq_true, if_false]
  rw [e]
  exact ⟨⟨h.alive, rfl, rfl, h.dcF⟩, h.del, by rw [h.log, List.append_assoc]⟩

def setResp (s : Sock) (c : Int) (hs : HeaderMap) : Sock :=
  { s with code := c, reason := statusReason c, respHeaders := hs }

theorem Ready.setResp {s : Sock} (h : Ready s) (c : Int) (hs : HeaderMap) : Ready (setResp s c hs) :=
  ⟨h.alive, h.ws, h.io, h.dcF, h.dev, h.conn⟩

theorem Resp.of_setResp {s s' : Sock} {c : Int} {hs : HeaderMap} {obs : List Obs}
    (R : Resp (setResp s c hs) s' obs) : Resp s s' obs := ⟨R.done, R.del, R.log⟩

theorem writeRedirect_eq (s : Sock) (v : Bytes) :
    writeRedirect s v false =
      Sock.close (writeHeaders (setResp s 302 (HeaderMap.insert LOC v (HeaderMap.remove LOC s.respHeaders)))) := rfl

theorem writeRedirect_resp {s : Sock} (h : Ready s) (v : Bytes) :
    Resp s (writeRedirect s v false)
      [.w (headOf 302 (statusReason 302) (HeaderMap.insert LOC v (HeaderMap.remove LOC s.respHeaders))), .tc] := by
  rw [writeRedirect_eq]
  exact (wrote_head (h.setResp _ _)).close.of_setResp

theorem writeError_eq (env : Env) (s : Sock) (c : Int) :
    writeError env s c none =
      Sock.close (write
        (writeHeaders (setResp s c (errHeaders s.respHeaders (env.errPage c (statusReason c)).length)))
        (env.errPage c (statusReason c))) := rfl

theorem writeError_resp (env : Env) {s : Sock} (h : Ready s) (c : Int) :
    Resp s (writeError env s c none)
      ([.w (headOf c (statusReason c) (errHeaders s.respHeaders (env.errPage c (statusReason c)).length))] ++
        wObs (env.errPage c (statusReason c)) ++ [.tc]) := by
  have W := wrote_head (h.setResp c (errHeaders s.respHeaders (env.errPage c (statusReason c)).length))
  rw [writeError_eq, write_wrote W]
  exact (W.more _).close.of_setResp

/-! through `api` no `disconnected` can be due: written bytes are unacknowledged -/

theorem api_redir (env : Env) (app : App) {s : Sock} (h : Ready s) (v : Bytes) :
    Resp s (api env app s (.redir v false))
      [.w (headOf 302 (statusReason 302) (HeaderMap.insert LOC v (HeaderMap.remove LOC s.respHeaders))), .tc] := by
  have := writeRedirect_resp h v
  simp only [api, apiPrim, h.alive, Bool.not_true, Bool.false_eq_true, if_false, this.done.dcF]
  exact this

theorem api_err (env : Env) (app : App) {s : Sock} (h : Ready s) (c : Int) :
    Resp s (api env app s (.err c none))
      ([.w (headOf c (statusReason c) (errHeaders s.respHeaders (env.errPage c (statusReason c)).length))] ++
        wObs (env.errPage c (statusReason c)) ++ [.tc]) := by
  have := writeError_resp env h c
  simp only [api, apiPrim, h.alive, Bool.not_true, Bool.false_eq_true, if_false, this.done.dcF]
  exact this

theorem apis_write_close (env : Env) (app : App) {s : Sock} (h : Ready s) (b : Bytes) :
    Resp s (apis env app s [.write b, .close]) ([.w (headOf s.code s.reason s.respHeaders)] ++ wObs b ++ [.tc]) := by
  have hw := (wrote_head h).more b
  rw [← write_ready h] at hw
  simp only [apis, List.foldl, api, apiPrim, h.alive, Bool.not_true, Bool.false_eq_true, if_false, hw.dcF, hw.alive,
    hw.close.done.dcF]
  exact hw.close

/-! The `route` applications have no slot on `readyRead` / `readChannelFinished`.  When the slot on
  `headersParsed` leaves the connection open these signals may still be emitted; once the request
  is complete (`rs = .finished`, which `close` sets) they are not. -/

def quiet : Obs → Bool
  | .rr => true
  | .rcf => true
  | _ => false

theorem quiet_cases {o : Obs} (h : quiet o = true) : o = .rr ∨ o = .rcf := by
  cases o <;> first | exact Or.inl rfl | exact Or.inr rfl | cases h

theorem filterMap_quiet {β : Type} (f : Obs → Option β) (h1 : f .rr = none) (h2 : f .rcf = none)
    {q : List Obs} (h : q.all quiet = true) : q.filterMap f = [] := by
  induction q with
  | nil => rfl
  | cons o l ih =>
    rw [List.all_cons, Bool.and_eq_true] at h
    rcases quiet_cases h.1 with rfl | rfl
    · rw [List.filterMap_cons_none h1, ih h.2]
    · rw [List.filterMap_cons_none h2, ih h.2]

theorem wire_quiet {q : List Obs} (h : q.all quiet = true) : Obs.wire q = [] :=
  Obs.wire_of_not_isW fun o ho => by
    rcases quiet_cases (List.all_eq_true.1 h o ho) with rfl | rfl <;> rfl

structure Silent (app : App) : Prop where
  rr : ∀ s, app.onRr s = []
  rcf : ∀ s, app.onRcf s = []

/-- `s'` is `s` after some unconnected signals `q` -/
structure Same (s s' : Sock) (q : List Obs) : Prop where
  alive : s'.alive = s.alive
  del : s'.delPending = s.delPending
  log : s'.log = s.log ++ q
  quiet : q.all quiet = true
  rs : s.rs ≠ .headers → s'.rs ≠ .headers

theorem Same.refl (s : Sock) : Same s s [] := ⟨rfl, rfl, (List.append_nil _).symm, rfl, id⟩

theorem Same.trans {s s' s'' : Sock} {q q' : List Obs} (h : Same s s' q) (h' : Same s' s'' q') :
    Same s s'' (q ++ q') :=
  ⟨h'.alive.trans h.alive, h'.del.trans h.del, by rw [h'.log, h.log, List.append_assoc],
    by rw [List.all_append, h.quiet, h'.quiet]; rfl, fun x => h'.rs (h.rs x)⟩

def stage1 (s : Sock) : Sock :=
  if s.total ≥ 0 && s.dataRead + s.readBuffer.length > s.total
  then { s with readBuffer := s.readBuffer.take (s.total - s.dataRead).toNat } else s
def stage2 (s : Sock) : Sock :=
  if s.readBuffer.length != 0 then { s with log := s.log ++ [Obs.rr] } else s
def stage3 (s : Sock) : Sock :=
  if s.total != -1 && s.dataRead + s.readBuffer.length ≥ s.total
  then { s with rs := .finished, log := s.log ++ [Obs.rcf] } else s

theorem readDataSlot_stages (env : Env) {app : App} (h : Silent app) (s : Sock) :
    readDataSlot env app s = stage3 (stage2 (stage1 s)) := by
  simp only [readDataSlot, emit, h.rr, h.rcf, apis, List.foldl]
  rfl

theorem stage1_same (s : Sock) : Same s (stage1 s) [] := by
  unfold stage1; split
  · exact ⟨rfl, rfl, (List.append_nil _).symm, rfl, id⟩
  · exact Same.refl s
theorem stage2_same (s : Sock) : ∃ q, Same s (stage2 s) q := by
  unfold stage2; split
  · exact ⟨[.rr], rfl, rfl, rfl, rfl, id⟩
  · exact ⟨[], Same.refl s⟩
theorem stage3_same (s : Sock) : ∃ q, Same s (stage3 s) q := by
  unfold stage3; split
  · exact ⟨[.rcf], rfl, rfl, rfl, rfl, fun _ => RState.noConfusion⟩
  · exact ⟨[], Same.refl s⟩

theorem readDataSlot_same (env : Env) {app : App} (h : Silent app) (s : Sock) :
    ∃ q, Same s (readDataSlot env app s) q := by
  rw [readDataSlot_stages env h]
  obtain ⟨q2, h2⟩ := stage2_same (stage1 s)
  obtain ⟨q3, h3⟩ := stage3_same (stage2 (stage1 s))
  exact ⟨_, ((stage1_same s).trans h2).trans h3⟩

theorem post_same (env : Env) {app : App} (h : Silent app) (s : Sock) :
    ∃ q, Same s (post env app (s, true)) q ∧ (s.rs = .finished → q = [] ∧ (post env app (s, true)).rs = .finished) := by
  cases hrs : s.rs with
  | data =>
    have e : post env app (s, true) = readDataSlot env app s := by
      simp only [post, Bool.not_true, Bool.false_eq_true, if_false]; rw [hrs]
    rw [e]
    obtain ⟨q, hq⟩ := readDataSlot_same env h s
    exact ⟨q, hq, RState.noConfusion⟩
  | finished =>
    have e : post env app (s, true) = { s with readBuffer := [] } := by
      simp only [post, Bool.not_true, Bool.false_eq_true, if_false]; rw [hrs]
    rw [e]
    exact ⟨[], ⟨rfl, rfl, (List.append_nil _).symm, rfl, id⟩, fun _ => ⟨rfl, hrs⟩⟩
  | headers =>
    have e : post env app (s, true) = s := by
      simp only [post, Bool.not_true, Bool.false_eq_true, if_false]; rw [hrs]
    rw [e]
    exact ⟨[], Same.refl s, RState.noConfusion⟩

/-- a later `onReadyRead` (the queued initial one, at the event-loop turn) -/
theorem onReadyRead_same (env : Env) {app : App} (h : Silent app) (s : Sock) (hrs : s.rs ≠ .headers) :
    ∃ q, Same s (onReadyRead env app s) q ∧ (s.rs = .finished → q = []) := by
  cases hr : s.rs with
  | headers => exact absurd hr hrs
  | finished =>
    have e : onReadyRead env app s =
        if s.tcp.devOpen then { s with tcp := { s.tcp with inbox := [] } } else s := by
      simp only [onReadyRead, hr, if_true]
    rw [e]
    split
    · exact ⟨[], ⟨rfl, rfl, (List.append_nil _).symm, rfl, id⟩, fun _ => rfl⟩
    · exact ⟨[], Same.refl s, fun _ => rfl⟩
  | data =>
    have e : onReadyRead env app s = readDataSlot env app (if s.tcp.devOpen then pull s else s) := by
      by_cases hd : s.tcp.devOpen = true
      · simp only [onReadyRead, hr, hd, pull, reduceCtorEq, if_false, if_true, Bool.not_true, Bool.false_eq_true]
      · simp only [onReadyRead, hr, hd, reduceCtorEq, if_false, Bool.not_true, Bool.false_eq_true]
    rw [e]
    obtain ⟨q, hq⟩ := readDataSlot_same env h (if s.tcp.devOpen then pull s else s)
    have f : (if s.tcp.devOpen then pull s else s).alive = s.alive ∧
        (if s.tcp.devOpen then pull s else s).delPending = s.delPending ∧
        (if s.tcp.devOpen then pull s else s).log = s.log ∧
        (if s.tcp.devOpen then pull s else s).rs = s.rs := by
      split <;> exact ⟨rfl, rfl, rfl, rfl⟩
    exact ⟨q, ⟨hq.alive.trans f.1, hq.del.trans f.2.1, by rw [hq.log, f.2.2.1], hq.quiet,
      fun _ => hq.rs (by rw [f.2.2.2, hr]; exact RState.noConfusion)⟩, RState.noConfusion⟩

/-- `s'` is `s` after the slot on `headersParsed`: `obs` appended, the object lives, the request is
    complete (`fin`, after `close`) or still open -/
structure Left (fin : Bool) (s s' : Sock) (obs : List Obs) : Prop where
  alive : s'.alive = true
  rs : s'.rs = if fin then .finished else .data
  del : s'.delPending = s.delPending
  log : s'.log = s.log ++ obs

theorem Resp.left {s s' : Sock} {obs : List Obs} (h : Resp s s' obs) : Left true s s' obs :=
  ⟨h.done.alive, h.done.rs, h.del, h.log⟩

theorem Wrote.left {s s' : Sock} {obs : List Obs} (h : Wrote s s' obs) (hd : s.rs = .data) :
    Left false s s' obs :=
  ⟨h.alive, h.rs.trans hd, h.del, h.log⟩

theorem Left.rs_ne {fin : Bool} {s s' : Sock} {obs : List Obs} (h : Left fin s s' obs) : s'.rs ≠ .headers := by
  rw [h.rs]; cases fin <;> exact RState.noConfusion

/-- the socket when the segment arrives -/
def s0 (stream : Bytes) : Sock :=
  { initPending := true, log := [.ev 0, .ev 1], tcp := { inbox := stream } }

theorem run_eq (env : Env) (app : App) (stream : Bytes) :
    Sock.run env app [.new, .feed stream, .turn] =
      (stepK env app (onReadyRead env app (s0 stream), 2) .turn).1 := by
  have e1 : stepK env app ({}, 0) .new = ({ initPending := true, log := [.ev 0] }, 1) := by
    simp [stepK, step]
  have e2 : stepK env app ({ initPending := true, log := [.ev 0] }, 1) (.feed stream) =
      (onReadyRead env app (s0 stream), 2) := by
    simp [stepK, step, s0]
  simp only [Sock.run, List.foldl]
  rw [e1, e2]

def finishTurn (t : Sock) : Sock :=
  if t.delPending then { t with alive := false, delPending := false, log := t.log ++ [Obs.del] } else t

theorem finishTurn_of_not_del {t : Sock} (h : t.delPending = false) : finishTurn t = t := by
  simp [finishTurn, h]

theorem stepK_turn_eq (env : Env) (app : App) (s : Sock) (ha : s.alive = true) :
    (stepK env app (s, 2) .turn).1 =
      finishTurn (if s.initPending then onReadyRead env app { s with log := s.log ++ [Obs.ev 2], initPending := false }
                  else { s with log := s.log ++ [Obs.ev 2] }) := by
  simp only [stepK, step, ha, Bool.not_true, Bool.false_eq_true, if_false, finishTurn]

theorem turn_same (env : Env) {app : App} (hsil : Silent app) (s : Sock) (ha : s.alive = true)
    (hrs : s.rs ≠ .headers) (hd : s.delPending = false) :
    ∃ Y, Y.all quiet = true ∧ (s.rs = .finished → Y = []) ∧
      (stepK env app (s, 2) .turn).1.log = s.log ++ [.ev 2] ++ Y := by
  rw [stepK_turn_eq env app s ha]
  by_cases hi : s.initPending = true
  · rw [if_pos hi]
    obtain ⟨Y, hY, hfin⟩ := onReadyRead_same env hsil
      { s with log := s.log ++ [Obs.ev 2], initPending := false } hrs
    rw [finishTurn_of_not_del (hY.del.trans hd)]
    exact ⟨Y, hY.quiet, hfin, hY.log⟩
  · rw [if_neg hi, finishTurn_of_not_del (t := { s with log := s.log ++ [Obs.ev 2] }) hd]
    exact ⟨[], rfl, fun _ => rfl, (List.append_nil _).symm⟩

def Accepts (env : Env) (stream : Bytes) : Prop :=
  ∃ head rest rh p q, breakOn CRLF2 stream = some (head, rest) ∧
    Parser.parseRequestHeaders head [] = some rh ∧ env.url rh.rawPath = some (p, q)

/-- acceptable head: the history is the event markers, `headersParsed`, what the slot's calls append
    and, while the request is not complete, request-side signals nobody is connected to.  The
    premises of `hr` on `s1` are the defaults of a new `Sock`. -/
theorem run_hp (env : Env) {app : App} (hsil : Silent app) {stream : Bytes} (hacc : Accepts env stream)
    {ops : List ApiOp} {obs : List Obs} {fin : Bool} (hops : ∀ s, app.onHp s = ops)
    (hr : ∀ s1 : Sock, Ready s1 → s1.code = 200 → s1.reason = lit ['O','K'] → s1.respHeaders = [] →
        s1.rs = .data → s1.log = [.ev 0, .ev 1, .hp] → Left fin s1 (apis env app s1 ops) obs) :
    ∃ X Y, X.all quiet = true ∧ Y.all quiet = true ∧ (fin = true → X = [] ∧ Y = []) ∧
      (Sock.run env app [.new, .feed stream, .turn]).log =
        [.ev 0, .ev 1, .hp] ++ obs ++ X ++ [.ev 2] ++ Y := by
  obtain ⟨head, rest, rh, p, q, hb, hp, hu⟩ := hacc
  obtain ⟨f1, f2, f3, f4, f5, f6, f7, f8, f9, f10, f11⟩ := hpState_fields (pull (s0 stream)) rh p q rest
  rw [run_eq, onReadyRead_headers env app (s0 stream) rfl rfl,
    readHeaders_ok env app (pull (s0 stream)) hb hp hu, hops]
  generalize hpState (pull (s0 stream)) rh p q rest = sH at *
  unfold emit
  have R := hr { sH with log := sH.log ++ [.hp] } ⟨f1, f2, f3, f4, by rw [f5]; rfl, by rw [f5]; rfl⟩
    f6 f7 f8 f10 (by show sH.log ++ _ = _; rw [f11]; rfl)
  obtain ⟨X, hX, hfin⟩ := post_same env hsil (apis env app { sH with log := sH.log ++ [.hp] } ops)
  have hfr : fin = true → (apis env app { sH with log := sH.log ++ [.hp] } ops).rs = .finished :=
    fun e => by rw [R.rs, e]; rfl
  obtain ⟨Y, hY, yfin, d5⟩ := turn_same env hsil _ (hX.alive.trans R.alive) (hX.rs R.rs_ne)
    (by rw [hX.del, R.del]; show sH.delPending = _; rw [f9]; rfl)
  refine ⟨X, Y, hX.quiet, hY, fun e => ⟨(hfin (hfr e)).1, yfin (hfin (hfr e)).2⟩, ?_⟩
  rw [d5, hX.log, R.log]
  show sH.log ++ _ ++ _ ++ _ ++ _ ++ _ = _
  rw [f11]
  rfl

theorem run_ok (env : Env) {app : App} (hsil : Silent app) {stream : Bytes} (hacc : Accepts env stream)
    {ops : List ApiOp} {obs : List Obs} (hops : ∀ s, app.onHp s = ops)
    (hr : ∀ s1 : Sock, Ready s1 → s1.code = 200 → s1.reason = lit ['O','K'] → s1.respHeaders = [] →
        s1.log = [.ev 0, .ev 1, .hp] → Resp s1 (apis env app s1 ops) obs) :
    (Sock.run env app [.new, .feed stream, .turn]).log = [.ev 0, .ev 1, .hp] ++ obs ++ [.ev 2] := by
  obtain ⟨X, Y, _, _, hfin, hlog⟩ := run_hp env hsil hacc (fin := true) hops
    (fun s1 h1 h2 h3 h4 _ h6 => (hr s1 h1 h2 h3 h4 h6).left)
  obtain ⟨rfl, rfl⟩ := hfin rfl
  rw [hlog, List.append_nil, List.append_nil]

/-- unacceptable head: the library's 400 and nothing else -/
theorem run_bad (env : Env) {app : App} (hsil : Silent app) (stream : Bytes) {head rest : Bytes}
    (hb : breakOn CRLF2 stream = some (head, rest))
    (hbad : match Parser.parseRequestHeaders head [] with
            | none => True
            | some rh => env.url rh.rawPath = none) :
    (Sock.run env app [.new, .feed stream, .turn]).log = [.ev 0, .ev 1] ++
        ([.w (headOf 400 (statusReason 400) (errHeaders [] (env.errPage 400 (statusReason 400)).length))] ++
          wObs (env.errPage 400 (statusReason 400)) ++ [.tc]) ++ [.ev 2] := by
  have R := writeError_resp env (s := pull (s0 stream)) ⟨rfl, rfl, rfl, rfl, rfl, rfl⟩ 400
  rw [run_eq, onReadyRead_headers env app (s0 stream) rfl rfl,
    readHeaders_bad env app (pull (s0 stream)) hb
      fun rh (h : Parser.parseRequestHeaders head [] = some rh) => by rw [h] at hbad; exact hbad]
  simp only [R.done.dcF, Bool.false_eq_true, if_false, post_false]
  obtain ⟨Y, _, yfin, d5⟩ := turn_same env hsil _ R.done.alive (by rw [R.done.rs]; exact RState.noConfusion) R.del
  rw [d5, yfin R.done.rs, R.log, List.append_nil]
  rfl

theorem app_silent (sc : RouteScn) : Silent sc.app := ⟨fun _ => rfl, fun _ => rfl⟩

def OK : Bytes := lit ['O','K']

/-- what the last action of a routing run appends to the history -/
def lastObs (env : Env) (root : Node) : Act → List Obs
  | .redirect _ loc => [.w (headOf 302 (statusReason 302) [(LOC, encodeLoc loc)]), .tc]
  | .process id path =>
    .pr id (be16 path) ::
      (if (RouteScn.ownOf root id).getD false then
        [.w (headOf 200 OK [])] ++ wObs RouteScn.OK_BODY ++ [.tc]
      else
        [.w (headOf 404 (statusReason 404) (errHeaders [] (env.errPage 404 (statusReason 404)).length))] ++
          wObs (env.errPage 404 (statusReason 404)) ++ [.tc])
  | .mw id true => [.mw id true]
  | .mw id false =>
    .mw id false ::
      ([.w (headOf 403 (statusReason 403)
          (errHeaders [(RouteScn.X_MW, natDigits id)] (env.errPage 403 (statusReason 403)).length))] ++
        wObs (env.errPage 403 (statusReason 403)) ++ [.tc])

def mwObs (e : Nat × Bool) : Obs := .mw e.1 e.2

/-- the last element of a routing run: a terminal action or a refusal -/
def isLastAct : Act → Bool
  | .mw _ ok => !ok
  | _ => true

theorem apis_append (env : Env) (app : App) (s : Sock) (a b : List ApiOp) :
    apis env app s (a ++ b) = apis env app (apis env app s a) b := by
  simp [apis, List.foldl_append]

theorem apis_note (env : Env) (app : App) {s : Sock} (h : Ready s) (o : Obs) (rest : List ApiOp) :
    apis env app s (.note o :: rest) = apis env app { s with log := s.log ++ [o] } rest := by
  simp only [apis, List.foldl]; rw [api_note env app h]

theorem apis_hdr (env : Env) (app : App) {s : Sock} (h : Ready s) (n v : Bytes) (rest : List ApiOp) :
    apis env app s (.hdr n v true :: rest) =
      apis env app { s with respHeaders := HeaderMap.insert n v (HeaderMap.remove n s.respHeaders) } rest := by
  simp only [apis, List.foldl]; rw [api_hdr env app h]

/-- a refusing middleware records itself and sets its mark -/
theorem apis_refuser (env : Env) (app : App) {s : Sock} (h : Ready s) (hh : s.respHeaders = []) (id : Nat)
    (rest : List ApiOp) :
    apis env app s (.note (.mw id false) :: .hdr RouteScn.X_MW (natDigits id) true :: rest) =
      apis env app { s with log := s.log ++ [Obs.mw id false], respHeaders := [(RouteScn.X_MW, natDigits id)] }
        rest := by
  rw [apis_note env app h, apis_hdr env app (h.note _)]
  simp [hh, HeaderMap.insert, HeaderMap.remove]

theorem apis_accepting (env : Env) (app : App) (root : Node) (pre : List (Nat × Bool)) (hacc : allAccept pre = true) :
    ∀ {s : Sock}, Ready s →
      apis env app s ((pre.map mwAct).flatMap (RouteScn.actOps root)) = { s with log := s.log ++ pre.map mwObs } := by
  induction pre with
  | nil => intro s _; simp [apis]
  | cons e pre ih =>
    intro s h
    obtain ⟨i, ok⟩ := e
    simp only [allAccept, List.all_cons, Bool.and_eq_true] at hacc
    have hok : ok = true := hacc.1
    subst hok
    simp only [List.map_cons, List.flatMap_cons, mwAct, RouteScn.actOps]
    rw [List.singleton_append, apis_note env app h]
    rw [ih (by simpa [allAccept] using hacc.2) (h.note (s.log ++ [Obs.mw i true]))]
    simp [mwObs]

theorem apis_last (env : Env) (app : App) (root : Node) {s : Sock} (h : Ready s) (hc : s.code = 200)
    (hr : s.reason = OK) (hh : s.respHeaders = []) (t : Act) (ht : isLastAct t = true) :
    Resp s (apis env app s (RouteScn.actOps root t)) (lastObs env root t) := by
  cases t with
  | redirect id loc =>
    have := api_redir env app h (encodeLoc loc)
    simp only [RouteScn.actOps, apis, List.foldl, lastObs]
    rw [hh] at this
    simpa [HeaderMap.insert, HeaderMap.remove, LOC] using this
  | process id path =>
    simp only [RouteScn.actOps, lastObs]
    have hn : Ready { s with log := s.log ++ [Obs.pr id (be16 path)] } := h.note _
    rw [apis_note env app h]
    split
    · have := apis_write_close env app hn RouteScn.OK_BODY
      exact ⟨this.done, this.del, by rw [this.log]; simp [hc, hr, hh]⟩
    · have := api_err env app hn 404
      simp only [apis, List.foldl]
      exact ⟨this.done, this.del, by rw [this.log]; simp [hh]⟩
  | mw id ok =>
    cases ok with
    | true => cases ht
    | false =>
      simp only [RouteScn.actOps, lastObs]
      rw [apis_refuser env app h hh]
      have hn2 : Ready { s with log := s.log ++ [Obs.mw id false], respHeaders := [(RouteScn.X_MW, natDigits id)] } :=
        ⟨h.alive, h.ws, h.io, h.dcF, h.dev, h.conn⟩
      have := api_err env app hn2 403
      simp only [apis, List.foldl]
      exact ⟨this.done, this.del, by rw [this.log]; simp⟩

theorem apis_route (env : Env) (app : App) (root : Node) {s : Sock} (h : Ready s) (hc : s.code = 200)
    (hr : s.reason = OK) (hh : s.respHeaders = []) (pre : List (Nat × Bool)) (hacc : allAccept pre = true)
    (t : Act) (ht : isLastAct t = true) :
    Resp s (apis env app s ((pre.map mwAct ++ [t]).flatMap (RouteScn.actOps root)))
      (pre.map mwObs ++ lastObs env root t) := by
  rw [List.flatMap_append, apis_append, apis_accepting env app root pre hacc h]
  have hn : Ready { s with log := s.log ++ pre.map mwObs } := h.note _
  have := apis_last env app root hn hc hr hh t ht
  simp only [List.flatMap_cons, List.flatMap_nil, List.append_nil]
  exact ⟨this.done, this.del, by rw [this.log]; simp⟩

/-- no root handler: the Server's 500 -/
theorem apis_500 (env : Env) (app : App) {s : Sock} (h : Ready s) (hh : s.respHeaders = []) :
    Resp s (apis env app s [.err 500 none])
      ([.w (headOf 500 (statusReason 500) (errHeaders [] (env.errPage 500 (statusReason 500)).length))] ++
        wObs (env.errPage 500 (statusReason 500)) ++ [.tc]) := by
  have := api_err env app h 500
  simp only [hh] at this
  simpa [apis] using this

end Qhttp.RouteL
