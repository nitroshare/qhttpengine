import Qhttp.Lemmas.C13Relay
import Qhttp.Lemmas.HttpRender
import Qhttp.Lemmas.C04Wire
import Qhttp.Lemmas.ProxyHead
/-
  C13: what the strict reader `Http.parse` makes of the bytes the proxy writes: the relayed
  response and the 502.
-/
namespace Qhttp.C13L
open Qhttp Qhttp.Sock Qhttp.Proxy

theorem headOut_eq (code : Int) (reason : Bytes) (hs : HeaderMap) :
    headOut code reason hs =
      (Http.HTTP10 ++ intText code ++ [SP] ++ reason) ++ CRLF ++ Sock.headerLines hs ++ CRLF := rfl

theorem intText_CR {code : Int} (hc : 0 ≤ code) : CR ∉ intText code := by
  rw [HB.intText_of_nonneg hc]; exact HB.CR_not_mem_natDigits _

theorem startOut_noCRLF {code : Int} {reason : Bytes} (hc : 0 ≤ code) (hr : ¬ CRLF <:+: reason) :
    ¬ CRLF <:+: Http.HTTP10 ++ intText code ++ [SP] ++ reason := by
  have h1 : ¬ CRLF <:+: Http.HTTP10 ++ intText code := by
    apply ProxyL.noCRLF_of_CR
    simp only [List.mem_append, not_or]
    exact ⟨by decide, intText_CR hc⟩
  exact not_infix_append_sep h1 hr (by decide)

/-- **the relayed response re-parses**: start line with the upstream's code and reason, the
    header map entry by entry, the body untouched; the reason and the header entries need only
    be free of CR LF -/
theorem parse_relayed_w {code : Int} {reason : Bytes} {hs : HeaderMap} (body : Bytes)
    (hc : 0 ≤ code) (hr : ¬ CRLF <:+: reason) (hw : ProxyL.HdrW hs) :
    Http.parse (headOut code reason hs ++ body) =
      some { start := Http.HTTP10 ++ intText code ++ [SP] ++ reason, headers := hs, body := body } ∧
    Http.statusLine (Http.HTTP10 ++ intText code ++ [SP] ++ reason) =
      some { code := code.natAbs, reason := reason } := by
  refine ⟨?_, Http.statusLine_intText hc reason⟩
  rw [headOut_eq]
  exact Http.parse_render_w _ _ _ (by simp [Http.HTTP10, lit]) (startOut_noCRLF hc hr) hw

/-- what `Parser::parseResponseHeaders` returns is fit for re-reading, whatever the upstream
    server sent: the reason has no CR LF (it is part of a line), the header map is `HdrW` -/
theorem resp_parts_ok {head reason : Bytes} {code : Int} {m : HeaderMap}
    (h : Parser.parseResponseHeaders head = some (code, reason, m)) :
    ¬ CRLF <:+: reason ∧ ProxyL.HdrW m ∧ 100 ≤ code ∧ code ≤ 599 := by
  unfold Parser.parseResponseHeaders at h
  split at h
  · cases h
  · rename_i p0 p1 p2 m' hp
    simp only at h
    split at h
    · rename_i hc
      simp only [Option.some.injEq, Prod.mk.injEq] at h
      obtain ⟨rfl, rfl, rfl⟩ := h
      obtain ⟨hs, _, _, hf, hl, hpl, _⟩ := (Parser.parseHeaders_eq_some_iff _ _ _ _ _ _).1 hp
      refine ⟨ProxyL.noCRLF_of_infix hf ⟨p0 ++ [SP] ++ p1 ++ [SP], [], by simp⟩,
        ProxyL.hdrW_of_parseHeaderList hpl (fun e he => by cases he) hl, ?_⟩
      simpa using hc
    · cases h

/-- what `C13.holds` checks of the client's wire in the relayed case -/
def relayCheck (wire : Bytes) (code : Int) (reason body : Bytes) (pairs : List (Bytes × Bytes)) : Bool :=
  match Http.parse wire with
  | none => false
  | some m =>
    (match Http.statusLine m.start with
     | some st => (st.code : Int) == code && st.reason == reason
     | none => false) &&
    m.body == body &&
    (Http.names m.headers).all (fun n => pairs.any fun h => lower h.1 == n) &&
    pairs.all (fun h => C12.vals h.1 m.headers == C12.vals h.1 pairs)

theorem relayCheck_relayed_w {code : Int} {reason : Bytes} {pairs : List (Bytes × Bytes)} (body : Bytes)
    (hc : 0 ≤ code) (hr : ¬ CRLF <:+: reason) (hw : ProxyL.HdrW (mapOf pairs)) :
    relayCheck (headOut code reason (mapOf pairs) ++ body) code reason body pairs = true := by
  obtain ⟨h1, h2⟩ := parse_relayed_w body hc hr hw
  unfold relayCheck
  rw [h1]
  simp only [h2]
  have e : ((code.natAbs : Nat) : Int) = code := Int.natAbs_of_nonneg hc
  simp only [e, beq_self_eq_true, Bool.and_self, Bool.true_and, names_mapOf,
    List.all_eq_true, beq_iff_eq]
  intro h _
  exact vals_mapOf h.1 pairs

theorem parse_of_specHead' {head : Bytes} {code : Int} {reason : Bytes} {pairs : List (Bytes × Bytes)}
    (h : specHead' head = some (code, reason, pairs)) :
    Parser.parseResponseHeaders head = some (code, reason, mapOf pairs) := by
  rw [specHead'_eq, h]; rfl

theorem nameOk_of_specHead' {head : Bytes} {code : Int} {reason : Bytes} {pairs : List (Bytes × Bytes)}
    (h : specHead' head = some (code, reason, pairs)) : ∀ e ∈ pairs, ProxyL.NameOk e := fun e he =>
  have hw := (resp_parts_ok (parse_of_specHead' h)).2.1 e (mem_mapOf.mpr he)
  ⟨hw.1, hw.2.1⟩

theorem code_range_of_specHead' {head : Bytes} {code : Int} {reason : Bytes} {pairs : List (Bytes × Bytes)}
    (h : specHead' head = some (code, reason, pairs)) : 100 ≤ code ∧ code ≤ 599 :=
  (resp_parts_ok (parse_of_specHead' h)).2.2

/-- no CR in name or value: the CR-free special case (`hdrWf_mapOf`, `relayCheck_relayed`) of
    `relayCheck_relayed_w`; `C13.holds_run` rests on the `_w` form.  That the name is not empty and
    has no ':' need not be asked: `nameOk_of_specHead'`. -/
def pairOk (e : Bytes × Bytes) : Bool := !containsByte CR e.1 && !containsByte CR e.2

theorem hdrWf_mapOf {pairs : List (Bytes × Bytes)} (hc : ∀ e ∈ pairs, ProxyL.NameOk e)
    (hok : pairs.all pairOk = true) : C03L.HdrWf (mapOf pairs) := by
  intro e he
  have hm := mem_mapOf.mp he
  have h1 := List.all_eq_true.mp hok e hm
  simp only [pairOk, Bool.and_eq_true, Bool.not_eq_true', Http.containsByte_eq_false] at h1
  exact ⟨(hc e hm).1, (hc e hm).2, h1.1, h1.2⟩

theorem relayCheck_relayed {code : Int} {reason : Bytes} {pairs : List (Bytes × Bytes)} (body : Bytes)
    (hc : 0 ≤ code) (hr : CR ∉ reason) (hw : C03L.HdrWf (mapOf pairs)) :
    relayCheck (headOut code reason (mapOf pairs) ++ body) code reason body pairs = true :=
  relayCheck_relayed_w body hc (ProxyL.noCRLF_of_CR hr) (ProxyL.hdrW_of_hdrWf hw)

def msg502 (env : Env) : Http.Msg :=
  { start := C09L.errStart 502,
    headers := [(CONTENT_LENGTH, natDigits (C09L.errBody env 502).length), (CONTENT_TYPE, TEXT_HTML)],
    body := C09L.errBody env 502 }

theorem parse_502 (env : Env) : Http.parse (err502 env []) = some (msg502 env) :=
  C09L.parse_errWire env (by decide)

end Qhttp.C13L
