import Qhttp.Lemmas.C14Run
/-
  `start()` again on a copier that has run before (after a `stop()`
  and the firing of the stale 0 ms timer).  No handler reads the log, and without injected device
  faults none reads the call counters: the second run is the run of a fresh copier whose source
  stands where the first run left it, appended to the log of the first.
-/
namespace Qhttp.C14L
open Qhttp Copier

/-- `s` with the log prefixed by `L` and `r` / `w` earlier device calls counted -/
def rebase (L : List Obs) (r w : Nat) (s : St) : St :=
  { s with log := L ++ s.log, reads := r + s.reads, writes := w + s.writes }

theorem noFault_fields {c : Cfg} (h : anyFault c = false) :
    c.srcOpenFails = false ∧ c.dstOpenFails = false ∧ c.seekFails = false ∧
    c.readFailAt = none ∧ c.writeFailAt = none := by
  simp only [anyFault, Bool.or_eq_false_iff] at h
  obtain ⟨⟨⟨⟨h1, h2⟩, h3⟩, h4⟩, h5⟩ := h
  refine ⟨h1, h2, h3, ?_, ?_⟩
  · cases hh : c.readFailAt <;> simp_all
  · cases hh : c.writeFailAt <;> simp_all

theorem destWrite_rebase (c : Cfg) (hw : c.writeFailAt = none) (L : List Obs) (r w : Nat) (s : St)
    (data : Bytes) (n : Int) :
    destWrite c (rebase L r w s) data n = (rebase L r w (destWrite c s data n).1, (destWrite c s data n).2) := by
  rw [destWrite_eq, destWrite_eq]
  simp only [wfail, hw, rebase]
  have : ∀ k : Nat, ((none : Option Nat) == some k) = false := fun _ => rfl
  simp only [this, Bool.or_false]
  by_cases hn : n < 0 <;> simp [hn, List.append_assoc, Nat.add_assoc]

theorem onReadyRead_rebase (c : Cfg) (hw : c.writeFailAt = none) (L : List Obs) (r w : Nat) (s : St) :
    onReadyRead c (rebase L r w s) = rebase L r w (onReadyRead c s) := by
  cases hs : s.stopped
  · have hs' : (rebase L r w s).stopped = false := hs
    rw [onReadyRead_eq c _ hs', onReadyRead_eq c _ hs]
    have : ∀ k : Nat, ((none : Option Nat) == some k) = false := fun _ => rfl
    simp [rebase, hw, this, List.append_assoc, Nat.add_assoc]
    exact ⟨rfl, rfl⟩
  · have hs' : (rebase L r w s).stopped = true := hs
    unfold onReadyRead
    simp only [hs, hs', if_true]

theorem nextBlock_rebase (c : Cfg) (hr : c.readFailAt = none) (hw : c.writeFailAt = none)
    (L : List Obs) (r w : Nat) (s : St) :
    nextBlock c (rebase L r w s) = rebase L r w (nextBlock c s) := by
  cases hs : s.stopped
  · have hs' : (rebase L r w s).stopped = false := hs
    rw [nextBlock_eq c _ hs', nextBlock_eq c _ hs]
    have : ∀ k : Nat, ((none : Option Nat) == some k) = false := fun _ => rfl
    simp only [rebase, hr, hw, this, wfail, Bool.or_false, Bool.false_eq_true, if_false]
    by_cases hn : nbN c s.pos < 0 <;> simp [hn, List.append_assoc, Nat.add_assoc]
    exact ⟨rfl, rfl⟩
  · have hs' : (rebase L r w s).stopped = true := hs
    unfold nextBlock
    simp only [hs, hs', if_true]

theorem step_rebase (c : Cfg) (hnf : anyFault c = false) (L : List Obs) (r w : Nat) (s : St) (e : Ev) :
    step c (rebase L r w s) e = rebase L r w (step c s e) := by
  obtain ⟨_, _, _, hr, hw⟩ := noFault_fields hnf
  cases e with
  | start =>
    show start c (rebase L r w s) = rebase L r w (start c s)
    rw [start_eq, start_eq]
    split <;> simp [rebase, List.append_assoc]
  | turn =>
    simp only [step]
    have hp : (rebase L r w s).pending = s.pending := rfl
    rw [hp]
    cases s.pending with
    | none => rfl
    | nextBlock => exact nextBlock_rebase c hr hw L r w { s with pending := .none }
    | readyRead => exact onReadyRead_rebase c hw L r w { s with pending := .none }
  | stop => simp [step, stop, rebase, List.append_assoc]
  | arrive b =>
    simp only [step]
    have h1 : (rebase L r w s).srcClosed = s.srcClosed := rfl
    rw [h1]
    split
    · rfl
    · by_cases hc : s.connected = true
      · have hc' : (rebase L r w s).connected = true := hc
        rw [if_pos hc', if_pos hc]
        exact onReadyRead_rebase c hw L r w { s with buffered := s.buffered ++ b }
      · have hc' : ¬ (rebase L r w s).connected = true := hc
        rw [if_neg hc', if_neg hc]; rfl
  | eof =>
    simp only [step]
    have h2 : (rebase L r w s).connected = s.connected := rfl
    rw [h2]
    split
    · rfl
    · split
      · unfold onReadChannelFinished
        simp only []
        have h1 : (rebase L r w s).srcClosed = s.srcClosed := rfl
        have h3 : (rebase L r w s).buffered = s.buffered := rfl
        rw [h1, h3]
        split
        · rw [onReadyRead_rebase c hw]; simp [rebase, List.append_assoc]
        · simp [rebase, List.append_assoc]
      · rfl
  | arriveQ b =>
    simp only [step]
    have h1 : (rebase L r w s).srcClosed = s.srcClosed := rfl
    rw [h1]
    split
    · rfl
    · rfl

theorem mk_rebase (L : List Obs) (r w : Nat) (s : St) (k : Nat) :
    mk (rebase L r w s) k = rebase L r w (mk s k) := by
  simp [mk, rebase, List.append_assoc]

theorem runFrom_rebase (c : Cfg) (hnf : anyFault c = false) (L : List Obs) (r w : Nat) :
    ∀ (evs : List Ev) (s : St) (k : Nat),
      runFrom c (rebase L r w s, k) evs = (rebase L r w (runFrom c (s, k) evs).1, (runFrom c (s, k) evs).2) := by
  intro evs
  induction evs with
  | nil => intro s k; rfl
  | cons e evs ih =>
    intro s k
    rw [runFrom_cons, runFrom_cons, mk_rebase, step_rebase c hnf, ih]

theorem rebase_self (s : St) : s = rebase s.log s.reads s.writes { s with log := [], reads := 0, writes := 0 } := by
  obtain ⟨pos, buf, scl, pend, conn, stp, r, w, log⟩ := s
  simp [rebase]

/-- no handler looks at `prePos` (only `run` does, for the initial state) -/
theorem step_prePos (c : Cfg) (q : Nat) (s : St) (e : Ev) : step { c with prePos := q } s e = step c s e := by
  cases e <;> rfl

theorem runFrom_prePos (c : Cfg) (q : Nat) (evs : List Ev) (sk : St × Nat) :
    runFrom { c with prePos := q } sk evs = runFrom c sk evs := by
  have : stepK { c with prePos := q } = stepK c := by
    funext sk e; exact congrArg (·, sk.2 + 1) (step_prePos c q _ e)
  rw [runFrom, this]; rfl

/-- a run only appends to the log, and an event's marker comes first -/
theorem runFrom_cons_log (c : Cfg) (e : Ev) (evs : List Ev) (s : St) (k : Nat) :
    ∃ rest, (runFrom c (s, k) (e :: evs)).1.log = s.log ++ Obs.ev k :: rest := by
  rw [runFrom_cons]
  refine runFrom_inv c (fun _ => True) (fun t => ∃ rest, t.log = s.log ++ Obs.ev k :: rest) ?_
    evs _ (k + 1) (fun _ _ => trivial) ?_
  · intro t j e' _ ⟨rest, ht⟩
    obtain ⟨l0, hl0, _⟩ := step_ext c (mk t j) e'
    exact ⟨rest ++ Obs.ev j :: l0, by rw [hl0]; simp [mk, ht]⟩
  · obtain ⟨l0, hl0, _⟩ := step_ext c (mk s k) e
    exact ⟨l0, by rw [hl0]; simp [mk]⟩

/-- the log of a scenario, cut at the marker of one of its events: what precedes the marker is
    the log of the events before it, and the marker occurs nowhere in that part -/
theorem run_split (c : Cfg) (pre : List Ev) (e : Ev) (post : List Ev) :
    Obs.ev pre.length ∉ (run c pre).log ∧
    ∃ rest, (run c (pre ++ e :: post)).log = (run c pre).log ++ Obs.ev pre.length :: rest := by
  rw [run_append]
  exact ⟨fun h => Nat.lt_irrefl _ (run_minv c pre _ h), runFrom_cons_log c e post _ pre.length⟩

/-- **the second run.**  `start()` on a random-access copier that has run before (events `pre`)
    and whose timer is idle, no injected device fault, then events `r` without `start`/`stop`:
    the log is the log of `pre` followed by the log `s2.log` of a state that satisfies the run
    invariant of a *first* run of the configuration whose source stands where `pre` left it. -/
theorem run_restart (c : Cfg) (hseq : c.seq = false) (hnf : anyFault c = false)
    (pre r : List Ev) (hidle : (run c pre).pending = .none)
    (hr : RangeNF { c with prePos := (run c pre).pos })
    (hrs : ∀ e ∈ r, e ≠ .start ∧ e ≠ .stop) :
    ∃ (s2 : St) (rest : List Obs),
      (run c (pre ++ .start :: r)).log = (run c pre).log ++ s2.log ∧
      (run c (pre ++ .start :: r)).pending = s2.pending ∧
      s2.log = Obs.ev pre.length :: rest ∧
      Obs.ev pre.length ∉ (run c pre).log ∧
      NInv { c with prePos := (run c pre).pos } (nTurns r) s2 := by
  have hmk : Obs.ev pre.length ∉ (run c pre).log := fun h => Nat.lt_irrefl _ (run_minv c pre _ h)
  rw [run_append]
  generalize run c pre = s1 at hidle hr hmk ⊢
  -- the same copier with an empty log and no call counted: fresh for the configuration `c2`
  generalize hs0 : ({ s1 with log := [], reads := 0, writes := 0 } : St) = s0
  have hself : s1 = rebase s1.log s1.reads s1.writes s0 := by rw [← hs0]; exact rebase_self s1
  have hfresh : Fresh { c with prePos := s1.pos } s0 := by
    rw [← hs0]; exact ⟨rfl, hidle, rfl, rfl, rfl, rfl, rfl⟩
  have hinv := (runFrom_start_loop { c with prePos := s1.pos } hseq hr s0 pre.length hfresh r hrs).ninv
  rw [runFrom_prePos] at hinv
  obtain ⟨rest, hrest⟩ := runFrom_cons_log c .start r s0 pre.length
  have hl0 : s0.log = [] := by rw [← hs0]
  rw [hl0, List.nil_append] at hrest
  refine ⟨(runFrom c (s0, pre.length) (.start :: r)).1, rest, ?_, ?_, hrest, hmk, hinv⟩
  · conv => lhs; rw [hself]
    rw [runFrom_rebase c hnf]
    rfl
  · conv => lhs; rw [hself]
    rw [runFrom_rebase c hnf]
    rfl

theorem run_running (c : Cfg) (hseq : c.seq = false) (hnf : anyFault c = false) (hr : RangeNF c)
    (m : Nat) (hm : m = 0 ∨ m * c.block < (wanted c).length) :
    Running c m (run c (.start :: List.replicate m .turn)) :=
  (run_turns_loop c hseq hr m).running hnf hm

/-- stopped, disconnected, timer idle, the source at `p` -/
def Halted (p : Nat) (s : St) : Prop :=
  s.stopped = true ∧ s.connected = false ∧ s.pending = .none ∧ s.pos = p

theorem step_halted (c : Cfg) (p : Nat) (s : St) (k : Nat) (e : Ev) (he : e ≠ .start) (h : Halted p s) :
    Halted p (step c (mk s k) e) := by
  obtain ⟨h1, h2, h3, h4⟩ := h
  by_cases he' : e = .stop
  · subst he'; exact ⟨rfl, rfl, h3, h4⟩
  · obtain ⟨_, a2, a3, a4, a5⟩ := step_inert c (mk s k) e h2 (Or.inl h3) he he'
    exact ⟨a3.trans h1, a2, a5 (Or.inl h3), a4.trans h4⟩

/-- `stop()`, then the event-loop turn in which the stale 0 ms timer fires (and finds the copier
    stopped), then anything but `start`: the timer is idle and the source stands where it stood -/
theorem run_stop_turn (c : Cfg) (pre post : List Ev) (hpost : ∀ e ∈ post, e ≠ .start) :
    (run c (pre ++ .stop :: .turn :: post)).pending = .none ∧
    (run c (pre ++ .stop :: .turn :: post)).pos = (run c pre).pos := by
  rw [run_append, runFrom_cons, runFrom_cons]
  generalize run c pre = s
  obtain ⟨_, a2, a3, a4, a5⟩ := step_inert c (mk (step c (mk s pre.length) .stop) (pre.length + 1)) .turn rfl
    (Or.inr rfl) (fun h => nomatch h) (fun h => nomatch h)
  have := runFrom_inv c _ (Halted s.pos) (step_halted c s.pos) post _ (pre.length + 1 + 1) hpost
    ⟨a3, a2, a5 (Or.inr rfl), a4⟩
  exact ⟨this.2.2.1, this.2.2.2⟩

end Qhttp.C14L
