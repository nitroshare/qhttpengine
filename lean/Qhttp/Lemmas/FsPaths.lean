import Qhttp.Lemmas.FsStack
/-
  Path algebra for C07: `cleanPath`, `storedRoot`, `absoluteFilePath`, `relativeFilePath` in terms
  of segment lists, and from them what `served` returns (the containment argument).
-/
namespace Qhttp
namespace Fs

/-- document roots covered by the theorems: absolute spellings without a `..` segment.  Empty
    segments (repeated or trailing slashes) and `.` segments are allowed: `storedRoot` and
    `cleanPath` normalise them. -/
def CleanAbs (root : Bytes) : Bool := isAbs root && (segs root).all (· != DOTDOT)

/-- the strict class: `/`, or `/name/name/…/name` -/
def StrictCleanAbs (root : Bytes) : Bool :=
  isAbs root && (root == [SLASH] || (segs root).tail.all isName)

def locOf (root : Bytes) : List Bytes := (segs root).filter isName

theorem isAbs_iff {p : Bytes} : isAbs p = true ↔ ∃ xs, p = 47 :: xs := by
  unfold isAbs
  cases p with
  | nil => simp
  | cons c xs =>
    simp only [List.head?_cons, SLASH, beq_iff_eq, Option.some.injEq, List.cons.injEq]
    constructor
    · rintro rfl; exact ⟨xs, rfl, rfl⟩
    · rintro ⟨_, h, _⟩; exact h

theorem strict_cleanAbs {root : Bytes} (h : StrictCleanAbs root = true) : CleanAbs root = true := by
  unfold StrictCleanAbs at h
  unfold CleanAbs
  simp only [Bool.and_eq_true, Bool.or_eq_true] at h ⊢
  refine ⟨h.1, ?_⟩
  obtain ⟨xs, rfl⟩ := isAbs_iff.1 h.1
  rw [segs_cons_slash]
  rcases h.2 with h2 | h2
  · have : xs = [] := by simpa [SLASH] using h2
    subst this; decide
  · rw [segs_cons_slash, List.tail_cons] at h2
    rw [List.all_cons]
    simp only [Bool.and_eq_true]
    refine ⟨by decide, ?_⟩
    rw [List.all_eq_true] at h2 ⊢
    intro s hs
    have := (isName_iff.1 (h2 s hs)).2.2
    simpa using this

theorem locOf_strict {root : Bytes} (h : StrictCleanAbs root = true) :
    locOf root = (segs root).filter (fun s => !s.isEmpty) := by
  unfold StrictCleanAbs at h
  simp only [Bool.and_eq_true, Bool.or_eq_true] at h
  obtain ⟨xs, rfl⟩ := isAbs_iff.1 h.1
  unfold locOf
  rcases h.2 with h2 | h2
  · have : xs = [] := by simpa [SLASH] using h2
    subst this; decide
  · rw [segs_cons_slash, List.tail_cons, List.all_eq_true] at h2
    rw [segs_cons_slash]
    have e1 : isName ([] : Bytes) = false := by decide
    rw [List.filter_cons_of_neg (by simp [e1]), List.filter_cons_of_neg (by simp)]
    apply List.filter_congr
    intro s hs
    have := h2 s hs
    rw [this]
    have := (isName_iff.1 this).1
    cases s with
    | nil => exact absurd rfl this
    | cons c s => rfl

theorem cleanAbs_no_dd {root : Bytes} (h : CleanAbs root = true) : ∀ s ∈ segs root, s ≠ DOTDOT := by
  unfold CleanAbs at h
  simp only [Bool.and_eq_true, List.all_eq_true] at h
  intro s hs
  simpa using h.2 s hs

theorem locOf_isName (root : Bytes) : ∀ s ∈ locOf root, isName s = true := by
  intro s hs
  exact (List.mem_filter.1 hs).2

theorem locOf_no_slash (root : Bytes) : ∀ s ∈ locOf root, (47 : UInt8) ∉ s := by
  intro s hs
  exact segs_no_slash root s (List.mem_filter.1 hs).1

theorem dropLast_append_of_getLast? {α} {l : List α} {a : α} (h : l.getLast? = some a) :
    l.dropLast ++ [a] = l := by
  obtain ⟨ys, rfl⟩ := List.getLast?_eq_some_iff.1 h
  simp

theorem storedRoot_cases (root : Bytes) :
    storedRoot root = root ∨ (root = storedRoot root ++ [47] ∧ storedRoot root ≠ []) := by
  unfold storedRoot
  split
  · rename_i h
    right
    simp only [Bool.and_eq_true, decide_eq_true_eq, beq_iff_eq] at h
    have hne : root ≠ [] := by intro e; subst e; simp at h
    have hl := dropLast_append_of_getLast? (by simpa [SLASH] using h.2 : root.getLast? = some 47)
    refine ⟨hl.symm, ?_⟩
    intro e
    have : root.dropLast.length = 0 := by rw [e]; rfl
    rw [List.length_dropLast] at this
    omega
  · exact .inl rfl

theorem segs_storedRoot (root : Bytes) :
    segs (storedRoot root) = segs root ∨ segs root = segs (storedRoot root) ++ [[]] := by
  rcases storedRoot_cases root with h | ⟨h, _⟩
  · rw [h]; exact .inl rfl
  · right
    conv => lhs; rw [h]
    exact segs_append_single_slash _

theorem locOf_storedRoot (root : Bytes) : locOf (storedRoot root) = locOf root := by
  unfold locOf
  rcases segs_storedRoot root with h | h
  · rw [h]
  · rw [h, List.filter_append]
    simp [show isName ([] : Bytes) = false by decide]

theorem storedRoot_no_dd {root : Bytes} (h : ∀ s ∈ segs root, s ≠ DOTDOT) :
    ∀ s ∈ segs (storedRoot root), s ≠ DOTDOT := by
  intro s hs
  rcases segs_storedRoot root with e | e
  · rw [e] at hs; exact h s hs
  · exact h s (by rw [e]; simp [hs])

theorem storedRoot_isAbs {root : Bytes} (h : isAbs root = true) : isAbs (storedRoot root) = true := by
  rcases storedRoot_cases root with e | ⟨e, hne⟩
  · rw [e]; exact h
  · obtain ⟨xs, hx⟩ := isAbs_iff.1 h
    cases hs : storedRoot root with
    | nil => exact absurd hs hne
    | cons c cs =>
      rw [hs] at e
      rw [hx] at e
      simp only [List.cons_append, List.cons.injEq] at e
      rw [← e.1]; rfl

theorem lexR_storedRoot {root : Bytes} (h : CleanAbs root = true) :
    lexR [] (segs (storedRoot root)) = (locOf root).reverse := by
  rw [lexR_no_dd _ _ (storedRoot_no_dd (cleanAbs_no_dd h)), List.append_nil]
  show (locOf (storedRoot root)).reverse = _
  rw [locOf_storedRoot]

theorem absoluteFilePath_abs (root : Bytes) {fn : Bytes} (h : isAbs fn = true) :
    absoluteFilePath root fn = fn := by
  unfold absoluteFilePath; rw [if_pos h]

/-- the segments of the absolute file path of a non-empty relative request path: segments with
    the root's names (and no `..`), then those of the request path -/
theorem segs_absoluteFilePath {root : Bytes} (hr : CleanAbs root = true) {fn : Bytes}
    (hne : fn ≠ []) (h : isAbs fn = false) :
    ∃ pre, segs (absoluteFilePath root fn) = pre ++ segs fn ∧ (∀ s ∈ pre, s ≠ DOTDOT) ∧
      pre.filter isName = locOf root := by
  have hnd := storedRoot_no_dd (cleanAbs_no_dd hr)
  unfold absoluteFilePath
  rw [if_neg (by simp [h])]
  simp only []
  rw [if_neg (by simpa using hne)]
  split
  · rename_i hl
    have hl' : (storedRoot root).getLast? = some 47 := by simpa [SLASH] using hl
    have e := dropLast_append_of_getLast? hl'
    have hseg : segs (storedRoot root) = segs (storedRoot root).dropLast ++ [[]] := by
      conv => lhs; rw [← e]
      exact segs_append_single_slash _
    have e2 : storedRoot root ++ fn = (storedRoot root).dropLast ++ 47 :: fn := by
      conv => lhs; rw [← e]
      simp
    refine ⟨segs (storedRoot root).dropLast, by rw [e2, segs_append_slash], ?_, ?_⟩
    · intro s hs; exact hnd s (by rw [hseg]; simp [hs])
    · rw [← locOf_storedRoot root]
      unfold locOf
      rw [hseg, List.filter_append]
      simp [show isName ([] : Bytes) = false by decide]
  · have e2 : storedRoot root ++ [SLASH] ++ fn = storedRoot root ++ 47 :: fn := by
      simp [SLASH]
    exact ⟨segs (storedRoot root), by rw [e2, segs_append_slash], hnd, locOf_storedRoot root⟩

theorem lexR_absoluteFilePath {root : Bytes} (hr : CleanAbs root = true) {fn : Bytes}
    (h : isAbs fn = false) :
    lexR [] (segs (absoluteFilePath root fn)) = lexR (locOf root).reverse (segs fn) := by
  by_cases hne : fn = []
  · subst hne
    have : absoluteFilePath root [] = storedRoot root := rfl
    rw [this, segs_nil, lexR_skip (.inl rfl), lexR_nil, lexR_storedRoot hr]
  · obtain ⟨pre, hseg, hdd, hpre⟩ := segs_absoluteFilePath hr hne h
    rw [hseg, lexR_append, lexR_no_dd _ _ hdd, hpre, List.append_nil]

theorem cleanPath_nil : cleanPath [] = [] := rfl

theorem cleanPath_abs {p : Bytes} (h : isAbs p = true) :
    cleanPath p = 47 :: joinSegs (normStack [] (segs p)) := by
  obtain ⟨xs, rfl⟩ := isAbs_iff.1 h
  unfold cleanPath
  rw [if_neg (by simp)]
  simp only []
  rw [if_pos h]
  rfl

theorem cleanPath_rel {p : Bytes} (hne : p ≠ []) (h : isAbs p = false) :
    cleanPath p = if (normStack [] (segs p)).isEmpty then DOT else joinSegs (normStack [] (segs p)) := by
  unfold cleanPath
  rw [if_neg (by simpa using hne)]
  simp only []
  rw [if_neg (by simp [h])]

theorem normStack_segs_elems (p : Bytes) :
    ∀ s ∈ normStack [] (segs p), s ≠ [] ∧ (47 : UInt8) ∉ s := by
  intro s hs
  exact ⟨(NF_ne_nil_of_mem (normStack_nil_NF _) s hs).1,
    normStack_forall [] (segs p) (fun _ h => nomatch h) (segs_no_slash p) s hs⟩

theorem joinSegs_head {l : List Bytes} (h : ∀ s ∈ l, s ≠ [] ∧ (47 : UInt8) ∉ s) :
    isAbs (joinSegs l) = false := by
  cases l with
  | nil => rfl
  | cons x l =>
    have hx := h x (by simp)
    cases x with
    | nil => exact absurd rfl hx.1
    | cons c x =>
      have hc : c ≠ 47 := fun e => hx.2 (by simp [e])
      cases l with
      | nil => rw [joinSegs_single]; simpa [isAbs, SLASH] using hc
      | cons y l => rw [joinSegs_cons _ (by simp)]; simpa [isAbs, SLASH] using hc

theorem nonEmptySegs_joinSegs {l : List Bytes} (h : ∀ s ∈ l, s ≠ [] ∧ (47 : UInt8) ∉ s) :
    (segs (joinSegs l)).filter (fun s => !s.isEmpty) = l := by
  cases l with
  | nil => decide
  | cons x l =>
    rw [segs_joinSegs (by simp) (fun s hs => (h s hs).2)]
    apply List.filter_eq_self.2
    intro s hs
    have := (h s hs).1
    cases s with
    | nil => exact absurd rfl this
    | cons c s => rfl

theorem nonEmptySegs_slash_joinSegs {l : List Bytes} (h : ∀ s ∈ l, s ≠ [] ∧ (47 : UInt8) ∉ s) :
    (segs (47 :: joinSegs l)).filter (fun s => !s.isEmpty) = l := by
  rw [segs_cons_slash, List.filter_cons_of_neg (by simp)]
  exact nonEmptySegs_joinSegs h

theorem cleanPath_rel_isAbs {p : Bytes} (h : isAbs p = false) : isAbs (cleanPath p) = false := by
  by_cases hne : p = []
  · subst hne; rfl
  · rw [cleanPath_rel hne h]
    split
    · decide
    · exact joinSegs_head (normStack_segs_elems p)

theorem cleanPath_storedRoot {root : Bytes} (h : CleanAbs root = true) :
    cleanPath (storedRoot root) = 47 :: joinSegs (locOf root) := by
  have habs : isAbs root = true := by
    unfold CleanAbs at h; simp only [Bool.and_eq_true] at h; exact h.1
  rw [cleanPath_abs (storedRoot_isAbs habs),
    normStack_no_dd _ _ (storedRoot_no_dd (cleanAbs_no_dd h))]
  show 47 :: joinSegs ([] ++ locOf (storedRoot root)) = _
  rw [locOf_storedRoot, List.nil_append]

theorem relativeFilePath_rel (root : Bytes) {fn : Bytes} (h : isAbs fn = false) :
    relativeFilePath root fn = cleanPath fn := by
  unfold relativeFilePath
  simp only []
  rw [if_pos (by simp [cleanPath_rel_isAbs h])]

theorem commonPrefixLen_le (a c : List Bytes) : commonPrefixLen a c ≤ a.length := by
  induction a generalizing c with
  | nil => simp [commonPrefixLen]
  | cons x a ih =>
    cases c with
    | nil => simp [commonPrefixLen]
    | cons y c =>
      simp only [commonPrefixLen]
      split
      · have := ih c; simp; omega
      · simp

theorem prefix_of_commonPrefixLen (a c : List Bytes) (h : commonPrefixLen a c = a.length) :
    a <+: c := by
  induction a generalizing c with
  | nil => exact List.nil_prefix
  | cons x a ih =>
    cases c with
    | nil => simp [commonPrefixLen] at h
    | cons y c =>
      simp only [commonPrefixLen] at h
      split at h
      · rename_i he
        have : x = y := by simpa using he
        subst this
        simp only [List.length_cons, Nat.add_right_cancel_iff] at h
        exact List.prefix_cons_inj x |>.2 (ih c h)
      · simp at h

theorem commonPrefixLen_of_prefix (a c : List Bytes) : commonPrefixLen a (a ++ c) = a.length := by
  induction a with
  | nil => cases c <;> simp [commonPrefixLen]
  | cons x a ih => simp [commonPrefixLen, ih]

theorem startsWith_ups {n : Nat} (hn : 0 < n) (x : Bytes) :
    startsWith DOTDOTSLASH ((List.replicate n (DOTDOT ++ [SLASH])).flatten ++ x) = true := by
  cases n with
  | zero => omega
  | succ n =>
    rw [List.replicate_succ, List.flatten_cons]
    simp [startsWith, DOTDOTSLASH, DOTDOT, SLASH]

theorem relativeFilePath_abs {root : Bytes} (hr : CleanAbs root = true) {fn : Bytes}
    (h : isAbs fn = true) :
    relativeFilePath root fn =
      let st := normStack [] (segs fn)
      let i := commonPrefixLen (locOf root) st
      let res := (List.replicate ((locOf root).length - i) (DOTDOT ++ [SLASH])).flatten ++
                  joinSegs (st.drop i)
      if res.isEmpty then DOT else res := by
  unfold relativeFilePath
  simp only []
  have hfile : cleanPath fn = 47 :: joinSegs (normStack [] (segs fn)) := cleanPath_abs h
  rw [if_neg (by rw [hfile]; simp [isAbs, SLASH])]
  rw [cleanPath_storedRoot hr, hfile]
  rw [nonEmptySegs_slash_joinSegs (normStack_segs_elems fn),
    nonEmptySegs_slash_joinSegs (fun s hs =>
      ⟨(isName_iff.1 (locOf_isName root s hs)).1, locOf_no_slash root s hs⟩)]

/-- an absolute request path passes the `../` test only if the root's names are
    a prefix of the cleaned path's segments -/
theorem prefix_of_abs_accepted {root : Bytes} (hr : CleanAbs root = true) {fn : Bytes}
    (h : isAbs fn = true) (hacc : startsWith DOTDOTSLASH (relativeFilePath root fn) = false) :
    locOf root <+: normStack [] (segs fn) := by
  rw [relativeFilePath_abs hr h] at hacc
  simp only [] at hacc
  apply prefix_of_commonPrefixLen
  have hle := commonPrefixLen_le (locOf root) (normStack [] (segs fn))
  by_cases hlt : commonPrefixLen (locOf root) (normStack [] (segs fn)) < (locOf root).length
  · exfalso
    have hs := startsWith_ups (n := (locOf root).length -
      commonPrefixLen (locOf root) (normStack [] (segs fn))) (by omega)
      (joinSegs ((normStack [] (segs fn)).drop (commonPrefixLen (locOf root) (normStack [] (segs fn)))))
    split at hacc
    · rename_i he
      have he' := List.isEmpty_iff.1 he
      rw [he'] at hs
      exact absurd hs (by decide)
    · rw [hs] at hacc; cases hacc
  · omega

theorem startsWith_ddslash_of_cons {l : List Bytes} (hl : l ≠ []) :
    startsWith DOTDOTSLASH (joinSegs (DOTDOT :: l)) = true := by
  rw [joinSegs_cons _ hl]
  simp [startsWith, DOTDOTSLASH, DOTDOT]

/-- a relative request path that passes both tests has a cleaned segment list without a leading
    `..` -/
theorem rel_accepted_head {fn : Bytes} (h : isAbs fn = false)
    (h1 : startsWith DOTDOTSLASH (cleanPath fn) = false) (h2 : cleanPath fn ≠ DOTDOT) :
    (normStack [] (segs fn)).head? ≠ some DOTDOT := by
  by_cases hne : fn = []
  · subst hne; decide
  · rw [cleanPath_rel hne h] at h1 h2
    intro hh
    cases hst : normStack [] (segs fn) with
    | nil => rw [hst] at hh; simp at hh
    | cons x l =>
      rw [hst] at hh h1 h2
      have : x = DOTDOT := by simpa using hh
      subst this
      simp only [List.isEmpty_cons, Bool.false_eq_true, if_false] at h1 h2
      cases l with
      | nil => exact h2 rfl
      | cons y l => rw [startsWith_ddslash_of_cons (by simp)] at h1; cases h1

theorem served_some_iff (t : Tree) (root path : Bytes) (loc : List Bytes) :
    served t root path = some loc ↔
      resolve t (absoluteFilePath root path) = some loc ∧
      startsWith DOTDOTSLASH (relativeFilePath root path) = false ∧
      relativeFilePath root path ≠ DOTDOT := by
  unfold served
  simp only []
  cases hres : resolve t (absoluteFilePath root path) with
  | none => simp
  | some l =>
    simp only [Option.some.injEq]
    by_cases hc : (startsWith DOTDOTSLASH (relativeFilePath root path) || relativeFilePath root path == DOTDOT) = true
    · rw [if_pos hc]
      simp only [Bool.or_eq_true, beq_iff_eq] at hc
      constructor
      · intro h; cases h
      · rintro ⟨_, h1, h2⟩
        rcases hc with hc | hc
        · rw [hc] at h1; cases h1
        · exact absurd hc h2
    · rw [if_neg hc]
      simp only [Bool.or_eq_true, beq_iff_eq, not_or, Bool.not_eq_true] at hc
      simp only [Option.some.injEq]
      constructor
      · intro h; exact ⟨h, hc.1, hc.2⟩
      · intro h; exact h.1

/-- relative request path: the served location is the root's location followed by the cleaned
    segments of the request path -/
theorem served_rel_eq (t : Tree) {root path : Bytes} (hr : CleanAbs root = true)
    (hp : isAbs path = false) {loc : List Bytes} (h : served t root path = some loc) :
    loc = locOf root ++ normStack [] (segs path) ∧
      (normStack [] (segs path)).head? ≠ some DOTDOT := by
  obtain ⟨hres, h1, h2⟩ := (served_some_iff t root path loc).1 h
  rw [relativeFilePath_rel root hp] at h1 h2
  have hhead := rel_accepted_head hp h1 h2
  refine ⟨?_, hhead⟩
  have := walk_lexR t [] _ loc hres
  rw [this, lexR_absoluteFilePath hr hp]
  have := lexR_of_normStack [] (locOf root).reverse (segs path) (by simp) hhead
  rw [List.nil_append] at this
  rw [this]
  simp

/-- absolute request path: the root's names are a prefix of the cleaned segments, which (unless
    the root is `/`) are the served location -/
theorem served_abs_eq (t : Tree) {root path : Bytes} (hr : CleanAbs root = true)
    (hp : isAbs path = true) {loc : List Bytes} (h : served t root path = some loc) :
    locOf root <+: normStack [] (segs path) ∧ (locOf root ≠ [] → loc = normStack [] (segs path)) := by
  obtain ⟨hres, h1, _⟩ := (served_some_iff t root path loc).1 h
  have hpre := prefix_of_abs_accepted hr hp h1
  refine ⟨hpre, ?_⟩
  intro hne
  rw [absoluteFilePath_abs root hp] at hres
  have hl := walk_lexR t [] _ loc hres
  have hhead : (normStack [] (segs path)).head? ≠ some DOTDOT := by
    obtain ⟨rest, hrest⟩ := hpre
    cases hR : locOf root with
    | nil => exact absurd hR hne
    | cons x xs =>
      rw [← hrest, hR]
      simp only [List.cons_append, List.head?_cons, ne_eq, Option.some.injEq]
      exact (isName_iff.1 (locOf_isName root x (by rw [hR]; simp))).2.2
  have := lexR_of_normStack [] [] (segs path) (by simp) hhead
  rw [hl, List.nil_append] at *
  rw [this]; simp

end Fs
end Qhttp
