import Qhttp.Lemmas.ProxySock
/-
  C12 — the relay invariant of the proxy: whatever the positions of the turns (in particular of
  the turn at which the upstream connection completes) among the client's segments, the bytes
  that reached the upstream server are the request head followed by a prefix of what the socket
  handed out, and what is buffered or in flight is the rest.
-/
namespace Qhttp.ProxyL
open Qhttp Proxy Qhttp.C02

/-- bytes the upstream server received (same function as `C12.upstreamBytes`) -/
def upBytes (obs : List Obs) : Bytes := obs.flatMap fun o => match o with | .misc 20 b => b | _ => []

def countEv (l : List Obs) : Nat := Obs.countP (fun o => match o with | .ev _ => true | _ => false) l

theorem upBytes_append (a b : List Obs) : upBytes (a ++ b) = upBytes a ++ upBytes b := by
  simp [upBytes]

theorem upBytes_quiet (l : List Obs) (h : l.all quiet0 = true) : upBytes l = [] := by
  rw [upBytes, List.flatMap_eq_nil_iff]
  intro o ho
  have hq := List.all_eq_true.mp h o ho
  cases o with
  | misc t b => cases hq
  | _ => rfl

theorem countEv_append (a b : List Obs) : countEv (a ++ b) = countEv a + countEv b := by
  simp [countEv, Obs.countP]

theorem countEv_quiet (l : List Obs) (h : l.all quiet0 = true) : countEv l = 0 := by
  rw [countEv, Obs.countP, List.length_eq_zero_iff, List.filter_eq_nil_iff]
  intro o ho
  have hq := List.all_eq_true.mp h o ho
  cases o with
  | ev k => cases hq
  | _ => exact Bool.false_ne_true

theorem rdsOf_append (a b : List Obs) : rdsOf (a ++ b) = rdsOf a ++ rdsOf b := by
  simp [rdsOf]

theorem reads_eq_rdsOf : ∀ (l : List Obs), Obs.reads l = (rdsOf l).flatten := by
  intro l
  induction l with
  | nil => rfl
  | cons o l ih =>
    cases o with
    | rd b => exact congrArg (b ++ ·) ih
    | _ => exact ih

theorem logs_misc (l : List Obs) (b : Bytes) :
    rdsOf (l ++ [Obs.misc 20 b]) = rdsOf l ∧ upBytes (l ++ [Obs.misc 20 b]) = upBytes l ++ b ∧
    Obs.reads (l ++ [Obs.misc 20 b]) = Obs.reads l := by
  rw [rdsOf_append, upBytes_append, Obs.reads_append]
  exact ⟨List.append_nil _, congrArg (upBytes l ++ ·) (List.append_nil b), List.append_nil _⟩

theorem countHp_mono (a b : List Obs) : Obs.countP Obs.isHp a ≤ Obs.countP Obs.isHp (a ++ b) := by
  rw [Obs.countP_append]; omega

structure LogStep (s0 s1 : Sock) (k : Nat) : Prop where
  ex : ∃ l, s1.log = s0.log ++ Obs.ev k :: l ∧ l.all quiet0 = true

theorem LogStep.upBytes {s0 s1 : Sock} {k : Nat} (h : LogStep s0 s1 k) : upBytes s1.log = upBytes s0.log := by
  obtain ⟨l, e, q⟩ := h.ex
  have : Obs.ev k :: l = [Obs.ev k] ++ l := rfl
  have e0 : ProxyL.upBytes [Obs.ev k] = [] := rfl
  rw [e, this, upBytes_append, upBytes_append, upBytes_quiet l q, e0]; simp

theorem LogStep.countEv {s0 s1 : Sock} {k : Nat} (h : LogStep s0 s1 k) : countEv s1.log = countEv s0.log + 1 := by
  obtain ⟨l, e, q⟩ := h.ex
  have : Obs.ev k :: l = [Obs.ev k] ++ l := rfl
  rw [e, this, countEv_append, countEv_append, countEv_quiet l q]; simp [ProxyL.countEv, Obs.countP]

theorem LogStep.news {s0 s1 : Sock} {k : Nat} (h : LogStep s0 s1 k) :
    ∃ nw, ((rdsOf s1.log).drop (rdsOf s0.log).length).flatten = nw ∧
      Obs.reads s1.log = Obs.reads s0.log ++ nw := by
  obtain ⟨l, e, _⟩ := h.ex
  have : Obs.ev k :: l = [Obs.ev k] ++ l := rfl
  refine ⟨(rdsOf l).flatten, ?_, ?_⟩
  · rw [e, this, rdsOf_append, rdsOf_append, List.drop_left']
    · simp [rdsOf]
    · rfl
  · rw [e, this, Obs.reads_append, Obs.reads_append, reads_eq_rdsOf l]; simp [Obs.reads]

theorem LogStep.countHp {s0 s1 : Sock} {k : Nat} (h : LogStep s0 s1 k) :
    Obs.countP Obs.isHp s0.log ≤ Obs.countP Obs.isHp s1.log := by
  obtain ⟨l, e, _⟩ := h.ex
  rw [e]; exact countHp_mono _ _

/-- the socket fields `upstreamHead` reads -/
def reqSock (rh : Parser.ReqHead) : Sock :=
  { method := rh.method, rawPath := rh.rawPath, reqHeaders := rh.headers }

theorem upstreamHead_congr (c : Cfg) (s : Sock) (rh : Parser.ReqHead)
    (h : s.method = rh.method ∧ s.rawPath = rh.rawPath ∧ s.reqHeaders = rh.headers) :
    upstreamHead c s = upstreamHead c (reqSock rh) := by
  unfold upstreamHead reqSock
  simp only [h.1, h.2.1, h.2.2]

theorem upstreamHead_ne_nil (c : Cfg) (s : Sock) : upstreamHead c s ≠ [] := by
  unfold upstreamHead
  simp [CRLF]

/-- by connection state: nothing upstream before `connected`; while `connecting` the reads wait in
    `buf`; once `connected` the upstream server has the head and a part `d` of the reads, the rest
    is in flight in `toUp` -/
structure Relay (c : Cfg) (rh : Parser.ReqHead) (st : St) : Prop where
  seen : st.seenRd = (rdsOf st.sock.log).length
  fromUp : st.fromUp = []
  upClosing : st.upClosing = false
  connNone : st.conn = .none ↔ st.sock.rs = .headers
  none_ : st.conn = .none → st.buf = [] ∧ st.toUp = [] ∧ st.headersWritten = false ∧ upBytes st.sock.log = []
  connecting : st.conn = .connecting →
    st.toUp = [] ∧ st.headersWritten = false ∧ upBytes st.sock.log = [] ∧ st.buf = Obs.reads st.sock.log
  connected : st.conn = .connected →
    st.buf = [] ∧ st.headersWritten = true ∧
    ∃ d, upBytes st.sock.log = upstreamHead c (reqSock rh) ++ d ∧ d ++ st.toUp = Obs.reads st.sock.log
  notClosed : st.conn ≠ .closed

def routed (hpB : Nat) (st : St) (s1 : Sock) : St := relayReads (afterRoute hpB { st with sock := s1 })

theorem sockEvent_eq (env : Env) (st : St) (e : Event) :
    sockEvent env st e =
      routed (Obs.countP Obs.isHp st.sock.log) st (Sock.stepK env Proxy.app (st.sock, countEv st.sock.log) e).1 := rfl

/-- the connection attempt completes (nothing refuses) and what was written is delivered -/
def connectFlush (c : Cfg) (st : St) : St :=
  let st :=
    if st.conn == .connecting then
      { st with conn := .connected, headersWritten := true,
                toUp := st.toUp ++ upstreamHead c st.sock ++ st.buf, buf := [] }
    else st
  if st.conn == .connected && !st.toUp.isEmpty
  then { st with sock := { st.sock with log := st.sock.log ++ [Obs.misc 20 st.toUp] }, toUp := [] } else st

theorem afterRoute_eq (hpB : Nat) (st : St) :
    afterRoute hpB st = { st with conn :=
      if st.conn == .none && Obs.countP Obs.isHp st.sock.log > hpB then .connecting else st.conn } := by
  unfold afterRoute
  split <;> rfl

theorem relayReads_eq (st : St) :
    relayReads st =
      { st with seenRd := (rdsOf st.sock.log).length,
                toUp := if st.conn != .none && st.headersWritten
                        then st.toUp ++ ((rdsOf st.sock.log).drop st.seenRd).flatten else st.toUp,
                buf := if st.conn != .none && !st.headersWritten
                       then st.buf ++ ((rdsOf st.sock.log).drop st.seenRd).flatten else st.buf } := by
  unfold relayReads
  cases st.conn <;> cases st.headersWritten <;> rfl

/-- the connection state after `afterRoute`: the request is routed when `headersParsed` was emitted -/
def routedConn (hpB : Nat) (st : St) (s1 : Sock) : UpConn :=
  if st.conn == .none && Obs.countP Obs.isHp s1.log > hpB then .connecting else st.conn

theorem routed_eq (hpB : Nat) (st : St) (s1 : Sock) :
    routed hpB st s1 =
      { st with sock := s1, conn := routedConn hpB st s1, seenRd := (rdsOf s1.log).length,
                toUp := if routedConn hpB st s1 != .none && st.headersWritten
                        then st.toUp ++ ((rdsOf s1.log).drop st.seenRd).flatten else st.toUp,
                buf := if routedConn hpB st s1 != .none && !st.headersWritten
                       then st.buf ++ ((rdsOf s1.log).drop st.seenRd).flatten else st.buf } := by
  rw [routed, relayReads_eq, afterRoute_eq]
  rfl

theorem routed_sock (hpB : Nat) (st : St) (s1 : Sock) : (routed hpB st s1).sock = s1 := by
  rw [routed_eq]

theorem routedConn_connected (hpB : Nat) (st : St) (s1 : Sock) :
    routedConn hpB st s1 = .connected ↔ st.conn = .connected := by
  unfold routedConn
  split
  · rename_i h
    have : st.conn = .none := by
      cases hc : st.conn <;> rw [hc] at h <;> first | rfl | cases h
    rw [this]
    exact ⟨fun h => (nomatch h), fun h => (nomatch h)⟩
  · rfl

theorem routed_frame (hpB : Nat) (st : St) (s1 : Sock) :
    (routed hpB st s1).fromUp = st.fromUp ∧ (routed hpB st s1).upClosing = st.upClosing ∧
    (routed hpB st s1).headersParsed = st.headersParsed ∧ (routed hpB st s1).upRead = st.upRead ∧
    ((routed hpB st s1).conn = .connected ↔ st.conn = .connected) := by
  rw [routed_eq]
  exact ⟨rfl, rfl, rfl, rfl, routedConn_connected hpB st s1⟩

theorem connectFlush_conn (c : Cfg) (st : St) :
    (connectFlush c st).conn = if st.conn == .connecting then .connected else st.conn := by
  simp only [connectFlush, apply_ite St.conn, ite_self]

theorem connectFlush_frame (c : Cfg) (st : St) :
    (connectFlush c st).fromUp = st.fromUp ∧ (connectFlush c st).upClosing = st.upClosing ∧
    (connectFlush c st).headersParsed = st.headersParsed ∧ (connectFlush c st).upRead = st.upRead ∧
    (st.conn = .connected → (connectFlush c st).conn = .connected) ∧
    (connectFlush c st).conn ≠ .connecting := by
  refine ⟨?_, ?_, ?_, ?_, fun h => ?_, ?_⟩
  · simp only [connectFlush, apply_ite St.fromUp, ite_self]
  · simp only [connectFlush, apply_ite St.upClosing, ite_self]
  · simp only [connectFlush, apply_ite St.headersParsed, ite_self]
  · simp only [connectFlush, apply_ite St.upRead, ite_self]
  · rw [connectFlush_conn, h]; rfl
  · rw [connectFlush_conn]
    split
    · exact fun h => nomatch h
    · rename_i h; exact fun h' => h (by rw [h']; rfl)

theorem routed_relay {c : Cfg} {rh : Parser.ReqHead} {st : St} {s1 : Sock} {k : Nat}
    (hP : Relay c rh st) (hl : LogStep st.sock s1 k)
    (hp0 : Obs.countP Obs.isHp st.sock.log = if st.sock.rs = .headers then 0 else 1)
    (hp1 : Obs.countP Obs.isHp s1.log = if s1.rs = .headers then 0 else 1)
    (hrd0 : st.sock.rs = .headers → Obs.reads st.sock.log = []) :
    Relay c rh (routed (Obs.countP Obs.isHp st.sock.log) st s1) := by
  obtain ⟨nw, hnw, hreads⟩ := hl.news
  have hub := hl.upBytes
  have hmono := hl.countHp
  have hrs : st.sock.rs ≠ .headers → s1.rs ≠ .headers := by
    intro h0 h1
    rw [hp0, hp1, if_neg h0, if_pos h1] at hmono
    omega
  obtain ⟨sock, conn, buf, hw, hpd, upRead, toUp, fromUp, upClosing, errored, seenRd⟩ := st
  obtain ⟨seen, hfu, huc, hcn, hnone, hcing, hced, hncl⟩ := hP
  simp only at seen hfu huc hcn hnone hcing hced hncl hp0 hrd0 hrs hnw hreads hub hmono
  subst seen
  cases conn with
  | none =>
    have h0 : sock.rs = .headers := hcn.mp rfl
    obtain ⟨b1, b2, b3, b4⟩ := hnone rfl
    subst b1 b2 b3
    rw [if_pos h0] at hp0
    by_cases h1 : s1.rs = .headers
    · rw [if_pos h1] at hp1
      have e : routed (Obs.countP Obs.isHp sock.log)
          ⟨sock, .none, [], false, hpd, upRead, [], fromUp, upClosing, errored, (rdsOf sock.log).length⟩ s1 =
          ⟨s1, .none, [], false, hpd, upRead, [], fromUp, upClosing, errored, (rdsOf s1.log).length⟩ := by
        simp [routed, relayReads, afterRoute, hp0, hp1]
      rw [e]
      exact ⟨rfl, hfu, huc, ⟨fun _ => h1, fun _ => rfl⟩, fun _ => ⟨rfl, rfl, rfl, by rw [hub]; exact b4⟩,
        (fun h => nomatch h), (fun h => nomatch h), by simp⟩
    · rw [if_neg h1] at hp1
      have e : routed (Obs.countP Obs.isHp sock.log)
          ⟨sock, .none, [], false, hpd, upRead, [], fromUp, upClosing, errored, (rdsOf sock.log).length⟩ s1 =
          ⟨s1, .connecting, nw, false, hpd, upRead, [], fromUp, upClosing, errored, (rdsOf s1.log).length⟩ := by
        simp [routed, relayReads, afterRoute, hp0, hp1, hnw]
      rw [e]
      refine ⟨rfl, hfu, huc, ⟨(fun h => nomatch h), fun h => absurd h h1⟩, (fun h => nomatch h),
        fun _ => ⟨rfl, rfl, by rw [hub]; exact b4, ?_⟩, (fun h => nomatch h), by simp⟩
      show nw = Obs.reads s1.log
      rw [hreads, hrd0 h0]; rfl
  | connecting =>
    obtain ⟨b1, b2, b3, b4⟩ := hcing rfl
    subst b1 b2
    have h0 : sock.rs ≠ .headers := fun h => by have := hcn.mpr h; cases this
    have e : routed (Obs.countP Obs.isHp sock.log)
        ⟨sock, .connecting, buf, false, hpd, upRead, [], fromUp, upClosing, errored, (rdsOf sock.log).length⟩ s1 =
        ⟨s1, .connecting, buf ++ nw, false, hpd, upRead, [], fromUp, upClosing, errored, (rdsOf s1.log).length⟩ := by
      simp [routed, relayReads, afterRoute, hnw]
    rw [e]
    refine ⟨rfl, hfu, huc, ⟨(fun h => nomatch h), fun h => absurd h (hrs h0)⟩, (fun h => nomatch h),
      fun _ => ⟨rfl, rfl, by rw [hub]; exact b3, ?_⟩, (fun h => nomatch h), by simp⟩
    show buf ++ nw = Obs.reads s1.log
    rw [hreads, b4]
  | connected =>
    obtain ⟨b1, b2, d, b3, b4⟩ := hced rfl
    subst b1 b2
    have h0 : sock.rs ≠ .headers := fun h => by have := hcn.mpr h; cases this
    have e : routed (Obs.countP Obs.isHp sock.log)
        ⟨sock, .connected, [], true, hpd, upRead, toUp, fromUp, upClosing, errored, (rdsOf sock.log).length⟩ s1 =
        ⟨s1, .connected, [], true, hpd, upRead, toUp ++ nw, fromUp, upClosing, errored, (rdsOf s1.log).length⟩ := by
      simp [routed, relayReads, afterRoute, hnw]
    rw [e]
    refine ⟨rfl, hfu, huc, ⟨(fun h => nomatch h), fun h => absurd h (hrs h0)⟩, (fun h => nomatch h),
      (fun h => nomatch h), fun _ => ⟨rfl, rfl, d, by rw [hub]; exact b3, ?_⟩, by simp⟩
    show d ++ (toUp ++ nw) = Obs.reads s1.log
    rw [hreads, ← b4, List.append_assoc]
  | closed => exact absurd rfl hncl

end Qhttp.ProxyL
