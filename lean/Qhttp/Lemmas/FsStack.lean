import Qhttp.Lemmas.FsSegs
/-
  Path algebra for C07: the lexical walk `lexR` is what the kernel walk `Fs.walk` computes when it
  succeeds, and what the segment stack `normStack` computes when no `..` is left in front; cleaned
  segment lists are a run of `..` followed by names (`NF`).
-/
namespace Qhttp
namespace Fs

/-- purely lexical resolution on a reversed location: `""` and `.` are skipped, `..` pops (the
    empty stack stays empty), names are pushed -/
def lexR : List Bytes → List Bytes → List Bytes
  | cur, [] => cur
  | cur, s :: rest =>
    if s.isEmpty || s == DOT then lexR cur rest
    else if s == DOTDOT then lexR (cur.drop 1) rest
    else lexR (s :: cur) rest

def lexical (loc : List Bytes) (ss : List Bytes) : List Bytes := (lexR loc.reverse ss).reverse

theorem lexR_nil (cur : List Bytes) : lexR cur [] = cur := rfl

theorem lexR_cons (cur : List Bytes) (s : Bytes) (rest : List Bytes) :
    lexR cur (s :: rest) =
      if s.isEmpty || s == DOT then lexR cur rest
      else if s == DOTDOT then lexR (cur.drop 1) rest
      else lexR (s :: cur) rest := by
  rw [lexR.eq_def]

theorem lexR_skip {s : Bytes} (h : s = [] ∨ s = DOT) (cur rest : List Bytes) :
    lexR cur (s :: rest) = lexR cur rest := by
  rw [lexR_cons, if_pos (skip_cond h)]

theorem lexR_name {s : Bytes} (h : isName s = true) (cur rest : List Bytes) :
    lexR cur (s :: rest) = lexR (s :: cur) rest := by
  rw [lexR_cons, (name_cond h).1, (name_cond h).2]; simp

theorem lexR_dd (cur rest : List Bytes) :
    lexR cur (DOTDOT :: rest) = lexR (cur.drop 1) rest := by
  rw [lexR_cons, dd_cond.1, dd_cond.2]; simp

theorem lexR_append (cur a c : List Bytes) : lexR cur (a ++ c) = lexR (lexR cur a) c := by
  induction a generalizing cur with
  | nil => rfl
  | cons s a ih =>
    rw [List.cons_append]
    rcases seg_cases s with h | rfl | h
    · rw [lexR_skip h, lexR_skip h, ih]
    · rw [lexR_dd, lexR_dd, ih]
    · rw [lexR_name h, lexR_name h, ih]

theorem walk_cons (t : Tree) (cur : List Bytes) (s : Bytes) (rest : List Bytes) :
    walk t cur (s :: rest) =
      if s.isEmpty || s == DOT then walk t cur rest
      else if s == DOTDOT then walk t (cur.drop 1) rest
      else
        match kindAt t (s :: cur).reverse with
        | some .dir => walk t (s :: cur) rest
        | some .file => if rest.isEmpty then some (s :: cur).reverse else none
        | none => none := by
  rw [walk.eq_def]; rfl

theorem walk_skip (t : Tree) {s : Bytes} (h : s = [] ∨ s = DOT) (cur rest : List Bytes) :
    walk t cur (s :: rest) = walk t cur rest := by
  rw [walk_cons, if_pos (skip_cond h)]

theorem walk_dd (t : Tree) (cur rest : List Bytes) :
    walk t cur (DOTDOT :: rest) = walk t (cur.drop 1) rest := by
  rw [walk_cons, dd_cond.1, dd_cond.2]; simp

theorem walk_name (t : Tree) {s : Bytes} (h : isName s = true) (cur rest : List Bytes) :
    walk t cur (s :: rest) =
      match kindAt t (s :: cur).reverse with
      | some .dir => walk t (s :: cur) rest
      | some .file => if rest.isEmpty then some (s :: cur).reverse else none
      | none => none := by
  rw [walk_cons, (name_cond h).1, (name_cond h).2]; simp

/-- a successful kernel walk ends where the lexical walk ends -/
theorem walk_lexR (t : Tree) (cur ss loc : List Bytes) (h : walk t cur ss = some loc) :
    loc = (lexR cur ss).reverse := by
  induction ss generalizing cur with
  | nil =>
    simp only [walk, Option.some.injEq] at h
    rw [lexR_nil, h]
  | cons s ss ih =>
    rcases seg_cases s with hs | rfl | hs
    · rw [walk_skip t hs] at h; rw [lexR_skip hs]; exact ih _ h
    · rw [walk_dd] at h; rw [lexR_dd]; exact ih _ h
    · rw [walk_name t hs] at h; rw [lexR_name hs]
      split at h
      · exact ih _ h
      · split at h
        · rename_i he
          have : ss = [] := by simpa using he
          subst this
          simp only [Option.some.injEq] at h
          rw [lexR_nil, h]
        · cases h
      · cases h

theorem walk_lexical (t : Tree) (cur ss loc : List Bytes) (h : walk t cur ss = some loc) :
    loc = lexical cur.reverse ss := by
  rw [lexical, List.reverse_reverse]; exact walk_lexR t cur ss loc h

theorem lexR_no_dd (cur ss : List Bytes) (h : ∀ s ∈ ss, s ≠ DOTDOT) :
    lexR cur ss = (ss.filter isName).reverse ++ cur := by
  induction ss generalizing cur with
  | nil => simp [lexR_nil]
  | cons s ss ih =>
    have h' : ∀ x ∈ ss, x ≠ DOTDOT := fun x hx => h x (by simp [hx])
    rcases seg_cases s with hs | rfl | hs
    · rw [lexR_skip hs, ih _ h']
      have : isName s = false := by
        rcases hs with rfl | rfl <;> decide
      simp [this]
    · exact absurd rfl (h DOTDOT (by simp))
    · rw [lexR_name hs, ih _ h']
      simp [hs]

theorem normStack_no_dd (acc ss : List Bytes) (h : ∀ s ∈ ss, s ≠ DOTDOT) :
    normStack acc ss = acc.reverse ++ ss.filter isName := by
  induction ss generalizing acc with
  | nil => simp [normStack_nil]
  | cons s ss ih =>
    have h' : ∀ x ∈ ss, x ≠ DOTDOT := fun x hx => h x (by simp [hx])
    rcases seg_cases s with hs | rfl | hs
    · rw [normStack_skip hs, ih _ h']
      have : isName s = false := by
        rcases hs with rfl | rfl <;> decide
      simp [this]
    · exact absurd rfl (h DOTDOT (by simp))
    · rw [normStack_name hs, ih _ h']
      simp [hs]

theorem filter_isName_of_all {ss : List Bytes} (h : ∀ s ∈ ss, isName s = true) :
    ss.filter isName = ss := List.filter_eq_self.2 h

/-- a `..` at the bottom of the stack stays there -/
theorem normStack_head_dd (acc ss : List Bytes) (h : acc.getLast? = some DOTDOT) :
    (normStack acc ss).head? = some DOTDOT := by
  induction ss generalizing acc with
  | nil => rw [normStack_nil, List.head?_reverse]; exact h
  | cons s ss ih =>
    rcases seg_cases s with hs | rfl | hs
    · rw [normStack_skip hs]; exact ih _ h
    · cases acc with
      | nil => simp at h
      | cons top below =>
        by_cases ht : top = DOTDOT
        · subst ht
          rw [normStack_dd_dd]
          apply ih
          rw [List.getLast?_cons_cons]; exact h
        · rw [normStack_dd_pop ht]
          apply ih
          cases below with
          | nil => simp at h; exact absurd h ht
          | cons b bs => rw [List.getLast?_cons_cons] at h; exact h
    · rw [normStack_name hs]
      apply ih
      cases acc with
      | nil => simp at h
      | cons a as => rw [List.getLast?_cons_cons]; exact h

/-- when the cleaned segment list does not begin with `..`, every `..` of the
    input cancelled a preceding name, and the lexical walk from any location `cur` pushes exactly
    the cleaned segments on top of it -/
theorem lexR_of_normStack (acc cur ss : List Bytes) (hacc : ∀ x ∈ acc, x ≠ DOTDOT)
    (h : (normStack acc ss).head? ≠ some DOTDOT) :
    lexR (acc ++ cur) ss = (normStack acc ss).reverse ++ cur := by
  induction ss generalizing acc with
  | nil => simp [lexR_nil, normStack_nil]
  | cons s ss ih =>
    rcases seg_cases s with hs | rfl | hs
    · rw [normStack_skip hs] at h ⊢
      rw [lexR_skip hs]; exact ih _ hacc h
    · cases acc with
      | nil =>
        rw [normStack_dd_nil] at h
        exact absurd (normStack_head_dd [DOTDOT] ss rfl) h
      | cons top below =>
        have ht : top ≠ DOTDOT := hacc top (by simp)
        rw [normStack_dd_pop ht] at h ⊢
        rw [lexR_dd]
        exact ih below (fun x hx => hacc x (by simp [hx])) h
    · rw [normStack_name hs] at h ⊢
      rw [lexR_name hs]
      have := ih (s :: acc) (by
        intro x hx
        simp only [List.mem_cons] at hx
        rcases hx with rfl | hx
        · exact (isName_iff.1 hs).2.2
        · exact hacc x hx) h
      simpa using this

/-- a leading run of `..` followed by names only -/
def NF (l : List Bytes) : Prop :=
  ∃ k names, l = List.replicate k DOTDOT ++ names ∧ ∀ s ∈ names, isName s = true

/-- executable version of `NF` -/
def isNF (l : List Bytes) : Bool := (l.dropWhile (· == DOTDOT)).all isName

theorem isNF_of_NF {l : List Bytes} (h : NF l) : isNF l = true := by
  obtain ⟨k, names, rfl, hn⟩ := h
  unfold isNF
  induction k with
  | zero =>
    simp only [List.replicate_zero, List.nil_append]
    cases names with
    | nil => rfl
    | cons n ns =>
      have h1 : (n == DOTDOT) = false := (name_cond (hn n (by simp))).2
      rw [List.dropWhile_cons_of_neg (by simp [h1])]
      exact List.all_eq_true.2 hn
  | succ k ih =>
    rw [List.replicate_succ, List.cons_append, List.dropWhile_cons_of_pos (by simp)]
    exact ih

theorem NF_of_isNF {l : List Bytes} (h : isNF l = true) : NF l := by
  unfold isNF at h
  induction l with
  | nil => exact ⟨0, [], rfl, by simp⟩
  | cons x l ih =>
    by_cases hx : x = DOTDOT
    · subst hx
      rw [List.dropWhile_cons_of_pos (by simp)] at h
      obtain ⟨k, names, rfl, hn⟩ := ih h
      exact ⟨k + 1, names, by simp [List.replicate_succ], hn⟩
    · rw [List.dropWhile_cons_of_neg (by simpa using hx)] at h
      exact ⟨0, x :: l, by simp, List.all_eq_true.1 h⟩

theorem NF_iff {l : List Bytes} : NF l ↔ isNF l = true := ⟨isNF_of_NF, NF_of_isNF⟩

theorem NF_mem {l : List Bytes} (h : NF l) : ∀ s ∈ l, s = DOTDOT ∨ isName s = true := by
  obtain ⟨k, names, rfl, hn⟩ := h
  intro s hs
  rcases List.mem_append.1 hs with hs | hs
  · exact .inl (List.eq_of_mem_replicate hs)
  · exact .inr (hn s hs)

theorem NF_ne_nil_of_mem {l : List Bytes} (h : NF l) : ∀ s ∈ l, s ≠ [] ∧ s ≠ DOT := by
  intro s hs
  rcases NF_mem h s hs with rfl | hn
  · exact ⟨DOTDOT_ne_nil, DOTDOT_ne_DOT⟩
  · exact ⟨(isName_iff.1 hn).1, (isName_iff.1 hn).2.1⟩

/-- the stack invariant of `normStack`: names on top of a run of `..` -/
def StackOK (acc : List Bytes) : Prop :=
  ∃ k names, acc = names ++ List.replicate k DOTDOT ∧ ∀ s ∈ names, isName s = true

theorem normStack_NF (acc ss : List Bytes) (h : StackOK acc) : NF (normStack acc ss) := by
  induction ss generalizing acc with
  | nil =>
    obtain ⟨k, names, rfl, hn⟩ := h
    rw [normStack_nil]
    exact ⟨k, names.reverse, by simp, fun s hs => hn s (List.mem_reverse.1 hs)⟩
  | cons s ss ih =>
    rcases seg_cases s with hs | rfl | hs
    · rw [normStack_skip hs]; exact ih _ h
    · obtain ⟨k, names, rfl, hn⟩ := h
      cases names with
      | nil =>
        cases k with
        | zero =>
          rw [List.replicate_zero, List.append_nil, normStack_dd_nil]
          exact ih _ ⟨1, [], rfl, by simp⟩
        | succ k =>
          rw [List.nil_append, List.replicate_succ, normStack_dd_dd]
          exact ih _ ⟨k + 2, [], by simp [List.replicate_succ], by simp⟩
      | cons n ns =>
        rw [List.cons_append, normStack_dd_pop (isName_iff.1 (hn n (by simp))).2.2]
        exact ih _ ⟨k, ns, rfl, fun s hs => hn s (by simp [hs])⟩
    · rw [normStack_name hs]
      obtain ⟨k, names, rfl, hn⟩ := h
      apply ih
      refine ⟨k, s :: names, rfl, ?_⟩
      intro x hx
      simp only [List.mem_cons] at hx
      rcases hx with rfl | hx
      · exact hs
      · exact hn x hx

theorem normStack_nil_NF (ss : List Bytes) : NF (normStack [] ss) :=
  normStack_NF [] ss ⟨0, [], rfl, by simp⟩

theorem normStack_names (acc names : List Bytes) (hn : ∀ s ∈ names, isName s = true) :
    normStack acc names = acc.reverse ++ names := by
  rw [normStack_no_dd acc names (fun s hs => (isName_iff.1 (hn s hs)).2.2), filter_isName_of_all hn]

theorem normStack_replicate (k j : Nat) (names : List Bytes) (hn : ∀ s ∈ names, isName s = true) :
    normStack (List.replicate k DOTDOT) (List.replicate j DOTDOT ++ names) =
      List.replicate (k + j) DOTDOT ++ names := by
  induction j generalizing k with
  | zero => simp [normStack_names _ _ hn]
  | succ j ih =>
    rw [List.replicate_succ, List.cons_append]
    cases k with
    | zero =>
      rw [List.replicate_zero, normStack_dd_nil]
      have := ih 1
      simp only [List.replicate_succ, List.replicate_zero] at this
      rw [this]
      simp [List.replicate_succ, Nat.add_comm]
    | succ k =>
      rw [List.replicate_succ, normStack_dd_dd]
      have := ih (k + 2)
      simp only [List.replicate_succ] at this
      rw [this]
      have : k + 2 + j = k + 1 + (j + 1) := by omega
      rw [this]

theorem normStack_of_NF {l : List Bytes} (h : NF l) : normStack [] l = l := by
  obtain ⟨k, names, rfl, hn⟩ := h
  have := normStack_replicate 0 k names hn
  simpa using this

theorem normStack_forall {P : Bytes → Prop} (acc ss : List Bytes) (ha : ∀ s ∈ acc, P s)
    (hs : ∀ s ∈ ss, P s) : ∀ s ∈ normStack acc ss, P s := by
  induction ss generalizing acc with
  | nil => intro s h; exact ha s (List.mem_reverse.1 h)
  | cons x ss ih =>
    have hs' : ∀ s ∈ ss, P s := fun s h => hs s (List.mem_cons_of_mem _ h)
    have hx : ∀ s ∈ x :: acc, P s := by
      intro s h
      rcases List.mem_cons.1 h with rfl | h
      · exact hs _ List.mem_cons_self
      · exact ha s h
    rcases seg_cases x with hx' | rfl | hx'
    · rw [normStack_skip hx']; exact ih _ ha hs'
    · cases acc with
      | nil => rw [normStack_dd_nil]; exact ih _ hx hs'
      | cons top below =>
        by_cases ht : top = DOTDOT
        · subst ht; rw [normStack_dd_dd]; exact ih _ hx hs'
        · rw [normStack_dd_pop ht]; exact ih _ (fun s h => ha s (List.mem_cons_of_mem _ h)) hs'
    · rw [normStack_name hx']; exact ih _ hx hs'

end Fs
end Qhttp
