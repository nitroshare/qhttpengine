import Qhttp.Lemmas.BytesLemmas
/-
  `breakOn_append` of `BytesLemmas` for a stream that is a prefix of the final one, and in the
  argument order DESIGN.md quotes.
-/
namespace Qhttp.C02L
open Qhttp

theorem breakOn_append (d : Bytes) : ∀ (xs a r ys : Bytes), breakOn d xs = some (a, r) →
    breakOn d (xs ++ ys) = some (a, r ++ ys) :=
  fun _ _ _ ys => Qhttp.breakOn_append ys

theorem breakOn_prefix (d xs full a r : Bytes) (hp : xs <+: full) (h : breakOn d xs = some (a, r)) :
    ∃ t, full = xs ++ t ∧ breakOn d full = some (a, r ++ t) := by
  obtain ⟨t, rfl⟩ := hp
  exact ⟨t, rfl, Qhttp.breakOn_append t h⟩

end Qhttp.C02L
