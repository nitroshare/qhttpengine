import Qhttp.Lemmas.RouteRun
/-
  The responses of the instrumented handlers read back through the strict reader `Http.parse`.
-/
namespace Qhttp.RouteL
open Qhttp Qhttp.Sock Qhttp.Http

/-- the strict reader on a response head followed by a body -/
theorem parse_headOf {c : Int} (hc : 0 ≤ c) {reason : Bytes} (hr : CR ∉ reason) {hs : HeaderMap}
    (hok : ∀ e ∈ hs, EntryOk e) (body : Bytes) :
    Http.parse (headOf c reason hs ++ body) =
      some { start := Http.HTTP10 ++ intText c ++ [SP] ++ reason, headers := hs, body := body } ∧
    Http.statusLine (Http.HTTP10 ++ intText c ++ [SP] ++ reason) = some { code := c.natAbs, reason := reason } := by
  constructor
  · have hs' : CR ∉ Http.HTTP10 ++ intText c ++ [SP] ++ reason := by
      simp only [List.mem_append, not_or]
      refine ⟨⟨⟨by decide, HB.intText_of_nonneg hc ▸ HB.CR_not_mem_natDigits _⟩, by decide⟩, hr⟩
    have := parse_render (Http.HTTP10 ++ intText c ++ [SP] ++ reason) hs body hs' hok
    rw [← this]
    simp [headOf, Http.HTTP10, List.append_assoc]
  · exact statusLine_intText hc reason

theorem errHeaders_nil (n : Nat) :
    errHeaders [] n = [(CONTENT_LENGTH, natDigits n), (CONTENT_TYPE, TEXT_HTML)] := by
  have h1 : HeaderMap.keyEq CONTENT_LENGTH CONTENT_TYPE = false := by decide
  have h2 : HeaderMap.keyLt CONTENT_LENGTH CONTENT_TYPE = true := by decide
  simp [errHeaders, HeaderMap.insert, HeaderMap.remove, h1, h2]

theorem errHeaders_xmw (v : Bytes) (n : Nat) :
    errHeaders [(RouteScn.X_MW, v)] n =
      [(CONTENT_LENGTH, natDigits n), (CONTENT_TYPE, TEXT_HTML), (RouteScn.X_MW, v)] := by
  have h1 : HeaderMap.keyEq CONTENT_LENGTH CONTENT_TYPE = false := by decide
  have h2 : HeaderMap.keyLt CONTENT_LENGTH CONTENT_TYPE = true := by decide
  have h3 : HeaderMap.keyEq RouteScn.X_MW CONTENT_LENGTH = false := by decide
  have h4 : HeaderMap.keyEq RouteScn.X_MW CONTENT_TYPE = false := by decide
  have h5 : HeaderMap.keyLt RouteScn.X_MW CONTENT_LENGTH = false := by decide
  have h6 : HeaderMap.keyLt RouteScn.X_MW CONTENT_TYPE = false := by decide
  simp [errHeaders, HeaderMap.insert, HeaderMap.remove, h1, h2, h3, h4, h5, h6]

/-- states the facts about the key without the value, so that `decide` closes them -/
theorem entryOk_of {k v : Bytes} (h1 : k ≠ []) (h2 : COLON ∉ k) (h3 : CR ∉ k) (h4 : CR ∉ v) : EntryOk (k, v) :=
  ⟨h1, h2, h3, h4⟩
theorem entryOk_cl (n : Nat) : EntryOk (CONTENT_LENGTH, natDigits n) :=
  entryOk_of (by decide) (by decide) (by decide) (HB.CR_not_mem_natDigits n)
theorem entryOk_ct : EntryOk (CONTENT_TYPE, TEXT_HTML) := entryOk_of (by decide) (by decide) (by decide) (by decide)
theorem entryOk_xmw (n : Nat) : EntryOk (RouteScn.X_MW, natDigits n) :=
  entryOk_of (by decide) (by decide) (by decide) (HB.CR_not_mem_natDigits n)
theorem entryOk_loc {v : Bytes} (h : CR ∉ v) : EntryOk (LOC, v) :=
  entryOk_of (by decide) (by decide) (by decide) h

theorem wire_wObs (b : Bytes) : Obs.wire (wObs b) = b := by
  unfold wObs
  split
  · next h => simp [Obs.wire]; exact (List.isEmpty_iff.1 h)
  · simp [Obs.wire]

theorem wire_mwObs (pre : List (Nat × Bool)) : Obs.wire (pre.map mwObs) = [] := by
  induction pre with
  | nil => rfl
  | cons e l ih => simp only [List.map_cons, Obs.wire, List.flatMap_cons, mwObs] at ih ⊢; simpa using ih

end Qhttp.RouteL
