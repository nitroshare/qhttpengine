import Qhttp.Model.Fs
import Qhttp.Lemmas.BytesLemmas
import Qhttp.Lemmas.SplitChar
/-
  Path algebra for C07: `Fs.segs` (split at '/') by structural recursion, `joinSegs` as its
  inverse, and the one-step equations of the segment stack `normStack`.
-/
namespace Qhttp
namespace Fs

/-- put a byte in front of the first segment -/
def consHead (c : UInt8) : List Bytes → List Bytes
  | [] => [[c]]
  | h :: t => (c :: h) :: t

theorem segs_eq_splitChar (p : Bytes) : segs p = splitChar 47 p := rfl

theorem segs_nil : segs [] = [[]] := by decide

theorem segs_ne_nil (p : Bytes) : segs p ≠ [] := splitChar_ne_nil _ _

theorem segs_cons_slash (xs : Bytes) : segs (47 :: xs) = [] :: segs xs := by
  rw [segs_eq_splitChar, splitChar_eq, breakOn_of_prefix (by simp)]
  rfl

theorem segs_cons_other {c : UInt8} (hc : c ≠ 47) (xs : Bytes) :
    segs (c :: xs) = consHead c (segs xs) := by
  rw [segs_eq_splitChar, segs_eq_splitChar, splitChar_eq, splitChar_eq 47 xs]
  have hnp : ¬ [(47 : UInt8)] <+: c :: xs := by
    intro h
    simp at h
    exact hc h.symm
  rw [breakOn_cons_of_not_prefix hnp]
  cases breakOn [47] xs with
  | none => rfl
  | some p => rfl

/-- structural recursion equation of `segs` -/
theorem segs_cons (c : UInt8) (xs : Bytes) :
    segs (c :: xs) = if c = 47 then [] :: segs xs else consHead c (segs xs) := by
  by_cases hc : c = 47
  · subst hc; simp [segs_cons_slash]
  · simp [hc, segs_cons_other hc]

theorem consHead_append (c : UInt8) {l : List Bytes} (hl : l ≠ []) (m : List Bytes) :
    consHead c (l ++ m) = consHead c l ++ m := by
  cases l with
  | nil => exact absurd rfl hl
  | cons h t => rfl

/-- cutting at a slash -/
theorem segs_append_slash (a b : Bytes) : segs (a ++ 47 :: b) = segs a ++ segs b := by
  induction a with
  | nil => simp [segs_cons_slash, segs_nil]
  | cons c a ih =>
    rw [List.cons_append, segs_cons, segs_cons, ih]
    by_cases hc : c = 47
    · simp [hc]
    · simp only [hc, if_false]
      exact consHead_append c (segs_ne_nil a) _

theorem segs_append_single_slash (a : Bytes) : segs (a ++ [47]) = segs a ++ [[]] := by
  rw [segs_append_slash, segs_nil]

/-- no segment contains a slash -/
theorem segs_no_slash (p : Bytes) : ∀ s ∈ segs p, (47 : UInt8) ∉ s := by
  induction p with
  | nil => simp [segs_nil]
  | cons c p ih =>
    rw [segs_cons]
    by_cases hc : c = 47
    · simp only [hc, if_true]
      intro s hs
      cases hs with
      | head => simp
      | tail _ h => exact ih s h
    · simp only [hc, if_false]
      cases hseg : segs p with
      | nil => exact absurd hseg (segs_ne_nil p)
      | cons h t =>
        rw [hseg] at ih
        intro s hs
        simp only [consHead, List.mem_cons] at hs
        rcases hs with rfl | hs
        · intro hm
          simp only [List.mem_cons] at hm
          rcases hm with hm | hm
          · exact hc hm.symm
          · exact ih h (by simp) hm
        · exact ih s (by simp [hs])

/-- a slash-free string is its own single segment -/
theorem segs_of_no_slash {s : Bytes} (h : (47 : UInt8) ∉ s) : segs s = [s] := by
  induction s with
  | nil => exact segs_nil
  | cons c s ih =>
    have hc : c ≠ 47 := fun e => h (by simp [e])
    rw [segs_cons_other hc, ih (fun hm => h (by simp [hm]))]
    rfl

theorem joinSegs_nil : joinSegs [] = [] := rfl
theorem joinSegs_single (x : Bytes) : joinSegs [x] = x := rfl
theorem joinSegs_cons (x : Bytes) {l : List Bytes} (h : l ≠ []) :
    joinSegs (x :: l) = x ++ 47 :: joinSegs l := by
  unfold joinSegs
  rw [joinWith_cons h]
  simp [SLASH]

/-- joining the segments gives back the path -/
theorem joinSegs_segs (p : Bytes) : joinSegs (segs p) = p := join_splitChar 47 p

/-- splitting a join of slash-free pieces gives back the pieces -/
theorem segs_joinSegs {l : List Bytes} (hne : l ≠ []) (h : ∀ s ∈ l, (47 : UInt8) ∉ s) :
    segs (joinSegs l) = l := by
  induction l with
  | nil => exact absurd rfl hne
  | cons x l ih =>
    cases l with
    | nil => rw [joinSegs_single]; exact segs_of_no_slash (h x (by simp))
    | cons y l =>
      rw [joinSegs_cons x (by simp), segs_append_slash, ih (by simp) (fun s hs => h s (by simp [hs])),
        segs_of_no_slash (h x (by simp))]
      rfl

/-! ### names -/

/-- a real name: not empty, not `.`, not `..` -/
def isName (s : Bytes) : Bool := !s.isEmpty && s != DOT && s != DOTDOT

theorem DOTDOT_ne_nil : DOTDOT ≠ [] := by decide
theorem DOTDOT_ne_DOT : DOTDOT ≠ DOT := by decide
theorem DOTDOT_no_slash : (47 : UInt8) ∉ DOTDOT := by decide

theorem isName_iff {s : Bytes} : isName s = true ↔ s ≠ [] ∧ s ≠ DOT ∧ s ≠ DOTDOT := by
  unfold isName
  cases s with
  | nil => simp
  | cons c s => simp

/-! the three kinds of segment, as the conditions `normStack`, `lexR` and `walk` test -/

theorem skip_cond {s : Bytes} (h : s = [] ∨ s = DOT) : (s.isEmpty || s == DOT) = true := by
  rcases h with rfl | rfl
  · rfl
  · simp

theorem name_cond {s : Bytes} (h : isName s = true) :
    (s.isEmpty || s == DOT) = false ∧ (s == DOTDOT) = false := by
  obtain ⟨h1, h2, h3⟩ := isName_iff.1 h
  constructor
  · cases s with
    | nil => exact absurd rfl h1
    | cons c s => simpa using h2
  · simpa using h3

theorem dd_cond : (DOTDOT.isEmpty || DOTDOT == DOT) = false ∧ (DOTDOT == DOTDOT) = true := by decide

theorem normStack_nil (acc : List Bytes) : normStack acc [] = acc.reverse := rfl

theorem normStack_cons (acc : List Bytes) (s : Bytes) (rest : List Bytes) :
    normStack acc (s :: rest) =
      if s.isEmpty || s == DOT then normStack acc rest
      else if s == DOTDOT then
        (match acc with
         | top :: below => if top == DOTDOT then normStack (s :: acc) rest else normStack below rest
         | [] => normStack [s] rest)
      else normStack (s :: acc) rest := by
  rw [normStack.eq_def]; rfl

theorem normStack_skip {s : Bytes} (h : s = [] ∨ s = DOT) (acc rest : List Bytes) :
    normStack acc (s :: rest) = normStack acc rest := by
  rw [normStack_cons, if_pos (skip_cond h)]

theorem normStack_name {s : Bytes} (h : isName s = true) (acc rest : List Bytes) :
    normStack acc (s :: rest) = normStack (s :: acc) rest := by
  rw [normStack_cons, (name_cond h).1, (name_cond h).2]; simp

theorem normStack_dd_nil (rest : List Bytes) :
    normStack [] (DOTDOT :: rest) = normStack [DOTDOT] rest := by
  rw [normStack_cons]; rfl

theorem normStack_dd_dd (below rest : List Bytes) :
    normStack (DOTDOT :: below) (DOTDOT :: rest) = normStack (DOTDOT :: DOTDOT :: below) rest := by
  rw [normStack_cons]; rfl

theorem normStack_dd_pop {top : Bytes} (h : top ≠ DOTDOT) (below rest : List Bytes) :
    normStack (top :: below) (DOTDOT :: rest) = normStack below rest := by
  rw [normStack_cons]
  have e : (top == DOTDOT) = false := by simpa using h
  simp only [e]
  rfl

/-- every segment is empty, `.`, `..` or a name -/
theorem seg_cases (s : Bytes) : (s = [] ∨ s = DOT) ∨ s = DOTDOT ∨ isName s = true := by
  by_cases h1 : s = []
  · exact .inl (.inl h1)
  · by_cases h2 : s = DOT
    · exact .inl (.inr h2)
    · by_cases h3 : s = DOTDOT
      · exact .inr (.inl h3)
      · exact .inr (.inr (isName_iff.2 ⟨h1, h2, h3⟩))

end Fs
end Qhttp
