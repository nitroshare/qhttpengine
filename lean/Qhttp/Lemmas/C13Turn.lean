import Qhttp.Lemmas.C13Relay
import Qhttp.Lemmas.ProxyRun
/-
  C13: what the events of the proxy model do to a closed socket (`C13.wire_frozen`), with `Proxy.sockEvent`
  and `Proxy.turn` taken in the phases of `ProxyL.sockEvent_eq` and `ProxyL.turn_eq0`; and
  `onUpstreamError` on an open socket (`C13.fault_502_error`, `C13.fault_close`).
-/
namespace Qhttp.C13L
open Qhttp Qhttp.Sock Qhttp.Proxy
open Qhttp.ProxyL (routed countEv turnSock connectFlushR deliverPhase closePhase delPhase)

theorem onReadyRead_shut (env : Env) (a : App) {s : Sock} (hrs : s.rs = .finished) (hd : s.tcp.devOpen = false) :
    onReadyRead env a s = s := by
  simp [onReadyRead, hrs, hd]

theorem frozen_note {w : Bytes} {s : Sock} (h : Frozen w s) {o : Obs} (ho : C03L.quietObs o = true) :
    Frozen w { s with log := s.log ++ [o] } :=
  h.of_eq rfl [o] (C03L.quiet_singleton ho) rfl

theorem frozen_del {w : Bytes} {s : Sock} (h : Frozen w s) :
    Frozen w (if s.delPending then { s with alive := false, delPending := false, log := s.log ++ [Obs.del] }
      else s) := by
  split
  · exact h.of_eq rfl [Obs.del] (C03L.quiet_singleton quiet_del) rfl
  · exact h

/-- the queued initial read finds the request side finished -/
theorem frozen_initRead (env : Env) {w : Bytes} {s : Sock} (h : Frozen w s) :
    Frozen w (if s.initPending then Sock.onReadyRead env app { s with initPending := false } else s) := by
  split
  · rw [onReadyRead_shut env app (s := { s with initPending := false }) h.shut.rs h.shut.dev]
    exact h.same rfl rfl
  · exact h

/-- the socket events of a C13 history -/
def sockEvOk : Event → Bool
  | .feed _ | .ack _ | .ackAll | .turn => true
  | _ => false

theorem frozen_step (env : Env) {w : Bytes} {s : Sock} (h : Frozen w s) {e : Event} (he : sockEvOk e = true) :
    Frozen w (Sock.step env app s e) := by
  cases ha : s.alive
  · rw [step_dead env app e ha]; exact h
  · have hn : ¬ (!s.alive) = true := by rw [ha]; decide
    cases e <;> first | exact Bool.noConfusion he | (unfold Sock.step; rw [if_neg hn]; dsimp only)
    · rw [onReadyRead_shut env app (by exact h.shut.rs) (by exact h.shut.dev)]
      exact h.same rfl rfl
    · exact frozen_ackN env h _
    · exact frozen_ackN env h _
    · exact frozen_del (frozen_initRead env h)

theorem sockEvent_sock (env : Env) (st : St) (e : Event) :
    (sockEvent env st e).sock = (Sock.stepK env app (st.sock, countEv st.sock.log) e).1 := by
  rw [ProxyL.sockEvent_eq, ProxyL.routed_sock]

theorem frozen_sockEvent (env : Env) {w : Bytes} {st : St} (h : Frozen w st.sock) {e : Event}
    (he : sockEvOk e = true) : Frozen w (sockEvent env st e).sock := by
  rw [sockEvent_sock]
  cases ha : st.sock.alive
  · rw [stepK_dead env app _ e ha]; exact h
  · rw [stepK_alive env app _ e ha]; exact frozen_step env (frozen_note h (quiet_ev _)) he

theorem frozen_marker {w : Bytes} {st : St} (h : Frozen w st.sock) : Frozen w (marker st).sock := by
  rw [ProxyL.marker_def]
  split
  · exact frozen_note h (quiet_ev _)
  · exact h

theorem frozen_connectFlushR (env : Env) (c : Cfg) {w : Bytes} {st : St} (h : Frozen w st.sock) :
    Frozen w (connectFlushR env c st).sock := by
  have flush : ∀ {a : St}, Frozen w a.sock →
      Frozen w (if a.conn == .connected && !a.toUp.isEmpty
        then { a with sock := { a.sock with log := a.sock.log ++ [Obs.misc 20 a.toUp] }, toUp := [] } else a).sock := by
    intro a ha
    split
    · exact frozen_note ha (quiet_misc 20 a.toUp)
    · exact ha
  refine flush ?_
  split
  · split
    · exact frozen_onUpstreamError env (st := { st with conn := .closed }) h
    · exact h
  · exact h

theorem frozen_deliverPhase (env : Env) {w : Bytes} {st : St} (h : Frozen w st.sock) :
    Frozen w (deliverPhase env st).sock := by
  unfold deliverPhase
  split
  · exact frozen_deliverAll env st.fromUp (st := { st with fromUp := [] }) h
  · exact h

theorem frozen_closePhase (env : Env) {w : Bytes} {st : St} (h : Frozen w st.sock) :
    Frozen w (closePhase env st).sock := by
  unfold closePhase
  split
  · exact frozen_onUpstreamError env (st := { st with conn := .closed, upClosing := false }) h
  · exact h

theorem frozen_delPhase {w : Bytes} {st : St} (h : Frozen w st.sock) : Frozen w (delPhase st).sock := by
  unfold delPhase
  exact frozen_del h

theorem frozen_turn (env : Env) (c : Cfg) {w : Bytes} {st : St} (h : Frozen w st.sock) :
    Frozen w (Proxy.turn env c st).sock := by
  rw [ProxyL.turn_eq0]
  split
  · exact h
  · refine frozen_delPhase (frozen_closePhase env (frozen_deliverPhase env (frozen_connectFlushR env c ?_)))
    rw [ProxyL.routed_sock]
    exact frozen_initRead env (frozen_note h (quiet_ev _))

/-- the events of a C13 history -/
def pevOk : PEv → Bool
  | .sock e => sockEvOk e
  | _ => true

theorem step_upClose_eq (env : Env) (c : Cfg) (st : St) :
    Proxy.step env c st .upClose =
      if st.conn = .connected then { st with sock := (marker st).sock, upClosing := true }
      else { st with sock := (marker st).sock } := by
  show (if (marker st).conn == .connected then { marker st with upClosing := true } else marker st) = _
  rw [ProxyL.marker_eq st]
  by_cases h : st.conn = .connected
  · rw [if_pos h, if_pos (by simp [h])]
  · rw [if_neg h, if_neg (by simpa using h)]

theorem frozen_pstep (env : Env) (c : Cfg) {w : Bytes} {st : St} (h : Frozen w st.sock) {e : PEv}
    (he : pevOk e = true) : Frozen w (Proxy.step env c st e).sock := by
  cases e with
  | sock e => exact frozen_sockEvent env h he
  | turn => exact frozen_turn env c h
  | up b => rw [ProxyL.step_up_eq]; split <;> exact frozen_marker h
  | upClose => rw [step_upClose_eq]; split <;> exact frozen_marker h

theorem frozen_run (env : Env) (c : Cfg) {w : Bytes} (evs : List PEv) : ∀ {st : St}, Frozen w st.sock →
    (∀ e ∈ evs, pevOk e = true) → Frozen w (evs.foldl (Proxy.step env c) st).sock := by
  induction evs with
  | nil => intro st h _; exact h
  | cons e evs ih =>
    intro st h he
    exact ih (frozen_pstep env c h (he e (by simp))) (fun x hx => he x (by simp [hx]))

theorem onUpstreamError_502 (env : Env) {st : St} (h : WOpen st.sock) (hp : st.headersParsed = false) :
    Frozen (Obs.wire st.sock.log ++ err502 env st.sock.respHeaders) (onUpstreamError env st).sock := by
  unfold onUpstreamError
  rw [if_neg (by rw [hp]; decide)]
  exact frozen_api_err env h 502

theorem onUpstreamError_close (env : Env) {st : St} (h : WOpen st.sock) (hp : st.headersParsed = true) :
    Frozen (Obs.wire st.sock.log) (onUpstreamError env st).sock := by
  unfold onUpstreamError
  rw [if_pos hp]
  exact frozen_api_close env h

end Qhttp.C13L
