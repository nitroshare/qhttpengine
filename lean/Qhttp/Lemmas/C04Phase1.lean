import Qhttp.Lemmas.C04Log
import Qhttp.Lemmas.C04Wire
import Qhttp.Lemmas.SockRun
/-
  Phase 1 of C04: while only arrival events have happened and no blank line has reached
  `readBuffer` the socket is `Fresh`; the read that completes a malformed head answers 400 and
  takes the socket to `Done (W400 env)`.
-/
namespace Qhttp.C04L
open Qhttp Qhttp.Sock

def body400 (env : Env) : Bytes := env.errPage 400 (statusReason 400)

theorem errHead_400 (d : Bytes) :
    C09L.errStart 400 ++ CRLF ++ headerLines (C09L.errHeaders [] d) ++ CRLF = head400 d := by
  have e1 : C09L.errStart 400 = START400 := by decide +kernel
  rw [C09L.errHeaders_nil, e1, ← head400_eq]

def W400 (env : Env) : Bytes := head400 (natDigits (body400 env).length) ++ body400 env

def isEv : Obs → Bool
  | .ev _ => true
  | _ => false

theorem qObs_of_isEv {o : Obs} (h : isEv o = true) : qObs o = true := by
  cases o <;> first | rfl | cases h

theorem all_qObs_of_isEv {l : List Obs} (h : l.all isEv = true) : l.all qObs = true :=
  List.all_eq_true.mpr fun o ho => qObs_of_isEv (List.all_eq_true.mp h o ho)

/-- the head is still arriving: nothing parsed or answered, only event markers in the history, no
    blank line in `readBuffer` yet -/
structure Fresh (s : Sock) : Prop where
  alive : s.alive = true
  rs : s.rs = .headers
  reqH : s.reqHeaders = []
  respH : s.respHeaders = []
  ioOpen : s.ioOpen = true
  devOpen : s.tcp.devOpen = true
  conn : s.tcp.conn = .connected
  delP : s.delPending = false
  log : s.log.all isEv = true
  nobrk : breakOn CRLF2 s.readBuffer = none

/-- the parser or `QUrl` rejects the head (`C01.expect env head = none`, see `C04.malformed_bad`) -/
def BadHead (env : Env) (head : Bytes) : Prop :=
  ∀ rh, Parser.parseRequestHeaders head [] = some rh → env.url rh.rawPath = none

theorem writeError_done (env : Env) (s : Sock) (hresp : s.respHeaders = [])
    (hio : s.ioOpen = true) (hdev : s.tcp.devOpen = true) (hconn : s.tcp.conn = .connected)
    (hlog : s.log.all isEv = true) :
    Done (W400 env) (writeError env s 400 none) := by
  obtain ⟨_, h2, _, _, h1, h3⟩ := C09L.writeError_state env s 400 hio hdev hconn
  refine ⟨h1, h2, ?_⟩
  rw [h3, hresp, errHead_400]
  show LogOK (W400 env) (s.log ++ (Obs.w (head400 (natDigits (body400 env).length)) ::
    ((if (body400 env).isEmpty then [] else [Obs.w (body400 env)]) ++ [Obs.tc])))
  refine ⟨s.log ++ (Obs.w (head400 (natDigits (body400 env).length)) ::
    (if (body400 env).isEmpty then [] else [Obs.w (body400 env)])), [], by simp, ?_, ?_, rfl⟩
  · rw [List.all_append, all_preObs_of_qObs (all_qObs_of_isEv hlog)]
    split <;> rfl
  · rw [Obs.wire_append, Obs.wire_of_not_isW fun o ho => isW_of_qObs (List.all_eq_true.mp (all_qObs_of_isEv hlog) o ho)]
    cases hb : (body400 env).isEmpty
    · simp only [Bool.false_eq_true, if_false, Obs.wire, List.flatMap_cons, List.flatMap_nil,
        List.nil_append, List.append_nil, W400]
    · simp only [if_true, Obs.wire, List.flatMap_cons, List.flatMap_nil, List.nil_append, W400,
        List.isEmpty_iff.mp hb]

theorem Fresh.onReadyRead {s : Sock} (hf : Fresh s) (env : Env) {app : App} (ha : AppQ app)
    (hbad : ∀ h r, breakOn CRLF2 (s.readBuffer ++ s.tcp.inbox) = some (h, r) → BadHead env h) :
    (Fresh (Sock.onReadyRead env app s) ∧
      (Sock.onReadyRead env app s).readBuffer = s.readBuffer ++ s.tcp.inbox ∧
      (Sock.onReadyRead env app s).tcp.inbox = [] ∧
      (Sock.onReadyRead env app s).initPending = s.initPending) ∨
    Done (W400 env) (Sock.onReadyRead env app s) := by
  have hf1 : ∀ (hb : breakOn CRLF2 (s.readBuffer ++ s.tcp.inbox) = none),
      Fresh (pull s) := fun hb =>
    ⟨hf.alive, hf.rs, hf.reqH, hf.respH, hf.ioOpen, hf.devOpen, hf.conn, hf.delP, hf.log, hb⟩
  cases hb : breakOn CRLF2 (s.readBuffer ++ s.tcp.inbox) with
  | none =>
    rw [onReadyRead_headers env app s hf.rs hf.devOpen, readHeaders_none env app (pull s) hb, post_false]
    exact Or.inl ⟨hf1 hb, rfl, rfl, rfl⟩
  | some p =>
    obtain ⟨head, rest⟩ := p
    rw [onReadyRead_headers env app s hf.rs hf.devOpen,
      readHeaders_bad env app (pull s) hb (by rw [show (pull s).reqHeaders = [] from hf.reqH]; exact hbad head rest hb),
      post_false]
    right
    have hd : Done (W400 env) (writeError env (pull s) 400 none) :=
      writeError_done env (pull s) hf.respH hf.ioOpen hf.devOpen hf.conn hf.log
    split
    · exact hd.emitDc_ok env ha
    · exact hd

/-- what `stepK` hands to `step` -/
def marked (sk : Sock × Nat) : Sock := { sk.1 with log := sk.1.log ++ [Obs.ev sk.2] }

@[simp] theorem marked_readBuffer (sk : Sock × Nat) : (marked sk).readBuffer = sk.1.readBuffer := rfl
@[simp] theorem marked_inbox (sk : Sock × Nat) : (marked sk).tcp.inbox = sk.1.tcp.inbox := rfl
@[simp] theorem marked_initPending (sk : Sock × Nat) :
    (marked sk).initPending = sk.1.initPending := rfl

theorem Fresh.marked {sk : Sock × Nat} (hf : Fresh sk.1) : Fresh (marked sk) :=
  ⟨hf.alive, hf.rs, hf.reqH, hf.respH, hf.ioOpen, hf.devOpen, hf.conn, hf.delP,
    by simp [C04L.marked, hf.log, isEv], hf.nobrk⟩

theorem Fresh.update {s : Sock} (hf : Fresh s) (inbox : Bytes) (q : Bool) :
    Fresh { s with tcp := { s.tcp with inbox := inbox }, initPending := q } :=
  ⟨hf.alive, hf.rs, hf.reqH, hf.respH, hf.ioOpen, hf.devOpen, hf.conn, hf.delP, hf.log, hf.nobrk⟩

end Qhttp.C04L
