import Qhttp.Model.Handler
/-
  The single-pass substitution of `Handler::route` (`substituteCaptures` in handler.cpp, `substitute`
  in the model) read as a function of the TOKEN list of the template.  The loops read a template
  by position ("is there a marker at this '%'?", `markerAt`); `tokGo_eq_argScan`: on EVERY string
  these are the tokens of Qt's own scanner (`argScan`, the state machine of `findArgEscapes`).
-/
namespace Qhttp.RouteL
open Qhttp

/-- the tokens the loops of `substituteCaptures` see; `skip` as in `presentGo` / `fillGo` -/
def tokGo : Nat → QStr → List ArgTok
  | _, [] => []
  | skip + 1, _ :: cs => tokGo skip cs
  | 0, c :: cs =>
    match (if c = 37 then markerAt cs else none) with
    | some (len, n) => .esc n ((c :: cs).take len) :: tokGo (len - 1) cs
    | none => .lit c :: tokGo 0 cs

def tokNums : List ArgTok → List Nat
  | [] => []
  | .lit _ :: l => tokNums l
  | .esc n _ :: l => n :: tokNums l

/-- replace the markers for which `f` has a text, keep the others as spelled -/
def fillTok (f : Nat → Option QStr) : List ArgTok → QStr
  | [] => []
  | .lit c :: l => c :: fillTok f l
  | .esc k raw :: l => (match f k with | some a => a | none => raw) ++ fillTok f l

theorem presentGo_eq (s : QStr) : ∀ k, presentGo k s = tokNums (tokGo k s) := by
  induction s with
  | nil => intro k; cases k <;> rfl
  | cons c cs ih =>
    intro k
    cases k with
    | succ k => simpa [presentGo, tokGo] using ih k
    | zero =>
      simp only [presentGo, tokGo]
      split
      · next len n h => simp only [h, tokNums, ih]
      · next h => simp only [h, tokNums, ih]

theorem fillGo_eq (present : List Nat) (caps : List QStr) (s : QStr) :
    ∀ k, fillGo present caps k s = fillTok (fun n => caps[rank present n]?) (tokGo k s) := by
  induction s with
  | nil => intro k; cases k <;> rfl
  | cons c cs ih =>
    intro k
    cases k with
    | succ k => simpa [fillGo, tokGo] using ih k
    | zero =>
      simp only [fillGo, tokGo]
      split
      · next len n h => simp only [h, fillTok, ih]; rfl
      · next h => simp only [h, fillTok, ih]

theorem fillTok_congr {f g : Nat → Option QStr} {toks : List ArgTok}
    (h : ∀ k ∈ tokNums toks, f k = g k) : fillTok f toks = fillTok g toks := by
  induction toks with
  | nil => rfl
  | cons t l ih =>
    cases t with
    | lit c => simp only [fillTok]; rw [ih (fun k hk => h k (by simpa [tokNums] using hk))]
    | esc k raw =>
      simp only [fillTok]
      rw [h k (by simp [tokNums]), ih (fun j hj => h j (by simp [tokNums, hj]))]

theorem digit16_pct : digit16 37 = none := by decide
theorem digit16_L : digit16 76 = none := by decide

theorem tokGo_skip (xs s : QStr) : tokGo xs.length (xs ++ s) = tokGo 0 s := by
  induction xs with
  | nil => rfl
  | cons x xs ih => simpa [tokGo] using ih

theorem tokGo_ne {c : UInt16} (h : c ≠ 37) (s : QStr) : tokGo 0 (c :: s) = .lit c :: tokGo 0 s := by
  simp [tokGo, h]

theorem tokGo_pct_none {s : QStr} (h : markerAt s = none) : tokGo 0 (37 :: s) = .lit 37 :: tokGo 0 s := by
  simp [tokGo, h]

theorem tokGo_pct_some {s : QStr} {len n : Nat} (h : markerAt s = some (len, n)) :
    tokGo 0 (37 :: s) = .esc n ((37 :: s).take len) :: tokGo (len - 1) s := by
  simp [tokGo, h]

theorem digitsAt_none {d : UInt16} (h : digit16 d = none) (r : QStr) : digitsAt (d :: r) = none := by
  simp [digitsAt, h]

theorem markerAt_nondigit {c : UInt16} (hL : c ≠ 76) (hd : digit16 c = none) (r : QStr) :
    markerAt (c :: r) = none := by
  simp [markerAt, hL, digitsAt_none hd]

theorem markerAt_L_nondigit {c : UInt16} (hd : digit16 c = none) (r : QStr) :
    markerAt (76 :: c :: r) = none := by
  simp [markerAt, digitsAt_none hd]

theorem isSome_dval {c : UInt16} (h : (digit16 c).isSome = true) : digit16 c = some (dval c) := by
  obtain ⟨v, hv⟩ := Option.isSome_iff_exists.1 h
  simp [dval, hv]

theorem not_isSome {c : UInt16} (h : ¬ (digit16 c).isSome = true) : digit16 c = none := by
  cases hc : digit16 c with
  | none => rfl
  | some v => simp [hc] at h

theorem digit_ne {c : UInt16} (h : (digit16 c).isSome = true) : c ≠ 37 ∧ c ≠ 76 := by
  constructor <;> (intro e; subst e; revert h; decide)

theorem tokGo_one (loc : Bool) {d : UInt16} (hd : (digit16 d).isSome = true) (s : QStr)
    (hs : ∀ c r, s = c :: r → digit16 c = none) :
    tokGo 0 (rawOf loc [d] ++ s) = .esc (dval d) (rawOf loc [d]) :: tokGo 0 s := by
  have hv := isSome_dval hd
  have hne := digit_ne hd
  have hda : digitsAt (d :: s) = some (1, dval d) := by
    cases s with
    | nil => simp [digitsAt, hv]
    | cons c r => simp [digitsAt, hv, hs c r rfl]
  cases loc with
  | false =>
    have hm : markerAt (d :: s) = some (2, dval d) := by simp [markerAt, hne.2, hda]
    have := tokGo_pct_some hm
    simpa [rawOf, tokGo] using this
  | true =>
    have hm : markerAt (76 :: d :: s) = some (3, dval d) := by simp [markerAt, hda]
    have := tokGo_pct_some hm
    simpa [rawOf, tokGo] using this

theorem tokGo_two (loc : Bool) {d c : UInt16} (hd : (digit16 d).isSome = true)
    (hc : (digit16 c).isSome = true) (s : QStr) :
    tokGo 0 (rawOf loc [d] ++ c :: s) = .esc (10 * dval d + dval c) (rawOf loc [d, c]) :: tokGo 0 s := by
  have hv := isSome_dval hd
  have hw := isSome_dval hc
  have hne := digit_ne hd
  have hda : digitsAt (d :: c :: s) = some (2, 10 * dval d + dval c) := by simp [digitsAt, hv, hw]
  cases loc with
  | false =>
    have hm : markerAt (d :: c :: s) = some (3, 10 * dval d + dval c) := by simp [markerAt, hne.2, hda]
    have := tokGo_pct_some hm
    simpa [rawOf, tokGo] using this
  | true =>
    have hm : markerAt (76 :: d :: c :: s) = some (4, 10 * dval d + dval c) := by simp [markerAt, hda]
    have := tokGo_pct_some hm
    simpa [rawOf, tokGo] using this

/-- from every state of Qt's scanner: what it still produces is what the position-based reading
    produces on the pending units followed by the rest -/
theorem argScan_eq_tokGo (s : QStr) :
    argScan .normal s = tokGo 0 s ∧
    argScan .pct s = tokGo 0 (37 :: s) ∧
    argScan .pctL s = tokGo 0 (37 :: 76 :: s) ∧
    ∀ loc d, (digit16 d).isSome = true → argScan (.d1 loc d) s = tokGo 0 (rawOf loc [d] ++ s) := by
  induction s with
  | nil =>
    refine ⟨rfl, ?_, ?_, ?_⟩
    · rw [tokGo_pct_none (by rfl)]; rfl
    · rw [tokGo_pct_none (by simp [markerAt, digitsAt]), tokGo_ne (by decide)]; rfl
    · intro loc d hd
      have := tokGo_one loc hd [] (by intro c r h; cases h)
      simpa [argScan, tokGo] using this.symm
  | cons c cs ih =>
    obtain ⟨ihN, ihP, ihL, ihD⟩ := ih
    refine ⟨?_, ?_, ?_, ?_⟩
    · -- normal
      by_cases hc : c = 37
      · subst hc; simpa [argScan] using ihP
      · rw [tokGo_ne hc]; simp [argScan, hc, ihN]
    · -- after '%'
      simp only [argScan]
      by_cases hL : c = 76
      · subst hL; simpa using ihL
      · simp only [hL, if_false]
        by_cases hd : (digit16 c).isSome = true
        · simp only [hd, if_true]
          simpa [rawOf] using ihD false c hd
        · simp only [hd]
          have hn := not_isSome hd
          rw [tokGo_pct_none (markerAt_nondigit hL hn cs)]
          by_cases hc : c = 37
          · subst hc; simp [ihP]
          · simp [hc, tokGo_ne hc, ihN]
    · -- after '%L'
      simp only [argScan]
      by_cases hd : (digit16 c).isSome = true
      · simp only [hd, if_true]
        simpa [rawOf] using ihD true c hd
      · simp only [hd]
        have hn := not_isSome hd
        rw [tokGo_pct_none (markerAt_L_nondigit hn cs), tokGo_ne (by decide)]
        by_cases hc : c = 37
        · subst hc; simp [ihP]
        · simp [hc, tokGo_ne hc, ihN]
    · -- after '%'['L'] and one digit
      intro loc d hd
      simp only [argScan]
      by_cases hc : (digit16 c).isSome = true
      · simp only [hc, if_true]
        rw [tokGo_two loc hd hc, ihN]
      · simp only [hc]
        have hn := not_isSome hc
        rw [tokGo_one loc hd (c :: cs) (by intro x r h; cases h; exact hn)]
        by_cases h37 : c = 37
        · subst h37; simp [ihP]
        · simp [h37, tokGo_ne h37, ihN]

/-- **`substituteCaptures` reads a template exactly as `QString::arg` does** -/
theorem tokGo_eq_argScan (s : QStr) : tokGo 0 s = argScan .normal s := (argScan_eq_tokGo s).1.symm

end Qhttp.RouteL
