import Qhttp.Model.LocalAuth
import Qhttp.Lemmas.C17Keys
/-
  C17: the `LocalAuth` state machine and its history specification (`Ghost`).
  What the API history determines about the configuration (is an instance alive, its header name,
  its keys, is the name blocked, is a file there) evolves by the functions `nAlive` … `nPresent`;
  `step`, `gstep` and `C17.walk` (Props/C17.lean) all follow them; `live_step` traces the content of the
  advertised file through `step`.
-/
namespace Qhttp.C17L
open Qhttp LocalAuth

/-- the default header name set by the constructor -/
def DEFHDR : Bytes := lit ['X','-','A','u','t','h','-','T','o','k','e','n']

/-- the advertised file as it must look while an instance is alive -/
def goodFile (keys : List Bytes) : File := { mode := 0o600, keys := keys, hasToken := true }

@[simp] def nAlive (op : Op) (alive : Bool) : Bool :=
  match op with | .create => true | .destroy => false | _ => alive

@[simp] def nHdr (op : Op) (alive : Bool) (hdrName : Bytes) : Bytes :=
  match op with
  | .setHeaderName n => if alive then n else hdrName
  | .create => if alive then hdrName else DEFHDR
  | _ => hdrName

/-- the keys of `data` in memory (written out by every `updateFile()` that can open the file) -/
@[simp] def nKeys (op : Op) (alive : Bool) (keys : List Bytes) : List Bytes :=
  match op with
  | .setData ks => if alive then sortKeys (TOKEN :: ks) else keys
  | .create => if alive then keys else [TOKEN]
  | _ => keys

/-- `block` takes effect only when nothing is at the name; `unblock` always clears; the
    destructor cannot remove a directory -/
@[simp] def nBlocked (op : Op) (blocked present : Bool) : Bool :=
  match op with
  | .block => if blocked || present then blocked else true
  | .unblock => false
  | _ => blocked

/-- is a regular file at the name: `pre` and `updateFile()` (in `create`, `setData`) put one there
    unless the name is blocked; `destroy` removes it whatever happened before -/
@[simp] def nPresent (op : Op) (alive blocked present : Bool) : Bool :=
  match op with
  | .pre _ => if alive || blocked then present else true
  | .create => if alive || blocked then present else true
  | .setData _ => if !alive || blocked then present else true
  | .destroy => if alive then false else present
  | _ => present

/-- the verdict observation a request produces (nothing for the other operations) -/
def verdictOut (s : St) : Op → List Obs
  | .req hdr => if s.alive then [Obs.misc 11 [if admits s hdr then 1 else 0]] else []
  | _ => []

theorem step_alive (s : St) (op : Op) : (step s op).alive = nAlive op s.alive := by
  cases op <;> simp [step, writeFile, nAlive, apply_ite St.alive]

theorem step_hdrName (s : St) (op : Op) : (step s op).hdrName = nHdr op s.alive s.hdrName := by
  cases op <;> simp [step, writeFile, nHdr, apply_ite St.hdrName] <;> cases s.alive <;> rfl

theorem step_inst (s : St) (op : Op) :
    (step s op).inst = (match op with | .create => if s.alive then s.inst else s.inst + 1 | _ => s.inst) := by
  cases op <;> simp [step, writeFile, apply_ite St.inst]

theorem step_blocked (s : St) (op : Op) : (step s op).blocked = nBlocked op s.blocked s.file.isSome := by
  cases op <;> simp [step, writeFile, nBlocked, apply_ite St.blocked]

theorem sortKeys_single (k : Bytes) : sortKeys [k] = [k] := rfl

theorem step_file (s : St) (op : Op) :
    (step s op).file =
      (match op with
       | .pre mode => if s.alive || s.blocked then s.file
                      else some { mode := mode, keys := [lit ['j','u','n','k']], hasToken := false }
       | .create => if s.alive || s.blocked then s.file else some (goodFile [TOKEN])
       | .setData ks => if s.alive && !s.blocked then some (goodFile (sortKeys (TOKEN :: ks))) else s.file
       | .destroy => if s.alive then none else s.file
       | _ => s.file) := by
  cases op <;> simp [step, writeFile, apply_ite St.file, goodFile, sortKeys_token_filter, sortKeys_single] <;>
    cases s.alive <;> cases s.blocked <;> rfl

theorem step_present (s : St) (op : Op) :
    (step s op).file.isSome = nPresent op s.alive s.blocked s.file.isSome := by
  rw [step_file]
  cases hsa : s.alive <;> cases hsb : s.blocked <;> cases op <;> simp [nPresent]

theorem step_log (s : St) (op : Op) :
    (step s op).log = s.log ++ verdictOut s op ++ [snap (step s op)] := by
  -- `snap` does not look at the log: the snapshots that remain on both sides agree by `rfl`
  cases hsa : s.alive <;> cases op <;> simp [step, writeFile, verdictOut, apply_ite St.log, hsa] <;> rfl

theorem snap_good (s : St) (keys : List Bytes) (hb : s.blocked = false) (h : s.file = some (goodFile keys)) :
    snap s = Obs.misc 10 (1 :: 6 :: 0 :: 0 :: 1 :: joinWith [44] keys) := by
  simp [snap, h, hb, goodFile]

theorem snap_misc (s : St) : ∃ d, snap s = Obs.misc 10 d := by
  unfold snap; split
  · exact ⟨_, rfl⟩
  · split <;> exact ⟨_, rfl⟩

theorem snap_none (s : St) (h : s.file = none) : snap s = Obs.misc 10 [] := by
  simp [snap, h]

theorem snap_blocked (s : St) (h : s.blocked = true) : snap s = Obs.misc 10 [] := by
  simp [snap, h]

theorem excl_step {s : St} (hx : s.blocked = true → s.file = none) (op : Op)
    (hb : (step s op).blocked = true) : (step s op).file = none := by
  rw [step_blocked] at hb
  rw [step_file]
  cases op with
  | block =>
    -- `block` on an occupied name does nothing
    cases hsf : s.file with
    | none => rfl
    | some f => exact absurd (hx (by simpa [nBlocked, hsf] using hb)) (by simp [hsf])
  | unblock => cases hb
  | _ =>
    -- the other operations leave the obstacle alone, and none puts a file beside it
    have hsb : s.blocked = true := hb
    simp [hx hsb, hsb]

/-- while an instance is alive its header name is the one the history determines, and a file at the
    name is the advertised one holding the keys the history determines: an `updateFile()` that can
    open the file writes all of `data`, one that cannot leaves no file behind (`hx`) -/
theorem live_step {s : St} {h : Bytes} {k : List Bytes} (hx : s.blocked = true → s.file = none)
    (hl : s.alive = true → h = s.hdrName ∧ (s.file.isSome = true → s.file = some (goodFile k)))
    (op : Op) (ha : (step s op).alive = true) :
    nHdr op s.alive h = (step s op).hdrName ∧
      ((step s op).file.isSome = true → (step s op).file = some (goodFile (nKeys op s.alive k))) := by
  rw [step_alive] at ha
  rw [step_hdrName, step_file]
  cases op with
  | destroy => cases ha
  | create =>
    cases hsa : s.alive with
    | true => simpa [nHdr, nKeys, hsa] using hl hsa
    | false =>
      cases hsb : s.blocked with
      | true => simp [nHdr, nKeys, hx hsb]
      | false => simp [nHdr, nKeys]
  | setData ks =>
    have hsa : s.alive = true := ha
    cases hsb : s.blocked with
    | true => simp [nHdr, nKeys, hsa, hx hsb, (hl hsa).1]
    | false => simp [nHdr, nKeys, hsa, (hl hsa).1]
  | setHeaderName n =>
    have hsa : s.alive = true := ha
    simpa [nHdr, nKeys, hsa] using (hl hsa).2
  | pre m =>
    have hsa : s.alive = true := ha
    simpa [nHdr, nKeys, hsa] using hl hsa
  | umask _ | req _ | block | unblock => exact hl ha

theorem run_append (a c : List Op) : run (a ++ c) = c.foldl step (run a) := by
  simp [run, List.foldl_append]

theorem run_snoc (a : List Op) (op : Op) : run (a ++ [op]) = step (run a) op := by
  simp [run, List.foldl_append]

theorem run_append_cons (a : List Op) (op : Op) (c : List Op) :
    run (a ++ op :: c) = c.foldl step (step (run a) op) := by
  simp [run, List.foldl_append]

theorem alive_foldl {s : St} (h : s.alive = true) (ops : List Op) (hops : ∀ op ∈ ops, op ≠ Op.destroy) :
    (ops.foldl step s).alive = true := by
  induction ops generalizing s with
  | nil => exact h
  | cons op ops ih =>
    refine ih ?_ (fun o ho => hops o (List.mem_cons_of_mem _ ho))
    rw [step_alive]
    cases op with
    | destroy => exact absurd rfl (hops _ (by simp))
    | create => rfl
    | _ => exact h

def emit : St → List Op → List Obs
  | _, [] => []
  | s, op :: ops => verdictOut s op ++ [snap (step s op)] ++ emit (step s op) ops

theorem foldl_log (s : St) (ops : List Op) : (ops.foldl step s).log = s.log ++ emit s ops := by
  induction ops generalizing s with
  | nil => simp [emit]
  | cons op ops ih => simp [List.foldl_cons, ih, step_log, emit, List.append_assoc]

theorem run_log (ops : List Op) : (run ops).log = emit {} ops := by
  have := foldl_log {} ops
  simpa [run] using this

/-- a directory and a file cannot be at the name together; while an instance is alive, a file at
    the name is the advertised one: owner-only, holding `token` plus data keys (it is there unless
    every `updateFile()` of this instance so far failed to open it: see `Agree.file`) -/
def LInv (s : St) : Prop :=
  (s.blocked = true → s.file = none) ∧
  (s.alive = true → s.file = none ∨ ∃ ks, s.file = some (goodFile (sortKeys (TOKEN :: ks))))

theorem LInv_init : LInv {} := ⟨(by intro h; cases h), (by intro h; cases h)⟩

theorem LInv_step {s : St} (h : LInv s) (op : Op) : LInv (step s op) := by
  obtain ⟨hb, hg⟩ := h
  refine ⟨excl_step hb op, fun ha => ?_⟩
  rw [step_alive] at ha
  rw [step_file]
  cases op with
  | create =>
    cases hs : s.alive with
    | true => simpa [hs] using hg hs
    | false =>
      cases hsb : s.blocked with
      | true => left; simp [hb hsb]
      | false => right; exact ⟨[], by simp [sortKeys_single]⟩
  | setData ks =>
    have hs : s.alive = true := ha
    cases hsb : s.blocked with
    | true => simpa [hs, hsb] using hg hs
    | false => right; exact ⟨ks, by simp [hs]⟩
  | destroy => cases ha
  | pre m => have hs : s.alive = true := ha; simpa [hs] using hg hs
  | umask _ | setHeaderName _ | req _ | block | unblock => exact hg ha

theorem LInv_foldl {s : St} (h : LInv s) (ops : List Op) : LInv (ops.foldl step s) := by
  induction ops generalizing s with
  | nil => exact h
  | cons op ops ih => exact ih (LInv_step h op)

/-- what the API history (and the history of the obstacle) says the configuration is -/
structure Ghost where
  alive   : Bool := false
  hdr     : Bytes := DEFHDR           -- argument of the last `setHeaderName` since the last `create`
  data    : List Bytes := []          -- keys of the last `setData` since the last `create`
  removed : Bool := false             -- an instance was destroyed; no `create` and no effective `pre` since
  blocked : Bool := false             -- a directory is at the name: `LocalFile::open()` fails
  present : Bool := false             -- a file is at the name: written by `pre` or by an `updateFile()`
                                      -- that could open it, and not removed by a destructor since
deriving Repr, DecidableEq

def gstep (g : Ghost) : Op → Ghost
  | .create =>
    if g.alive then g
    else { g with alive := true, hdr := DEFHDR, data := [],
                  removed := false, present := g.present || !g.blocked }
  | .setData ks => if g.alive then { g with data := ks, present := g.present || !g.blocked } else g
  | .setHeaderName n => if g.alive then { g with hdr := n } else g
  | .destroy => if g.alive then { g with alive := false, removed := true, present := false } else g
  | .pre _ => if g.alive || g.blocked then g else { g with removed := false, present := true }
  | .block => if g.blocked || g.present then g else { g with blocked := true }
  | .unblock => { g with blocked := false }
  | _ => g

def ghost (ops : List Op) : Ghost := ops.foldl gstep {}

theorem ghost_snoc (a : List Op) (op : Op) : ghost (a ++ [op]) = gstep (ghost a) op := by
  simp [ghost, List.foldl_append]

theorem gstep_alive (g : Ghost) (op : Op) : (gstep g op).alive = nAlive op g.alive := by
  cases hga : g.alive <;> cases op <;> simp [gstep, nAlive, apply_ite Ghost.alive, hga]

theorem gstep_hdr (g : Ghost) (op : Op) : (gstep g op).hdr = nHdr op g.alive g.hdr := by
  cases hga : g.alive <;> cases op <;> simp [gstep, nHdr, apply_ite Ghost.hdr, hga, DEFHDR]

theorem gstep_keys (g : Ghost) (op : Op) :
    sortKeys (TOKEN :: (gstep g op).data) = nKeys op g.alive (sortKeys (TOKEN :: g.data)) := by
  cases hga : g.alive <;> cases op <;> simp [gstep, nKeys, apply_ite Ghost.data, hga, sortKeys_single]

theorem gstep_blocked (g : Ghost) (op : Op) : (gstep g op).blocked = nBlocked op g.blocked g.present := by
  cases op <;> simp [gstep, nBlocked, apply_ite Ghost.blocked]

theorem gstep_present (g : Ghost) (op : Op) :
    (gstep g op).present = nPresent op g.alive g.blocked g.present := by
  cases hga : g.alive <;> cases hgb : g.blocked <;> cases op <;>
    simp [gstep, nPresent, apply_ite Ghost.present, hga, hgb]

/-- after a destructor ran there is neither file nor instance until `create` or an effective `pre`
    resets the flag -/
theorem gstep_removed {g : Ghost} (h : g.removed = true → g.present = false ∧ g.alive = false) (op : Op)
    (hr : (gstep g op).removed = true) : (gstep g op).present = false ∧ (gstep g op).alive = false := by
  cases hga : g.alive with
  | false =>
    cases op with
    | create => simp [gstep, hga] at hr
    | pre m =>
      cases hgb : g.blocked with
      | true => simpa [gstep, hga, hgb] using h (by simpa [gstep, hga, hgb] using hr)
      | false => simp [gstep, hga, hgb] at hr
    | block =>
      have hr' : g.removed = true := by
        simp only [gstep] at hr; split at hr <;> exact hr
      simp only [gstep]; split <;> exact h hr'
    | unblock | umask _ | req _ => exact h hr
    | setData _ | setHeaderName _ | destroy => simpa [gstep, hga] using h (by simpa [gstep, hga] using hr)
  | true =>
    -- a live instance: the flag is not set, and only `destroy` sets it
    have hgr : g.removed = false := by
      cases hgr : g.removed with
      | false => rfl
      | true => rw [(h hgr).2] at hga; cases hga
    cases op with
    | destroy => simp [gstep, hga]
    | block =>
      have : g.removed = true := by simp only [gstep] at hr; split at hr <;> exact hr
      rw [hgr] at this; cases this
    | _ => simp [gstep, hga, hgr] at hr

structure Agree (s : St) (g : Ghost) : Prop where
  alive   : s.alive = g.alive
  blocked : s.blocked = g.blocked
  present : s.file.isSome = g.present
  excl    : g.blocked = true → g.present = false
  hdr     : g.alive = true → s.hdrName = g.hdr
  file    : g.alive = true → g.present = true → s.file = some (goodFile (sortKeys (TOKEN :: g.data)))
  removed : g.removed = true → s.file = none ∧ g.alive = false

theorem free_of_present {b p : Bool} (hx : b = true → p = false) (hp : p = true) : b = false := by
  cases b with
  | false => rfl
  | true => rw [hx rfl] at hp; cases hp

theorem Agree_init : Agree {} {} :=
  ⟨rfl, rfl, rfl, (by intro h; cases h), (by intro h; cases h), (by intro h; cases h), (by intro h; cases h)⟩

theorem Agree_step {s : St} {g : Ghost} (h : Agree s g) (op : Op) : Agree (step s op) (gstep g op) := by
  have ha : (step s op).alive = (gstep g op).alive := by rw [step_alive, gstep_alive, h.alive]
  have hb : (step s op).blocked = (gstep g op).blocked := by
    rw [step_blocked, gstep_blocked, h.blocked, h.present]
  have hp : (step s op).file.isSome = (gstep g op).present := by
    rw [step_present, gstep_present, h.alive, h.blocked, h.present]
  have none_iff : ∀ {t : St} {b : Bool}, t.file.isSome = b → (t.file = none ↔ b = false) := by
    intro t b e; rw [← e]; cases t.file <;> simp
  have hx : s.blocked = true → s.file = none :=
    fun hsb => (none_iff h.present).2 (h.excl (h.blocked ▸ hsb))
  have hl := live_step (h := g.hdr) (k := sortKeys (TOKEN :: g.data)) hx
    (fun hsa => ⟨(h.hdr (h.alive ▸ hsa)).symm, fun hs => h.file (h.alive ▸ hsa) (h.present ▸ hs)⟩) op
  rw [ha, hp, h.alive, ← gstep_hdr, ← gstep_keys] at hl
  refine ⟨ha, hb, hp, ?_, ?_, ?_, ?_⟩
  · intro hgb; exact (none_iff hp).1 (excl_step hx op (hb ▸ hgb))
  · intro hga; exact (hl hga).1.symm
  · intro hga hgp; exact (hl hga).2 hgp
  · intro hr
    have := gstep_removed (fun hgr => ⟨(none_iff h.present).1 (h.removed hgr).1, (h.removed hgr).2⟩) op hr
    exact ⟨(none_iff hp).2 this.1, this.2⟩

theorem Agree_run (ops : List Op) : Agree (run ops) (ghost ops) := by
  suffices ∀ (ops : List Op) (s : St) (g : Ghost), Agree s g → Agree (ops.foldl step s) (ops.foldl gstep g) from
    this ops {} {} Agree_init
  intro ops
  induction ops with
  | nil => intro s g h; exact h
  | cons op ops ih => intro s g h; exact ih _ _ (Agree_step h op)

def lastData (d : List Bytes) : List Op → List Bytes
  | [] => d
  | .setData ks :: ops => lastData ks ops
  | _ :: ops => lastData d ops

def lastHdr (h : Bytes) : List Op → Bytes
  | [] => h
  | .setHeaderName n :: ops => lastHdr n ops
  | _ :: ops => lastHdr h ops

/-- once the file of a live instance is there, it stays until `destroy` (`block` cannot take
    effect: the name is occupied by the file) -/
theorem gstep_alive_tail (g : Ghost) (ha : g.alive = true) (hp : g.present = true) (hb : g.blocked = false)
    (post : List Op) (hpost : ∀ op ∈ post, op ≠ Op.destroy) :
    post.foldl gstep g = { g with hdr := lastHdr g.hdr post, data := lastData g.data post } := by
  induction post generalizing g with
  | nil => rfl
  | cons op post ih =>
    have hp' : ∀ op ∈ post, op ≠ Op.destroy := fun o ho => hpost o (List.mem_cons_of_mem _ ho)
    obtain ⟨ga, gh, gd, gr, gb, gp⟩ := g
    simp only at ha hp hb; subst ha hp hb
    -- on such a ghost every operation evaluates; what is left is the statement for the tail
    cases op with
    | destroy => exact absurd rfl (hpost _ (by simp))
    | _ => exact ih _ rfl rfl rfl hp'

/-- after a destructor ran, nothing but `create` / `pre` brings a file or an instance back
    (`block` / `unblock` only move the obstacle) -/
theorem gstep_dead_tail (g : Ghost) (ha : g.alive = false) (hr : g.removed = true) (post : List Op)
    (hp : ∀ op ∈ post, op ≠ Op.create ∧ ∀ m, op ≠ Op.pre m) :
    (post.foldl gstep g).alive = false ∧ (post.foldl gstep g).removed = true := by
  induction post generalizing g with
  | nil => exact ⟨ha, hr⟩
  | cons op post ih =>
    have hp' : ∀ op ∈ post, op ≠ Op.create ∧ ∀ m, op ≠ Op.pre m :=
      fun o ho => hp o (List.mem_cons_of_mem _ ho)
    have hop := hp op (by simp)
    rw [List.foldl_cons]
    have : (gstep g op).alive = false ∧ (gstep g op).removed = true := by
      cases op with
      | create => exact absurd rfl hop.1
      | pre m => exact absurd rfl (hop.2 m)
      | block => simp only [gstep]; split <;> simp [ha, hr]
      | _ => simp [gstep, ha, hr]
    exact ih _ this.1 this.2 hp'

end Qhttp.C17L
