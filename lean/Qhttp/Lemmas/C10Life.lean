import Qhttp.Lemmas.C10Sock
import Qhttp.Lemmas.ObsLog
/-
  C10: the composed models (`FsHandler`, `Life`) extend the socket state the same way;
  what an event-loop turn and the Server glue (`afterEvent`) do on top of it.
-/
namespace Qhttp.C10L
open Qhttp Qhttp.Sock

theorem dc_of_same_count {s s' : Sock} (hl : ∃ t, s'.log = s.log ++ t)
    (hc : Life.dcCount s' = Life.dcCount s) (h : Obs.dc ∈ s'.log) : Obs.dc ∈ s.log := by
  obtain ⟨t, e⟩ := hl
  unfold Life.dcCount at hc
  rw [e, Obs.countP_append] at hc
  rw [e, List.mem_append] at h
  rcases h with h | h
  · exact h
  · have : 0 < Obs.countP Obs.isDc t := Obs.countP_pos.mpr ⟨_, h, rfl⟩
    omega

/-- `Ext` weakened to whole events, event-loop turn and Server destruction included: the object
    may be destroyed (`al`: not resurrected), a scheduled deletion consumed; `df`: `dcFlag` stays clear -/
structure Evo (s s' : Sock) : Prop where
  al : s'.alive = true → s.alive = true
  cc : s.closeCalled = true → s'.closeCalled = true
  lg : ∃ t, s'.log = s.log ++ t
  un : U s → U s'
  df : s.dcFlag = false → s'.dcFlag = false

theorem Evo.refl (s : Sock) : Evo s s := ⟨id, id, ⟨[], by simp⟩, id, id⟩

theorem Evo.trans {a b c : Sock} (h1 : Evo a b) (h2 : Evo b c) : Evo a c := by
  obtain ⟨t1, e1⟩ := h1.lg
  obtain ⟨t2, e2⟩ := h2.lg
  exact ⟨fun h => h1.al (h2.al h), fun h => h2.cc (h1.cc h),
    ⟨t1 ++ t2, by rw [e2, e1, List.append_assoc]⟩,
    fun h => h2.un (h1.un h), fun h => h2.df (h1.df h)⟩

theorem ExtE.evo {s s' : Sock} (h : ExtE s s') : Evo s s' :=
  ⟨fun h' => by rw [← h.1.al]; exact h', h.1.cc, h.1.lg, h.1.un, h.2⟩

theorem Evo.mem {s s' : Sock} (h : Evo s s') {o : Obs} (ho : o ∈ s.log) : o ∈ s'.log := by
  obtain ⟨t, e⟩ := h.lg
  rw [e]; exact List.mem_append_left _ ho

theorem Evo.flags {s s' : Sock} (t : List Obs) (h1 : s'.alive = true → s.alive = true)
    (h3 : s'.closeCalled = s.closeCalled)
    (h4 : s'.log = s.log ++ t) (h5 : s'.tcp.conn = s.tcp.conn) (h6 : s'.dcFlag = s.dcFlag) :
    Evo s s' :=
  ⟨h1, fun h => by rw [h3]; exact h, ⟨t, h4⟩, fun hu => hu.grow t h4 h5 h6,
    fun h => by rw [h6]; exact h⟩

theorem reap_evo (s : Sock) : Evo s (reap s) := by
  unfold reap
  split
  · exact Evo.flags [Obs.del] (fun h => by simp at h) rfl rfl rfl rfl
  · exact Evo.refl s

theorem reap_alive {s : Sock} (h : (reap s).alive = true) :
    s.delPending = false ∧ reap s = s := by
  unfold reap at h ⊢
  split at h
  · simp at h
  · rename_i hd
    simp [hd]

theorem reap_dead {s : Sock} (h : s.delPending = true) : (reap s).alive = false := by
  unfold reap; simp [h]

theorem relay_extE (env : Env) (app : App) (l : List Obs) (s : Sock) :
    ExtE s (FsHandler.relay env app s l) := by
  fun_induction FsHandler.relay env app s l with
  | case1 s => exact ExtE.refl s
  | case2 s b rest ih => exact (api_extE env app s _).trans ih
  | case3 s d rest ih => exact (api_extE env app s _).trans ih
  | case4 s o rest h1 h2 ih => exact ih

theorem afterRoute_sock (fe : FsHandler.FsEnv) (n : Nat) (st : FsHandler.St) :
    (FsHandler.afterRoute fe n st).sock = st.sock := by
  unfold FsHandler.afterRoute
  split
  · split <;> rfl
  · rfl

/-- the number the next event marker carries -/
def evCount (s : Sock) : Nat :=
  Obs.countP (fun o => match o with | .ev _ => true | _ => false) s.log

theorem fsStep_eq (env : Env) (fe : FsHandler.FsEnv) (st : FsHandler.St) (e : Event)
    (he : e ≠ .turn) :
    FsHandler.step env fe st e = FsHandler.afterRoute fe (Obs.countP Obs.isHp st.sock.log)
      { st with sock := (Sock.stepK env (FsHandler.app fe) (st.sock, evCount st.sock) e).1 } := by
  unfold FsHandler.step
  split
  · exact absurd rfl he
  · rfl

theorem fsStep_extE (env : Env) (fe : FsHandler.FsEnv) (st : FsHandler.St) (e : Event)
    (he : e ≠ .turn) : ExtE st.sock (FsHandler.step env fe st e).sock := by
  rw [fsStep_eq env fe st e he, afterRoute_sock]
  exact stepK_extE env _ st.sock _ e he

theorem fsStep_dead (env : Env) (fe : FsHandler.FsEnv) (st : FsHandler.St) (e : Event)
    (h : st.sock.alive = false) : FsHandler.step env fe st e = st := by
  by_cases he : e = .turn
  · subst he
    show FsHandler.turn env fe st = st
    unfold FsHandler.turn
    simp [h]
  · rw [fsStep_eq env fe st e he, stepK_dead env _ _ e h]
    unfold FsHandler.afterRoute
    simp

def turnCop (env : Env) (a : App) (st : FsHandler.St) : FsHandler.St :=
  match st.cop with
  | some (cfg, cs) =>
    { st with sock := FsHandler.relay env a st.sock
                        ((Copier.step cfg cs .turn).log.drop cs.log.length),
              cop := some (cfg, Copier.step cfg cs .turn) }
  | none => st

theorem turnCop_extE (env : Env) (a : App) (st : FsHandler.St) :
    ExtE st.sock (turnCop env a st).sock := by
  unfold turnCop
  split
  · exact relay_extE env a _ _
  · exact ExtE.refl _

/-- an event-loop turn of the handler before deferred deletion: marker, posted initial read,
    routing, the copier's pending call -/
def turnWork (env : Env) (fe : FsHandler.FsEnv) (st : FsHandler.St) : FsHandler.St :=
  turnCop env (FsHandler.app fe) (FsHandler.afterRoute fe (Obs.countP Obs.isHp st.sock.log)
    { st with sock := initRead env (FsHandler.app fe)
                        { st.sock with log := st.sock.log ++ [Obs.ev (evCount st.sock)] } })

theorem fsTurn_eq (env : Env) (fe : FsHandler.FsEnv) (st : FsHandler.St)
    (ha : st.sock.alive = true) :
    FsHandler.turn env fe st =
      { turnWork env fe st with sock := reap (turnWork env fe st).sock } := by
  unfold FsHandler.turn
  rw [if_neg (by simp [ha])]
  rfl

theorem turnWork_extE (env : Env) (fe : FsHandler.FsEnv) (st : FsHandler.St) :
    ExtE st.sock (turnWork env fe st).sock := by
  refine ExtE.trans ?_ (turnCop_extE env _ _)
  rw [afterRoute_sock]
  refine ExtE.trans ?_ (initRead_extE env _ _)
  exact ExtE.grow [_] rfl rfl id rfl rfl rfl

/-- the Server's `disconnected -> deleteLater` connection (`Life.afterEvent`), made for every socket.
    `Sock.emitDc` models another one, which `Socket::close` makes on the socket itself: that one
    schedules the deletion only after `close` -/
def setDel (s : Sock) : Sock := { s with delPending := true }

theorem setDel_evo (s : Sock) : Evo s (setDel s) := Evo.flags [] id rfl (by simp [setDel]) rfl rfl

def copFinished (cs : Copier.St) : Bool :=
  cs.log.any fun o => match o with | .misc 2 _ => true | _ => false

theorem afterEvent_idle (env : Env) (fe : FsHandler.FsEnv) (n : Nat) (st : Life.St)
    (h : st.fs.sock.alive = false ∨ Life.dcCount st.fs.sock = n) :
    Life.afterEvent env fe n st = st := by
  unfold Life.afterEvent
  rcases h with h | h <;> simp [h]

theorem afterEvent_fire (env : Env) (fe : FsHandler.FsEnv) (n : Nat) (st : Life.St)
    (ha : st.fs.sock.alive = true) (hn : Life.dcCount st.fs.sock ≠ n) :
    Life.afterEvent env fe n st =
      match st.fs.cop with
      | some (cfg, cs) =>
        if copFinished cs || st.stopped then { st with fs := { st.fs with sock := setDel st.fs.sock } }
        else { st with fs := { st.fs with sock := api env (FsHandler.app fe) (setDel st.fs.sock) .close,
                                          cop := some (cfg, Copier.stop cs) },
                       stopped := true }
      | none => { st with fs := { st.fs with sock := setDel st.fs.sock } } := by
  unfold Life.afterEvent
  dsimp only
  rw [if_neg (by simp [ha, hn])]
  rfl

/-- the three outcomes of the Server glue: nothing to do; deletion scheduled; deletion scheduled
    and the copy stopped -/
theorem afterEvent_cases (env : Env) (fe : FsHandler.FsEnv) (n : Nat) (st : Life.St)
    {P : Life.St → Prop}
    (idle : st.fs.sock.alive = false ∨ Life.dcCount st.fs.sock = n → P st)
    (del : st.fs.sock.alive = true → Life.dcCount st.fs.sock ≠ n →
      P { st with fs := { st.fs with sock := setDel st.fs.sock } })
    (stop : ∀ cfg cs, st.fs.sock.alive = true → Life.dcCount st.fs.sock ≠ n →
      st.fs.cop = some (cfg, cs) → copFinished cs = false → st.stopped = false →
      P { st with fs := { st.fs with sock := api env (FsHandler.app fe) (setDel st.fs.sock) .close,
                                     cop := some (cfg, Copier.stop cs) },
                  stopped := true }) :
    P (Life.afterEvent env fe n st) := by
  by_cases hi : st.fs.sock.alive = false ∨ Life.dcCount st.fs.sock = n
  · rw [afterEvent_idle env fe n st hi]
    exact idle hi
  · have ha : st.fs.sock.alive = true := by
      cases hx : st.fs.sock.alive
      · exact absurd (Or.inl hx) hi
      · rfl
    have hn : Life.dcCount st.fs.sock ≠ n := fun hx => hi (Or.inr hx)
    rw [afterEvent_fire env fe n st ha hn]
    split
    · rename_i cfg cs hc
      split
      · exact del ha hn
      · rename_i hfs
        simp only [Bool.or_eq_true, not_or, Bool.not_eq_true] at hfs
        exact stop cfg cs ha hn hc hfs.1 hfs.2
    · exact del ha hn

theorem afterEvent_deadSrv (env : Env) (fe : FsHandler.FsEnv) (n : Nat) (st : Life.St) :
    (Life.afterEvent env fe n st).deadSrv = st.deadSrv :=
  afterEvent_cases env fe n st (P := fun r => r.deadSrv = st.deadSrv) (fun _ => rfl)
    (fun _ _ => rfl) (fun _ _ _ _ _ _ _ => rfl)

theorem afterEvent_evo (env : Env) (fe : FsHandler.FsEnv) (n : Nat) (st : Life.St) :
    Evo st.fs.sock (Life.afterEvent env fe n st).fs.sock :=
  afterEvent_cases env fe n st (P := fun r => Evo st.fs.sock r.fs.sock) (fun _ => Evo.refl _)
    (fun _ _ => setDel_evo _) (fun _ _ _ _ _ _ _ => (setDel_evo _).trans (api_extE env _ _ _).evo)

theorem afterEvent_dp (env : Env) (fe : FsHandler.FsEnv) (n : Nat) (st : Life.St)
    (h : st.fs.sock.delPending = true ∨ (st.fs.sock.alive = true ∧ Life.dcCount st.fs.sock ≠ n)) :
    (Life.afterEvent env fe n st).fs.sock.delPending = true := by
  refine afterEvent_cases env fe n st (P := fun r => r.fs.sock.delPending = true) (fun hi => ?_)
    (fun _ _ => rfl) (fun _ _ _ _ _ _ _ => (api_ext env _ _ _).1.dp rfl)
  rcases h with h | ⟨ha, hn⟩
  · exact h
  · rcases hi with hi | hi
    · rw [ha] at hi; exact absurd hi (by simp)
    · exact absurd hi hn

theorem fsStep_evo (env : Env) (fe : FsHandler.FsEnv) (st : FsHandler.St) (e : Event) :
    Evo st.sock (FsHandler.step env fe st e).sock := by
  by_cases he : e = .turn
  · cases ha : st.sock.alive
    · rw [fsStep_dead env fe st e ha]
      exact Evo.refl _
    · subst he
      show Evo st.sock (FsHandler.turn env fe st).sock
      rw [fsTurn_eq env fe st ha]
      exact (turnWork_extE env fe st).evo.trans (reap_evo _)
  · exact (fsStep_extE env fe st e he).evo

theorem lifeStep_ev (env : Env) (fe : FsHandler.FsEnv) (st : Life.St) (e : Event)
    (h : st.deadSrv = false) :
    Life.step env fe st (.ev e) = Life.afterEvent env fe (Life.dcCount st.fs.sock)
      { st with fs := FsHandler.step env fe st.fs e } := by
  simp [Life.step, h]

theorem lifeStep_deadSrv (env : Env) (fe : FsHandler.FsEnv) (st : Life.St) (ev : Life.LEv)
    (h : st.deadSrv = true) : Life.step env fe st ev = st := by
  cases ev <;> simp [Life.step, h]

theorem lifeStep_dead (env : Env) (fe : FsHandler.FsEnv) (st : Life.St) (e : Event)
    (h : st.fs.sock.alive = false) : Life.step env fe st (.ev e) = st := by
  cases hd : st.deadSrv
  · rw [lifeStep_ev env fe st e hd, fsStep_dead env fe st.fs e h]
    exact afterEvent_idle env fe _ st (Or.inl h)
  · exact lifeStep_deadSrv env fe st _ hd

theorem lifeStep_kill (env : Env) (fe : FsHandler.FsEnv) (st : Life.St) (h : st.deadSrv = false) :
    (Life.step env fe st .killServer).deadSrv = true ∧
    (Life.step env fe st .killServer).fs.sock.alive = false ∧
    Evo st.fs.sock (Life.step env fe st .killServer).fs.sock := by
  refine ⟨by simp [Life.step, h], by simp [Life.step, h], ?_⟩
  simp only [Life.step, h, Bool.false_eq_true, if_false]
  exact Evo.flags [_] (fun h => by simp at h) rfl rfl rfl rfl

theorem lifeStep_evo (env : Env) (fe : FsHandler.FsEnv) (st : Life.St) (ev : Life.LEv) :
    Evo st.fs.sock (Life.step env fe st ev).fs.sock := by
  cases hd : st.deadSrv
  · cases ev with
    | ev e =>
      rw [lifeStep_ev env fe st e hd]
      exact (fsStep_evo env fe st.fs e).trans
        (afterEvent_evo env fe _ { st with fs := FsHandler.step env fe st.fs e })
    | killServer => exact (lifeStep_kill env fe st hd).2.2
  · rw [lifeStep_deadSrv env fe st ev hd]
    exact Evo.refl _

/-- the invariant of every reachable state.  `df`: no `disconnected` is due, `un`: `U`, `dl`: a live
    socket whose `disconnected` was reported is scheduled for deletion, `ds`: it does not outlive the Server -/
structure LInv (st : Life.St) : Prop where
  df : st.fs.sock.dcFlag = false
  un : U st.fs.sock
  dl : st.fs.sock.alive = true → Obs.dc ∈ st.fs.sock.log → st.fs.sock.delPending = true
  ds : st.deadSrv = true → st.fs.sock.alive = false

theorem LInv.init : LInv ({} : Life.St) :=
  ⟨rfl, fun h => by simp at h, fun _ h => by simp at h, fun h => by simp at h⟩

theorem lifeStep_schedules (env : Env) (fe : FsHandler.FsEnv) (st : Life.St) (e : Event)
    (ha : (Life.step env fe st (.ev e)).fs.sock.alive = true)
    (hn : Life.dcCount (Life.step env fe st (.ev e)).fs.sock ≠ Life.dcCount st.fs.sock) :
    (Life.step env fe st (.ev e)).fs.sock.delPending = true := by
  cases hd : st.deadSrv
  · rw [lifeStep_ev env fe st e hd] at ha hn ⊢
    revert ha hn
    exact afterEvent_cases env fe _ _
      (P := fun r => r.fs.sock.alive = true → Life.dcCount r.fs.sock ≠ Life.dcCount st.fs.sock →
        r.fs.sock.delPending = true)
      (fun hi ha hn => by
        rcases hi with hi | hi
        · rw [hi] at ha; exact absurd ha (by simp)
        · exact absurd hi hn)
      (fun _ _ _ _ => rfl) (fun _ _ _ _ _ _ _ _ _ => (api_ext env _ _ _).1.dp rfl)
  · rw [lifeStep_deadSrv env fe st _ hd] at hn
    exact absurd rfl hn

theorem lifeStep_keeps (env : Env) (fe : FsHandler.FsEnv) (st : Life.St) (e : Event)
    (he : e ≠ .turn) (h : st.fs.sock.delPending = true) :
    (Life.step env fe st (.ev e)).fs.sock.delPending = true := by
  cases hd : st.deadSrv
  · rw [lifeStep_ev env fe st e hd]
    exact afterEvent_dp env fe _ _ (Or.inl ((fsStep_extE env fe st.fs e he).1.dp h))
  · rw [lifeStep_deadSrv env fe st _ hd]; exact h

theorem lifeStep_turn_deletes (env : Env) (fe : FsHandler.FsEnv) (st : Life.St)
    (hd : st.deadSrv = false) (ha : st.fs.sock.alive = true) (h : st.fs.sock.delPending = true) :
    (Life.step env fe st (.ev .turn)).fs.sock.alive = false := by
  rw [lifeStep_ev env fe st _ hd]
  have h3 : (FsHandler.step env fe st.fs .turn).sock.alive = false := by
    show (FsHandler.turn env fe st.fs).sock.alive = false
    rw [fsTurn_eq env fe st.fs ha]
    exact reap_dead ((turnWork_extE env fe st.fs).1.dp h)
  rw [afterEvent_idle env fe _ _ (Or.inl h3)]
  exact h3

theorem lifeStep_inv (env : Env) (fe : FsHandler.FsEnv) (st : Life.St) (ev : Life.LEv)
    (hi : LInv st) : LInv (Life.step env fe st ev) := by
  have hevo := lifeStep_evo env fe st ev
  refine ⟨hevo.df hi.df, hevo.un hi.un, fun ha hdc => ?_, ?_⟩
  · cases hd : st.deadSrv
    · cases ev with
      | killServer =>
        rw [(lifeStep_kill env fe st hd).2.1] at ha
        exact absurd ha (by simp)
      | ev e =>
        by_cases hn : Life.dcCount (Life.step env fe st (.ev e)).fs.sock = Life.dcCount st.fs.sock
        · -- no `dc` during this event: it was there before, so deletion was already scheduled
          have hdc0 := dc_of_same_count hevo.lg hn hdc
          have ha0 := hevo.al ha
          have hp0 := hi.dl ha0 hdc0
          by_cases he : e = .turn
          · subst he
            rw [lifeStep_turn_deletes env fe st hd ha0 hp0] at ha
            exact absurd ha (by simp)
          · exact lifeStep_keeps env fe st e he hp0
        · exact lifeStep_schedules env fe st e ha hn
    · rw [lifeStep_deadSrv env fe st ev hd] at ha
      rw [hi.ds hd] at ha
      exact absurd ha (by simp)
  · intro hds
    cases hd : st.deadSrv
    · cases ev with
      | killServer => exact (lifeStep_kill env fe st hd).2.1
      | ev e =>
        rw [lifeStep_ev env fe st e hd] at hds
        rw [afterEvent_deadSrv] at hds
        exact absurd (hd.symm.trans hds) (by simp)
    · rw [lifeStep_deadSrv env fe st ev hd]
      exact hi.ds hd

theorem run_inv (env : Env) (fe : FsHandler.FsEnv) (evs : List Life.LEv) :
    LInv (Life.run env fe evs) := by
  -- the step is left as a goal: given as a term inside `foldlRecOn` it is elaborated before the
  -- motive is known, which is slow to check
  refine List.foldlRecOn evs _ LInv.init fun st hi ev _ => ?_
  exact lifeStep_inv env fe st ev hi

/-- reported now, or the transport was unconnected already and it had been reported -/
theorem step_peerClose_dc (env : Env) (app : App) (s : Sock) (ha : s.alive = true) (hu : U s)
    (hf : s.dcFlag = false) : Obs.dc ∈ (step env app s .peerClose).log := by
  unfold step
  rw [if_neg (by simp [ha])]
  dsimp only
  split
  · rename_i hc
    rcases hu (by simpa using hc) with h | h
    · rw [hf] at h; exact absurd h (by simp)
    · exact h
  · exact (emitDc_ext env app _).2.2.1

theorem lifeStep_peerClose_dc (env : Env) (fe : FsHandler.FsEnv) (st : Life.St) (hi : LInv st)
    (ha : (Life.step env fe st (.ev .peerClose)).fs.sock.alive = true) :
    Obs.dc ∈ (Life.step env fe st (.ev .peerClose)).fs.sock.log := by
  have ha0 := (lifeStep_evo env fe st (.ev .peerClose)).al ha
  cases hd : st.deadSrv
  · rw [lifeStep_ev env fe st _ hd]
    apply (afterEvent_evo env fe _ { st with fs := FsHandler.step env fe st.fs .peerClose }).mem
    show Obs.dc ∈ (FsHandler.step env fe st.fs .peerClose).sock.log
    rw [fsStep_eq env fe st.fs .peerClose (by simp), afterRoute_sock]
    unfold stepK
    dsimp only
    rw [if_neg (by simp [ha0])]
    refine step_peerClose_dc env _ _ ?_ ?_ ?_
    · exact ha0
    · exact hi.un.grow [Obs.ev _] rfl rfl rfl
    · exact hi.df
  · have := hi.ds hd
    rw [ha0] at this
    exact absurd this (by simp)

/-- the socket is gone, or its `disconnected` was reported -/
def Closing (st : Life.St) : Prop :=
  LInv st ∧ (st.fs.sock.alive = true → Obs.dc ∈ st.fs.sock.log)

theorem Closing.step (env : Env) (fe : FsHandler.FsEnv) {st : Life.St} (ev : Life.LEv)
    (h : Closing st) : Closing (Life.step env fe st ev) :=
  ⟨lifeStep_inv env fe st ev h.1, fun ha =>
    (lifeStep_evo env fe st ev).mem (h.2 ((lifeStep_evo env fe st ev).al ha))⟩

theorem Closing.turn (env : Env) (fe : FsHandler.FsEnv) {st : Life.St} (h : Closing st) :
    (Life.step env fe st (.ev .turn)).fs.sock.alive = false := by
  cases ha : st.fs.sock.alive
  · rw [lifeStep_dead env fe st _ ha]; exact ha
  · cases hs : st.deadSrv
    · exact lifeStep_turn_deletes env fe st hs ha (h.1.dl ha (h.2 ha))
    · have := h.1.ds hs
      rw [ha] at this
      exact absurd this (by simp)

theorem Closing.foldl (env : Env) (fe : FsHandler.FsEnv) (evs : List Life.LEv) {st : Life.St}
    (h : Closing st) : Closing (evs.foldl (Life.step env fe) st) := by
  induction evs generalizing st with
  | nil => exact h
  | cons ev evs ih => exact ih (h.step env fe ev)

theorem Closing.peerClose (env : Env) (fe : FsHandler.FsEnv) {st : Life.St} (h : LInv st) :
    Closing (Life.step env fe st (.ev .peerClose)) :=
  ⟨lifeStep_inv env fe st _ h, lifeStep_peerClose_dc env fe st h⟩

def relog (st : Life.St) (l : List Obs) : Life.St :=
  { st with fs := { st.fs with sock := { st.fs.sock with log := l } } }

theorem Closing.relog {st : Life.St} (h : Closing st) (l : List Obs)
    (hl : Obs.dc ∈ l ↔ Obs.dc ∈ st.fs.sock.log) : Closing (relog st l) := by
  obtain ⟨⟨h1, h2, h3, h4⟩, h5⟩ := h
  refine ⟨⟨h1, fun hc => ?_, fun ha hd => h3 ha (hl.mp hd), h4⟩, fun ha => hl.mpr (h5 ha)⟩
  rcases h2 hc with h | h
  · exact Or.inl h
  · exact Or.inr (hl.mpr h)

/-- a step whose event marker is dropped from the history: the text of the fold over `tailEvs` in
    `Driver/Main.lean` (the harness does not mark its closing events); nothing but reading ties the two -/
def quietStep (env : Env) (fe : FsHandler.FsEnv) (st : Life.St) (e : Life.LEv) : Life.St :=
  let before := st.fs.sock.log.length
  let st' := Life.step env fe st e
  let added := st'.fs.sock.log.drop before
  let kept := added.filter fun o => match o with | .ev _ => false | _ => true
  { st' with fs := { st'.fs with sock := { st'.fs.sock with log := st.fs.sock.log ++ kept } } }

theorem quietStep_eq (env : Env) (fe : FsHandler.FsEnv) (st : Life.St) (e : Life.LEv) :
    ∃ l, quietStep env fe st e = relog (Life.step env fe st e) l ∧
      (Obs.dc ∈ l ↔ Obs.dc ∈ (Life.step env fe st e).fs.sock.log) := by
  refine ⟨_, rfl, ?_⟩
  obtain ⟨t, ht⟩ := (lifeStep_evo env fe st e).lg
  rw [ht, List.drop_left]
  simp [List.mem_filter]

theorem quietStep_alive (env : Env) (fe : FsHandler.FsEnv) (st : Life.St) (e : Life.LEv) :
    (quietStep env fe st e).fs.sock.alive = (Life.step env fe st e).fs.sock.alive ∧
    (quietStep env fe st e).deadSrv = (Life.step env fe st e).deadSrv := ⟨rfl, rfl⟩

theorem Closing.quietStep (env : Env) (fe : FsHandler.FsEnv) {st : Life.St} (e : Life.LEv)
    (h : Closing st) : Closing (quietStep env fe st e) := by
  obtain ⟨l, h1, h2⟩ := quietStep_eq env fe st e
  rw [h1]
  exact (h.step env fe e).relog l h2

theorem Closing.quietPeerClose (env : Env) (fe : FsHandler.FsEnv) {st : Life.St} (h : LInv st) :
    Closing (C10L.quietStep env fe st (.ev .peerClose)) := by
  obtain ⟨l, h1, h2⟩ := quietStep_eq env fe st (.ev .peerClose)
  rw [h1]
  exact (Closing.peerClose env fe h).relog l h2

end Qhttp.C10L
