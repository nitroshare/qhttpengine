import Qhttp.Model.Life
import Qhttp.Lemmas.C19Api
/-
  C10 at the socket level.  `Ext s s'`: `s'` is a later state of the same live object — neither
  destroyed nor resurrected, a scheduled deletion stays scheduled, `Socket::close` stays called,
  the history only grows, and the transport is never unconnected without its `disconnected` being
  owed (`dcFlag`) or reported (`dc` in the history).  `ExtE` adds that `dcFlag` is clear between
  events.  The frame rules of `Lemmas/C19Api.lean` carry both through API calls and private slots.
-/
namespace Qhttp.C10L
open Qhttp Qhttp.Sock Qhttp.C19L

/-- `Sock.api` is `fin` after `apiPrim`: the reaction to `disconnected` if the call caused it -/
def fin (env : Env) (app : App) (s : Sock) : Sock := if s.dcFlag then emitDc env app s else s

/-- the transport's `disconnected` is owed or was reported whenever it is unconnected -/
def U (s : Sock) : Prop := s.tcp.conn = .unconnected → s.dcFlag = true ∨ Obs.dc ∈ s.log

/-- `al`: alive as before, `dp`: a scheduled deletion stays, `cc`: `Socket::close` stays called,
    `lg`: the history grew, `un`: `U` is kept -/
structure Ext (s s' : Sock) : Prop where
  al : s'.alive = s.alive
  dp : s.delPending = true → s'.delPending = true
  cc : s.closeCalled = true → s'.closeCalled = true
  lg : ∃ t, s'.log = s.log ++ t
  un : U s → U s'

theorem Ext.refl (s : Sock) : Ext s s := ⟨rfl, id, id, ⟨[], by simp⟩, id⟩

theorem Ext.trans {a b c : Sock} (h1 : Ext a b) (h2 : Ext b c) : Ext a c := by
  obtain ⟨t1, e1⟩ := h1.lg
  obtain ⟨t2, e2⟩ := h2.lg
  exact ⟨h2.al.trans h1.al, fun h => h2.dp (h1.dp h), fun h => h2.cc (h1.cc h),
    ⟨t1 ++ t2, by rw [e2, e1, List.append_assoc]⟩, fun h => h2.un (h1.un h)⟩

theorem U.grow {s s' : Sock} (t : List Obs) (hu : U s) (h4 : s'.log = s.log ++ t)
    (h5 : s'.tcp.conn = s.tcp.conn) (h6 : s'.dcFlag = s.dcFlag) : U s' := by
  intro hc
  rw [h5] at hc
  rcases hu hc with h | h
  · left; rw [h6]; exact h
  · right; rw [h4]; exact List.mem_append_left _ h

theorem Ext.grow {s s' : Sock} (t : List Obs) (h1 : s'.alive = s.alive)
    (h2 : s'.delPending = s.delPending) (h3 : s.closeCalled = true → s'.closeCalled = true)
    (h4 : s'.log = s.log ++ t) (h5 : s'.tcp.conn = s.tcp.conn) (h6 : s'.dcFlag = s.dcFlag) :
    Ext s s' :=
  ⟨h1, fun h => by rw [h2]; exact h, h3, ⟨t, h4⟩, fun hu => hu.grow t h4 h5 h6⟩

theorem Ext.mem {s s' : Sock} (h : Ext s s') {o : Obs} (ho : o ∈ s.log) : o ∈ s'.log := by
  obtain ⟨t, e⟩ := h.lg
  rw [e]; exact List.mem_append_left _ ho

theorem ext_of_same {s s' : Sock} (h : Same s s') : Ext s s' :=
  Ext.grow [] h.a h.d h.k (by rw [h.l, List.append_nil]) h.c h.f

theorem tcpClose_ext (s : Sock) : Ext s (tcpClose s) :=
  tcpClose_cases s (fun _ => Ext.refl s)
    (fun _ _ _ => ⟨rfl, id, id, ⟨[Obs.tc], rfl⟩, fun _ _ => Or.inl rfl⟩)
    (fun _ _ _ => ⟨rfl, id, id, ⟨[Obs.tc], rfl⟩, fun _ hc => absurd hc (by simp)⟩)
    (fun _ _ => Ext.grow [Obs.tc] rfl rfl id rfl rfl rfl)

theorem ext_frame (s0 : Sock) : Frame (fun _ => true) (Ext s0) where
  res := fun _ _ => rfl
  same := fun _ _ hs h => h.trans (ext_of_same hs)
  tw := fun s b h => by
    rcases tcpWrite_cases s b with e | ⟨_, _, _, e⟩
    · rw [e]; exact h
    · rw [e]; exact h.trans (Ext.grow [Obs.w b] rfl rfl id rfl rfl rfl)
  tcl := fun s _ h => h.trans (tcpClose_ext s)
  note := fun s o _ h => h.trans (Ext.grow [o] rfl rfl id rfl rfl rfl)

theorem tcpClose_cc (s : Sock) : (tcpClose s).closeCalled = s.closeCalled :=
  tcpClose_cases s (P := fun r => r.closeCalled = s.closeCalled) (fun _ => rfl) (fun _ _ _ => rfl)
    (fun _ _ _ => rfl) (fun _ _ => rfl)

theorem close_cc (s : Sock) : (close s).closeCalled = true := by
  unfold close
  rw [tcpClose_cc]

theorem apiPrim_ext (env : Env) (s : Sock) (op : ApiOp) : Ext s (apiPrim env s op) :=
  apiPrim_frame (ext_frame s) env (fun _ _ => rfl) (Ext.refl s)

theorem foldl_apiPrim_ext (env : Env) (ops : List ApiOp) (s : Sock) :
    Ext s (ops.foldl (apiPrim env) s) := by
  induction ops generalizing s with
  | nil => exact Ext.refl s
  | cons op ops ih => exact (apiPrim_ext env s op).trans (ih _)

def ExtE (s s' : Sock) : Prop := Ext s s' ∧ (s.dcFlag = false → s'.dcFlag = false)

theorem ExtE.refl (s : Sock) : ExtE s s := ⟨Ext.refl s, id⟩

theorem ExtE.trans {a b c : Sock} (h1 : ExtE a b) (h2 : ExtE b c) : ExtE a c :=
  ⟨h1.1.trans h2.1, fun h => h2.2 (h1.2 h)⟩

theorem ExtE.grow {s s' : Sock} (t : List Obs) (h1 : s'.alive = s.alive)
    (h2 : s'.delPending = s.delPending) (h3 : s.closeCalled = true → s'.closeCalled = true)
    (h4 : s'.log = s.log ++ t) (h5 : s'.tcp.conn = s.tcp.conn) (h6 : s'.dcFlag = s.dcFlag) :
    ExtE s s' :=
  ⟨Ext.grow t h1 h2 h3 h4 h5 h6, fun h => by rw [h6]; exact h⟩

theorem extE_of_same {s s' : Sock} (h : Same s s') : ExtE s s' :=
  ⟨ext_of_same h, fun hf => h.f.trans hf⟩

theorem emitDc_ext (env : Env) (app : App) (s : Sock) :
    Ext s (emitDc env app s) ∧ (emitDc env app s).dcFlag = false ∧ Obs.dc ∈ (emitDc env app s).log ∧
    (s.closeCalled = true → (emitDc env app s).delPending = true) := by
  unfold emitDc
  dsimp only
  have h0 : Ext s { s with dcFlag := false, log := s.log ++ [Obs.dc] } :=
    ⟨rfl, id, id, ⟨[Obs.dc], rfl⟩, fun _ _ => Or.inr (by simp)⟩
  have h1 := foldl_apiPrim_ext env (app.onDc { s with dcFlag := false, log := s.log ++ [Obs.dc] })
    { s with dcFlag := false, log := s.log ++ [Obs.dc] }
  have hdc : Obs.dc ∈ (List.foldl (apiPrim env) { s with dcFlag := false, log := s.log ++ [Obs.dc] }
      (app.onDc { s with dcFlag := false, log := s.log ++ [Obs.dc] })).log :=
    h1.mem (by simp)
  have h01 := h0.trans h1
  refine ⟨⟨h01.al, fun h => ?_, h01.cc, h01.lg, fun _ _ => Or.inr hdc⟩, rfl, hdc, fun h => ?_⟩
  · show (_ || _) = true
    rw [h01.dp h]; rfl
  · show (_ || _) = true
    rw [h]; simp

theorem emitDc_extE (env : Env) (app : App) (s : Sock) : ExtE s (emitDc env app s) :=
  ⟨(emitDc_ext env app s).1, fun _ => (emitDc_ext env app s).2.1⟩

theorem fin_ext (env : Env) (app : App) {s s' : Sock} (h : Ext s s') :
    Ext s (fin env app s') ∧ (fin env app s').dcFlag = false := by
  unfold fin
  split
  · exact ⟨h.trans (emitDc_ext env app _).1, (emitDc_ext env app _).2.1⟩
  · rename_i hf
    exact ⟨h, by simpa using hf⟩

theorem api_ext (env : Env) (app : App) (s : Sock) (op : ApiOp) :
    Ext s (api env app s op) ∧ (api env app s op).dcFlag = false :=
  fin_ext env app (apiPrim_ext env s op)

theorem api_extE (env : Env) (app : App) (s : Sock) (op : ApiOp) : ExtE s (api env app s op) :=
  ⟨(api_ext env app s op).1, fun _ => (api_ext env app s op).2⟩

theorem apis_extE (env : Env) (app : App) (ops : List ApiOp) (s : Sock) :
    ExtE s (apis env app s ops) := by
  unfold apis
  induction ops generalizing s with
  | nil => exact ExtE.refl s
  | cons op ops ih => exact (api_extE env app s op).trans (ih _)

theorem emit_extE (env : Env) (app : App) (s : Sock) (o : Obs) (ops : List ApiOp) :
    ExtE s (emit env app s o ops) := by
  unfold emit
  refine ExtE.trans ?_ (apis_extE env app ops _)
  exact ExtE.grow [o] rfl rfl id rfl rfl rfl

theorem extE_slots (env : Env) (app : App) (s0 : Sock) : SlotClosed env app (ExtE s0) where
  same := fun _ _ hs h => h.trans (extE_of_same hs)
  bad := fun s h => h.trans ⟨(fin_ext env app (writeError_frame (ext_frame s) env _ _ (Ext.refl s))).1,
    fun _ => (fin_ext env app (writeError_frame (ext_frame s) env _ _ (Ext.refl s))).2⟩
  hp := fun _ _ hs _ _ h => (h.trans (extE_of_same hs)).trans (emit_extE env app _ _ _)
  rr := fun _ h => h.trans (emit_extE env app _ _ _)
  rcf := fun _ h => h.trans (emit_extE env app _ _ _)
  bw := fun _ _ h => h.trans (emit_extE env app _ _ _)

theorem onReadyRead_extE (env : Env) (app : App) (s : Sock) : ExtE s (onReadyRead env app s) :=
  (extE_slots env app s).onReadyRead (ExtE.refl s)

theorem onBytesWritten_extE (env : Env) (app : App) (s : Sock) (n : Int) :
    ExtE s (onBytesWritten env app s n) :=
  (extE_slots env app s).onBytesWritten n (ExtE.refl s)

theorem onReadChannelFinished_extE (env : Env) (app : App) (s : Sock) :
    ExtE s (onReadChannelFinished env app s) :=
  (extE_slots env app s).onReadChannelFinished (ExtE.refl s)

/-- a detour through a state whose transport was just marked unconnected, ending with `dc` reported -/
theorem Ext.of_dc {s s0 r : Sock} (h : Ext s0 r) (hdc : Obs.dc ∈ r.log)
    (h1 : s0.alive = s.alive) (h2 : s0.delPending = s.delPending)
    (h3 : s0.closeCalled = s.closeCalled) (h4 : s0.log = s.log) : Ext s r := by
  refine ⟨h.al.trans h1, fun hd => h.dp (by rw [h2]; exact hd), fun hd => h.cc (by rw [h3]; exact hd),
    ?_, fun _ _ => Or.inr hdc⟩
  obtain ⟨t, e⟩ := h.lg
  exact ⟨t, by rw [e, h4]⟩

theorem ackN_extE (env : Env) (app : App) (s : Sock) (n : Nat) : ExtE s (ackN env app s n) := by
  unfold ackN
  dsimp only
  split
  · exact ExtE.refl s
  · have h1 : ExtE s (onBytesWritten env app
        { s with tcp := { s.tcp with unacked := s.tcp.unacked - min n s.tcp.unacked } }
        (min n s.tcp.unacked : Nat)) := by
      refine ExtE.trans ?_ (onBytesWritten_extE env app _ _)
      exact ExtE.grow [] rfl rfl id (List.append_nil _).symm rfl rfl
    generalize (onBytesWritten env app
        { s with tcp := { s.tcp with unacked := s.tcp.unacked - min n s.tcp.unacked } }
        (min n s.tcp.unacked : Nat)) = s1 at h1 ⊢
    split
    · have h2 := emitDc_ext env app { s1 with tcp := { s1.tcp with conn := .unconnected } }
      exact h1.trans ⟨Ext.of_dc h2.1 h2.2.2.1 rfl rfl rfl rfl, fun _ => h2.2.1⟩
    · exact h1

theorem peerClose_extE (env : Env) (app : App) (s : Sock) :
    ExtE s (emitDc env app
      (onReadChannelFinished env app { s with tcp := { s.tcp with conn := .unconnected } })) := by
  have h1 := onReadChannelFinished_extE env app { s with tcp := { s.tcp with conn := .unconnected } }
  have h2 := emitDc_ext env app
    (onReadChannelFinished env app { s with tcp := { s.tcp with conn := .unconnected } })
  exact ⟨Ext.of_dc (h1.1.trans h2.1) h2.2.2.1 rfl rfl rfl rfl, fun _ => h2.2.1⟩

theorem step_extE (env : Env) (app : App) (s : Sock) (e : Event) (he : e ≠ .turn) :
    ExtE s (step env app s e) := by
  unfold step
  split
  · exact ExtE.refl s
  · cases e with
    | prebuf bs => exact extE_of_same (.of_core rfl rfl rfl)
    | new => exact extE_of_same (.of_core rfl rfl rfl)
    | feed seg =>
      refine ExtE.trans ?_ (onReadyRead_extE env app _)
      exact extE_of_same (.of_core rfl rfl rfl)
    | ack n => exact ackN_extE env app s n
    | ackAll => exact ackN_extE env app s _
    | peerClose =>
      dsimp only
      split
      · exact ExtE.refl s
      · exact peerClose_extE env app s
    | turn => exact absurd rfl he
    | api op => exact api_extE env app s op

/-- deferred deletion, the last thing an event-loop turn does; the turn is the one event that
    does not extend the state (`step_turn`: `initRead`, which does, then `reap`) -/
def reap (s : Sock) : Sock :=
  if s.delPending then { s with alive := false, delPending := false, log := s.log ++ [Obs.del] } else s

def initRead (env : Env) (app : App) (s : Sock) : Sock :=
  if s.initPending then onReadyRead env app { s with initPending := false } else s

theorem initRead_extE (env : Env) (app : App) (s : Sock) : ExtE s (initRead env app s) := by
  unfold initRead
  split
  · refine ExtE.trans ?_ (onReadyRead_extE env app _)
    exact extE_of_same (.of_core rfl rfl rfl)
  · exact ExtE.refl s

theorem step_turn (env : Env) (app : App) (s : Sock) (ha : s.alive = true) :
    step env app s .turn = reap (initRead env app s) := by
  unfold step reap initRead
  simp [ha]

theorem stepK_extE (env : Env) (app : App) (s : Sock) (k : Nat) (e : Event) (he : e ≠ .turn) :
    ExtE s (stepK env app (s, k) e).1 := by
  unfold stepK
  dsimp only
  split
  · exact step_extE env app s e he
  · refine ExtE.trans ?_ (step_extE env app _ e he)
    exact ExtE.grow [_] rfl rfl id rfl rfl rfl

end Qhttp.C10L
