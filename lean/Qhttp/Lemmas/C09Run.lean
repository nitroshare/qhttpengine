import Qhttp.Model.BasicAuth
import Qhttp.Lemmas.SockRun
import Qhttp.Lemmas.C09Auth
/-
  C09, the run `new; feed (head ++ CRLF2); turn` of the socket model with the basic-auth
  application: the exact history when the credentials are refused or admitted, and what the strict
  reader `Http.parse` makes of the 401.
-/
namespace Qhttp.C09L
open Qhttp Qhttp.Sock Qhttp.BasicAuth

/-- the application of the `auth` scenarios: only `headersParsed` is connected -/
def authApp (table : List (Bytes × Bytes)) (realm : Bytes) : App :=
  { onHp := fun s => ops table realm s }

/-! ### the run when the credentials are refused, and when they are admitted -/

theorem run_refused (env : Env) (table : List (Bytes × Bytes)) (realm stream head rest : Bytes)
    (rh : Parser.ReqHead) (p : Bytes) (q : List (Bytes × Bytes))
    (h : breakOn CRLF2 stream = some (head, rest))
    (hp : Parser.parseRequestHeaders head [] = some rh) (hu : env.url rh.rawPath = some (p, q))
    (hv : verdict table (HeaderMap.value AUTHORIZATION rh.headers) = false) :
    (Sock.run env (authApp table realm) [.new, .feed stream, .turn]).log =
      [Obs.ev 0, Obs.ev 1, Obs.hp, Obs.mw 0 false] ++
      (Obs.w (errStart 401 ++ CRLF ++
          headerLines (errHeaders [(WWW_AUTH, challenge realm)] (natDigits (errBody env 401).length)) ++ CRLF) ::
        ((if (errBody env 401).isEmpty then [] else [Obs.w (errBody env 401)]) ++ [Obs.tc])) ++
      [Obs.ev 2] := by
  obtain ⟨s1, hr, hR, hq⟩ := readHeaders_good env (authApp table realm) stream head rest rh p q h hp hu
  have ho : (authApp table realm).onHp s1 =
      [.note (.mw 0 false), .hdr WWW_AUTH (challenge realm) true, .err 401 none] := by
    show ops table realm s1 = _
    unfold ops; rw [hq, hv]; rfl
  rw [ho] at hr
  obtain ⟨r, he, g1, g2, g3, g4⟩ := emit_refused env (authApp table realm) s1 hR (.mw 0 false) WWW_AUTH
    (challenge realm) 401
  rw [he] at hr
  rw [run_log env _ stream r hr g1 g2, g3, g4]
  rfl

theorem run_admitted (env : Env) (table : List (Bytes × Bytes)) (realm stream head rest : Bytes)
    (rh : Parser.ReqHead) (p : Bytes) (q : List (Bytes × Bytes))
    (h : breakOn CRLF2 stream = some (head, rest))
    (hp : Parser.parseRequestHeaders head [] = some rh) (hu : env.url rh.rawPath = some (p, q))
    (hv : verdict table (HeaderMap.value AUTHORIZATION rh.headers) = true) :
    ∃ tail, (Sock.run env (authApp table realm) [.new, .feed stream, .turn]).log =
      [Obs.ev 0, Obs.ev 1, Obs.hp, Obs.mw 0 true, Obs.pr 0 []] ++ tail := by
  obtain ⟨s1, hr, hR, hq⟩ := readHeaders_good env (authApp table realm) stream head rest rh p q h hp hu
  have ho : (authApp table realm).onHp s1 =
      [.note (.mw 0 true), .note (.pr 0 []), .write (lit ['o','k']), .close] := by
    show ops table realm s1 = _
    unfold ops; rw [hq, hv]; rfl
  rw [ho] at hr
  obtain ⟨r, tail, he, g1, g2, g3, g4⟩ := emit_admitted env (authApp table realm) s1 hR (lit ['o','k'])
  rw [he] at hr
  rw [run_log env _ stream r hr g1 g2, g3, g4]
  exact ⟨tail ++ [Obs.ev 2], by simp⟩

/-! ### the 401 on the wire, read back by the strict reader -/

theorem errHeaders_auth (ch d : Bytes) :
    errHeaders [(WWW_AUTH, ch)] d = [(CONTENT_LENGTH, d), (CONTENT_TYPE, TEXT_HTML), (WWW_AUTH, ch)] := by
  have k1 : HeaderMap.keyEq WWW_AUTH CONTENT_LENGTH = false := by decide +kernel
  have k2 : HeaderMap.keyLt WWW_AUTH CONTENT_LENGTH = false := by decide +kernel
  have k3 : HeaderMap.keyEq CONTENT_LENGTH CONTENT_TYPE = false := by decide +kernel
  have k4 : HeaderMap.keyEq WWW_AUTH CONTENT_TYPE = false := by decide +kernel
  have k5 : HeaderMap.keyLt CONTENT_LENGTH CONTENT_TYPE = true := by decide +kernel
  have k6 : HeaderMap.keyLt WWW_AUTH CONTENT_TYPE = false := by decide +kernel
  simp [errHeaders, HeaderMap.remove, HeaderMap.insert, List.filter, k1, k2, k3, k4, k5, k6]

/-- a two-byte delimiter not found in `x` is not found after appending a byte different from
    its second byte -/
theorem breakOn2_none_snoc {p q c : UInt8} (hc : c ≠ q) : ∀ {x : Bytes},
    breakOn [p, q] x = none → breakOn [p, q] (x ++ [c]) = none
  | [], _ => by simp [breakOn, List.isPrefixOf]
  | a :: x, h => by
    rw [breakOn] at h
    by_cases hp : [p, q].isPrefixOf (a :: x) = true
    · simp [hp] at h
    · simp only [hp, Bool.false_eq_true, if_false] at h
      have hx : breakOn [p, q] x = none := by
        cases hb : breakOn [p, q] x with
        | none => rfl
        | some w => simp [hb] at h
      have hp' : [p, q].isPrefixOf (a :: (x ++ [c])) = false := by
        cases x with
        | nil => simp [List.isPrefixOf]; intro _; exact fun e => hc e.symm
        | cons b x => simpa [List.isPrefixOf] using hp
      rw [List.cons_append, breakOn, hp', breakOn2_none_snoc hc hx]; simp

/-- the challenge contains `", "` only if the realm does -/
theorem challenge_no_commaSP {realm : Bytes} (h : isInfixB [44, 32] realm = false) :
    breakOn [44, 32] (challenge realm) = none := by
  have h0 : breakOn [44, 32] realm = none := by
    unfold isInfixB at h
    cases hb : breakOn [44, 32] realm with
    | none => rfl
    | some w => rw [hb] at h; cases h
  have h1 : breakOn [44, 32] (realm ++ [34]) = none := breakOn2_none_snoc (by decide) h0
  unfold challenge
  rw [List.append_assoc, Qhttp.breakOn_skip _ (by decide), h1]
  rfl

theorem challenge_no_CR {realm : Bytes} (h : containsByte CR realm = false) : CR ∉ challenge realm := by
  have := containsByte_eq_false_iff.1 h
  unfold challenge
  simp only [List.mem_append, not_or]
  exact ⟨⟨by decide, this⟩, by decide⟩

/-- the 401 response as the strict reader sees it -/
def msg401 (env : Env) (realm : Bytes) : Http.Msg :=
  { start := errStart 401,
    headers := [(CONTENT_LENGTH, natDigits (errBody env 401).length), (CONTENT_TYPE, TEXT_HTML),
                (WWW_AUTH, challenge realm)],
    body := errBody env 401 }

theorem parse_401 (env : Env) (realm : Bytes) (hcr : containsByte CR realm = false) :
    Http.parse (errStart 401 ++ CRLF ++
        headerLines (errHeaders [(WWW_AUTH, challenge realm)] (natDigits (errBody env 401).length)) ++ CRLF ++
        errBody env 401) = some (msg401 env realm) := by
  rw [errHeaders_auth]
  apply Http.parse_render
  · decide +kernel
  · intro e he
    simp only [List.mem_cons, List.not_mem_nil, or_false] at he
    rcases he with rfl | rfl | rfl
    · exact ⟨(by decide +kernel : CONTENT_LENGTH ≠ []), (by decide +kernel : COLON ∉ CONTENT_LENGTH),
        (by decide +kernel : CR ∉ CONTENT_LENGTH), HB.CR_not_mem_natDigits _⟩
    · exact ⟨(by decide +kernel : CONTENT_TYPE ≠ []), (by decide +kernel : COLON ∉ CONTENT_TYPE),
        (by decide +kernel : CR ∉ CONTENT_TYPE), (by decide +kernel : CR ∉ TEXT_HTML)⟩
    · exact ⟨(by decide +kernel : WWW_AUTH ≠ []), (by decide +kernel : COLON ∉ WWW_AUTH),
        (by decide +kernel : CR ∉ WWW_AUTH), challenge_no_CR hcr⟩

theorem valuesOf_auth_401 (d ch : Bytes) (h : breakOn [44, 32] ch = none) :
    Http.valuesOf WWW_AUTH [(CONTENT_LENGTH, d), (CONTENT_TYPE, TEXT_HTML), (WWW_AUTH, ch)] = [ch] := by
  have k1 : (lower CONTENT_LENGTH == lower WWW_AUTH) = false := by decide +kernel
  have k2 : (lower CONTENT_TYPE == lower WWW_AUTH) = false := by decide +kernel
  have e : splitF [44, 32] (ch.length + 1) none ch = [ch] := by
    show HB.splitAll [44, 32] ch = [ch]
    rw [HB.splitAll_eq, h]
  simp [Http.valuesOf, List.filter, k1, k2, e]

theorem valuesOf_cl_401 (n : Nat) (ch : Bytes) :
    Http.valuesOf CONTENT_LENGTH
      [(CONTENT_LENGTH, natDigits n), (CONTENT_TYPE, TEXT_HTML), (WWW_AUTH, ch)] = [natDigits n] := by
  have k1 : (lower WWW_AUTH == lower CONTENT_LENGTH) = false := by decide +kernel
  have k2 : (lower CONTENT_TYPE == lower CONTENT_LENGTH) = false := by decide +kernel
  have e : splitF [44, 32] ((natDigits n).length + 1) none (natDigits n) = [natDigits n] := by
    show HB.splitAll [44, 32] (natDigits n) = [natDigits n]
    exact HB.splitAll_of_not_mem (HB.comma_not_mem_natDigits n)
  simp [Http.valuesOf, List.filter, k1, k2, e]

end Qhttp.C09L
