import Qhttp.Model.Http
import Qhttp.Lemmas.C18Inv
/-
  C18 — write-progress notifications count body bytes only, for every acknowledgement pattern.
-/
namespace Qhttp.C18
open Qhttp

/-- number of bytes of the header block on the wire (up to and including the blank line) -/
def headerLen (wire : Bytes) : Option Nat :=
  (breakOn CRLF2 wire).map fun p => p.1.length + 4

def ackOf (evs : List Event) (k : Nat) : Nat → Nat := fun unacked =>
  match evs[k]? with
  | some (.ack n) => min n unacked
  | some .ackAll => unacked
  | _ => 0

/-- walk the history: `written` bytes on the wire, `acked` bytes acknowledged, `sum` notified.
    At every notification: count ≥ 0 and sum ≤ max 0 (acked − H); H is known once on the wire. -/
def walk (evs : List Event) (h : Nat) : List Obs → (written acked : Nat) → (sum : Int) → Bool
  | [], _, _, _ => true
  | o :: l, written, acked, sum =>
    match o with
    | .ev k => walk evs h l written (acked + ackOf evs k (written - acked)) sum
    | .w b => walk evs h l (written + b.length) acked sum
    | .bw n => n ≥ 0 && sum + n ≤ ((acked : Int) - h) && sum + n ≤ ((written : Int) - h) &&
               walk evs h l written acked (sum + n)
    | _ => walk evs h l written acked sum

def sumBw (obs : List Obs) : Int := obs.foldl (fun a o => match o with | .bw n => a + n | _ => a) 0

/-- the connection was ended (by the application or the peer) during the history -/
def ended (sc : Scenario) (obs : List Obs) : Bool :=
  obs.any Obs.isTc || sc.events.any fun e => match e with | .peerClose => true | _ => false

/-- scenario shape: one response head (written explicitly or implicitly, once), body writes,
    acknowledgements in arbitrary pieces. -/
def holds (sc : Scenario) (obs : List Obs) : Bool :=
  let wire := Obs.wire obs
  match headerLen wire with
  | none => Obs.countP (fun o => match o with | .bw _ => true | _ => false) obs == 0 || true
  | some h =>
    walk sc.events h obs 0 0 0 &&
    -- not closed and everything acknowledged at the end: the sum is the body byte count
    (if !ended sc obs && (match sc.events.getLast? with | some .ackAll => true | _ => false)
     then sumBw obs == (wire.length : Int) - h else true)

end Qhttp.C18

/- Scenario shape of the theorems: the silent application, `new`, then response-side API calls from
   idle context (within `C03.wfOps`) interleaved with acknowledgements of arbitrary sizes.  The
   invariant is in Lemmas/C18Inv.lean. -/

namespace Qhttp.C18
open Qhttp

/-- API calls (a `note` may record anything but `ev`/`w`/`bw`/`tc`, which the walk interprets)
    and acknowledgements -/
abbrev okEvent : Event → Bool := C18L.okEvent

theorem walk_eq (evs : List Event) (h : Nat) (l : List Obs) (w a : Nat) (s : Int) :
    walk evs h l w a s = C18L.walk' (ackOf evs) h l ⟨w, a, s⟩ := by
  induction l generalizing w a s with
  | nil => rfl
  | cons o l ih =>
    cases o <;> simp only [walk, C18L.walk', C18L.wok, C18L.wstep, ih, Bool.true_and, Bool.and_assoc]

theorem sumBw_eq (ack : Nat → Nat → Nat) (obs : List Obs) : sumBw obs = (C18L.track ack obs).sum := by
  rw [C18L.track_sum]; rfl

theorem ackOf_event (evs : List Event) (j : Nat) (e : Event) (h : evs[j]? = some e) (u : Nat) :
    ackOf evs j u = C18L.ackOfEvent e u := by
  unfold ackOf C18L.ackOfEvent
  rw [h]
  cases e <;> rfl

theorem headerLen_nil : headerLen [] = none := rfl

theorem headerLen_le {w : Bytes} {H : Nat} (h : headerLen w = some H) : H ≤ w.length := by
  cases hb : breakOn CRLF2 w with
  | none => simp [headerLen, hb] at h
  | some ar =>
    simp only [headerLen, hb, Option.map_some, Option.some.injEq] at h
    have h2 := Qhttp.breakOn_length hb
    have h4 : CRLF2.length = 4 := rfl
    omega

theorem sum_of_inv {ack : Nat → Nat → Nat} {st : Bool} {s : Sock} (i : C18L.WInv ack st s) {H : Nat}
    (hH : headerLen s.tcp.wire = some H) (hopen : s.tcp.devOpen = true) :
    (C18L.track ack s.log).sum = max 0 ((s.tcp.wire.length : Int) - s.tcp.unacked - H) := by
  obtain ⟨co, ph⟩ := i
  have hak := co.ak
  rcases ph with pb | ⟨_, pa⟩ | ⟨_, h, pc⟩
  · rw [pb.dev] at hopen; cases hopen
  · rw [pa.wire, headerLen_nil] at hH; cases hH
  · have hh : headerLen s.tcp.wire = some h := pc.hl
    rw [hh] at hH
    cases hH
    rcases pc.st with ⟨_, _, _, hlt, hsum⟩ | ⟨_, _, hge, hsum⟩ | ⟨_, hd, _⟩
    · rw [hsum]; omega
    · rw [hsum]; omega
    · rw [hd] at hopen; cases hopen

theorem run_inv (env : Env) (rest : List Event) (hev : rest.all okEvent = true)
    (hwf : C03.wfOps (C03.apiOps ⟨{}, .new :: rest⟩) false = true) :
    ∃ st, C18L.WInv (ackOf (.new :: rest)) st (Scenario.run env ⟨{}, .new :: rest⟩) ∧
      ((Event.new :: rest).getLast? = some .ackAll →
        (Scenario.run env ⟨{}, .new :: rest⟩).tcp.unacked = 0) :=
  C18L.run_inv env (ackOf (.new :: rest)) rest (fun j e h u => ackOf_event _ j e h u) hev hwf

/-- **C18** on the model: for every environment, the silent application `{}` and every history of
    the shape the predicate evaluated by the driver holds. -/
theorem holds_run (env : Env) (rest : List Event) (hev : rest.all okEvent = true)
    (hwf : C03.wfOps (C03.apiOps ⟨{}, .new :: rest⟩) false = true) :
    holds ⟨{}, .new :: rest⟩ (Scenario.run env ⟨{}, .new :: rest⟩).log = true := by
  obtain ⟨st, ⟨co, ph⟩, hlast⟩ := run_inv env rest hev hwf
  unfold holds
  simp only []
  rw [co.wire]
  rcases ph with pb | ⟨_, pa⟩ | ⟨e, h, pc⟩
  · rw [pb.wire, headerLen_nil]; simp only [Bool.or_true]
  · rw [pa.wire, headerLen_nil]; simp only [Bool.or_true]
  · have hh : headerLen (Scenario.run env ⟨{}, .new :: rest⟩).tcp.wire = some h := pc.hl
    rw [hh]
    simp only []
    rw [walk_eq, show (⟨0, 0, 0⟩ : C18L.WSt) = {} from rfl, pc.wk, Bool.true_and]
    split
    · rename_i hc
      simp only [Bool.and_eq_true, Bool.not_eq_true', ended, Bool.or_eq_false_iff] at hc
      obtain ⟨⟨hnotc, _⟩, hl⟩ := hc
      have hlast' : (Event.new :: rest).getLast? = some .ackAll := by
        revert hl
        cases (Event.new :: rest).getLast? with
        | none => simp
        | some e => cases e <;> simp
      have hopen : (Scenario.run env ⟨{}, .new :: rest⟩).tcp.devOpen = true := by
        cases hd : (Scenario.run env ⟨{}, .new :: rest⟩).tcp.devOpen
        · have := co.tc2 hd; rw [hnotc] at this; cases this
        · rfl
      -- everything is acknowledged and the head is on the wire, so the maximum is its second argument
      rw [sumBw_eq (ackOf (.new :: rest)), beq_iff_eq,
        sum_of_inv ⟨co, Or.inr (Or.inr ⟨e, h, pc⟩)⟩ hh hopen, hlast hlast']
      have := headerLen_le hh
      omega
    · rfl

/-- `headerLen` measures the response head, whatever body follows, when reason phrase and header
    fields are CR-free -/
theorem headerLen_head (s : Sock) (hc : C18L.cleanHead s = true) (body : Bytes) :
    headerLen (Sock.headBytes s ++ body) = some (Sock.headBytes s).length := by
  obtain ⟨a, ha, hl⟩ := C18L.breakOn_head s hc body
  simp [headerLen, ha, hl]

/-- The invariant independent of `holds`: with the head (`H` bytes) on the wire and the socket not
    closed, the notified counts add up to `max 0 (acknowledged − H)`.  That each single count is
    non-negative is in `walk`, hence in `holds_run`. -/
theorem sum_bw_eq (env : Env) (rest : List Event) (hev : rest.all okEvent = true)
    (hwf : C03.wfOps (C03.apiOps ⟨{}, .new :: rest⟩) false = true) (H : Nat)
    (hH : headerLen (Scenario.run env ⟨{}, .new :: rest⟩).tcp.wire = some H)
    (hopen : (Scenario.run env ⟨{}, .new :: rest⟩).tcp.devOpen = true) :
    sumBw (Scenario.run env ⟨{}, .new :: rest⟩).log
      = max 0 (((Scenario.run env ⟨{}, .new :: rest⟩).tcp.wire.length : Int)
                - (Scenario.run env ⟨{}, .new :: rest⟩).tcp.unacked - H) := by
  obtain ⟨st, i, _⟩ := run_inv env rest hev hwf
  rw [sumBw_eq (ackOf (.new :: rest))]
  exact sum_of_inv i hH hopen

theorem sum_bw_all_acked (env : Env) (rest : List Event) (hev : rest.all okEvent = true)
    (hwf : C03.wfOps (C03.apiOps ⟨{}, .new :: rest⟩) false = true) (H : Nat)
    (hH : headerLen (Scenario.run env ⟨{}, .new :: rest⟩).tcp.wire = some H)
    (hopen : (Scenario.run env ⟨{}, .new :: rest⟩).tcp.devOpen = true)
    (hall : (Scenario.run env ⟨{}, .new :: rest⟩).tcp.unacked = 0) :
    sumBw (Scenario.run env ⟨{}, .new :: rest⟩).log
      = ((Scenario.run env ⟨{}, .new :: rest⟩).tcp.wire.length : Int) - H := by
  rw [sum_bw_eq env rest hev hwf H hH hopen, hall]
  have := headerLen_le hH
  omega

/- the 18-byte head `HTTP/1.0 200 K\r\n\r\n`, body `xyz`, acknowledged in pieces that end exactly
   at, one byte before, and across the end of the head -/

def exEnv : Env := { url := fun p => some (p, []), errPage := fun _ _ => [60, 62] }

def exPre : List Event :=
  [.api (.status 200 (some [75])), .api (.hdr [65] [49] false), .api (.status 200 (some [75])),
   .api (.hdrs []), .api (.write [120, 121, 122]), .ack 14]

def exAt : List Event := exPre ++ [.ack 4, .ack 1, .ack 1, .api (.write [119]), .ackAll]
def exBefore : List Event := exPre ++ [.ack 3, .ack 2, .ackAll]
def exAcross : List Event := exPre ++ [.ack 6, .ack 100]
def exClosed : List Event := exPre ++ [.ack 5, .api .close, .ackAll]

example : exAt.all okEvent = true ∧ C03.wfOps (C03.apiOps ⟨{}, .new :: exAt⟩) false = true := by decide +kernel
example : exClosed.all okEvent = true ∧ C03.wfOps (C03.apiOps ⟨{}, .new :: exClosed⟩) false = true := by
  decide +kernel

def bwOf (l : List Obs) : List Int := l.filterMap fun o => match o with | .bw n => some n | _ => none

example : bwOf (Scenario.run exEnv ⟨{}, .new :: exAt⟩).log = [0, 1, 1, 2] := by decide +kernel
example : bwOf (Scenario.run exEnv ⟨{}, .new :: exBefore⟩).log = [1, 2] := by decide +kernel
example : bwOf (Scenario.run exEnv ⟨{}, .new :: exAcross⟩).log = [2, 1] := by decide +kernel
example : bwOf (Scenario.run exEnv ⟨{}, .new :: exClosed⟩).log = [1] := by decide +kernel
example : headerLen (Scenario.run exEnv ⟨{}, .new :: exAt⟩).tcp.wire = some 18 := by decide +kernel

example : holds ⟨{}, .new :: exAt⟩ (Scenario.run exEnv ⟨{}, .new :: exAt⟩).log = true := by
  decide +kernel
example : holds ⟨{}, .new :: exBefore⟩ (Scenario.run exEnv ⟨{}, .new :: exBefore⟩).log = true := by
  decide +kernel
example : holds ⟨{}, .new :: exAcross⟩ (Scenario.run exEnv ⟨{}, .new :: exAcross⟩).log = true := by
  decide +kernel
example : holds ⟨{}, .new :: exClosed⟩ (Scenario.run exEnv ⟨{}, .new :: exClosed⟩).log = true := by
  decide +kernel

/-- a history with a header byte notified is rejected -/
example : holds ⟨{}, [.new, .api .wh, .ack 5]⟩
    [.ev 0, .ev 1, .w (Sock.headBytes {}), .ev 2, .bw 5] = false := by decide +kernel

end Qhttp.C18
