import Qhttp.Model.RouteScn
import Qhttp.Props.C01
import Qhttp.Lemmas.RouteSubst
import Qhttp.Lemmas.RouteLemmas
import Qhttp.Lemmas.RouteWire
import Qhttp.Lemmas.RouteSoft
/-
  C05 — routing picks exactly one action, in the documented order.
  `specRoute` / `specSubst` are the documented behaviour, written independently of the model's
  `route` / `substitute` (hence `escNums`, `LOCATION` beside `RouteL.tokNums`, `RouteL.LOC`).
-/
namespace Qhttp.C05
open Qhttp

def isPr : Obs → Bool | .pr _ _ => true | _ => false
def prs (obs : List Obs) : List (Nat × Bytes) :=
  obs.filterMap fun o => match o with | .pr n p => some (n, p) | _ => none

/-- the last action of a run if it is a redirect or a `process` (a run that ends with a middleware has none) -/
def terminal : List Act → Option Act
  | [] => none
  | [a] => (match a with | .mw _ _ => none | t => some t)
  | _ :: l => terminal l

def LOCATION : Bytes := lit ['L','o','c','a','t','i','o','n']

def statusOf (wire : Bytes) : Option Nat :=
  match Http.parse wire with
  | some m => (Http.statusLine m.start).map (·.code)
  | none => none

def escNums : List ArgTok → List Nat
  | [] => []
  | .lit _ :: l => escNums l
  | .esc n _ :: l => n :: escNums l

def insertNat (x : Nat) : List Nat → List Nat
  | [] => [x]
  | y :: ys => if x < y then x :: y :: ys else if x = y then y :: ys else y :: insertNat x ys

/-- the distinct place-marker numbers of a template, ascending -/
def markers (toks : List ArgTok) : List Nat := (escNums toks).foldr insertNat []

def fillAll (nums : List Nat) (caps : List QStr) : List ArgTok → QStr
  | [] => []
  | .lit c :: l => c :: fillAll nums caps l
  | .esc k raw :: l =>
    (match nums.idxOf? k with
     | some i => (match caps[i]? with | some a => a | none => raw)
     | none => raw) ++ fillAll nums caps l

/-- "the template with captures substituted": capture i replaces every occurrence of the i-th
    lowest place marker of the TEMPLATE, all at once -/
def specSubst (tmpl : QStr) (caps : List QStr) : QStr :=
  let toks := argScan .normal tmpl
  fillAll (markers toks) caps toks

def specRedirect (m : Matcher) (path : QStr) : List (Nat × QStr) → Option QStr
  | [] => none
  | (pat, tmpl) :: rest =>
    match m pat path with
    | some mt => some (specSubst tmpl mt.caps)
    | none => specRedirect m path rest

/-- outcome of the sub-handler loop in the documented reading -/
inductive SubRes
  | found (t : Option Act)
  | nomatch
  | outside              -- a sub-handler pattern matched, but not at the start of the path

mutual
  /-- terminal action for a request all of whose middleware accept: first matching redirect, else
      first sub-handler whose pattern matches the START of the path (that prefix removed), else
      own processing.  `none`: outside the documented domain (a sub-handler pattern that is not
      start-anchored matched further in). -/
  def specRoute (m : Matcher) : Node → QStr → Option Act
    | .mk id _ redirects subs _, path =>
      match specRedirect m path redirects with
      | some loc => some (.redirect id loc)
      | none =>
        match specSubs m subs path with
        | .found t => t
        | .outside => none
        | .nomatch => some (.process id path)
  def specSubs (m : Matcher) : Subs → QStr → SubRes
    | .nil, _ => .nomatch
    | .cons pat child rest, path =>
      match m pat path with
      | some mt => if mt.idx = 0 then .found (specRoute m child (path.drop mt.len)) else .outside
      | none => specSubs m rest path
end

def accepted (env : Env) (sc : RouteScn) : Bool :=
  match C01.headOf sc.stream with
  | some head => (C01.expect env head).isSome
  | none => false

/-- on the observations of one routed request whose middleware all accept: exactly one terminal
    action, the one the documented order selects (`specRoute`); a redirect is a 302 whose only
    header line is the Location with the captures substituted; without root handler: 500 -/
def holds (env : Env) (sc : RouteScn) (obs : List Obs) : Bool :=
  if !accepted env sc then true else        -- a rejected request is never routed: C04
  let wire := Obs.wire obs
  match sc.root, sc.acts with
  | some root, some as =>
    match terminal as with
    | none => true                                   -- a middleware refused: C06's business
    | some _ =>
      match specRoute sc.matcher root (sc.p16.drop 1) with
      | none => true                                 -- outside the documented domain
      | some (.process id path) =>
        prs obs == [(id, be16 path)] && statusOf wire != some 302 && statusOf wire != some 301
      | some (.redirect _ loc) =>
        prs obs == [] &&
        (match Http.parse wire with
         | some m =>
           (Http.statusLine m.start).map (·.code) == some 302 &&
           m.headers == [(LOCATION, encodeLoc loc)] && m.body == []
         | none => false)
      | some (.mw _ _) => true
  | _, _ => prs obs == [] && statusOf wire == some 500

open Qhttp.RouteL

theorem mem_insertNat {x y : Nat} {s : List Nat} : y ∈ insertNat x s ↔ y = x ∨ y ∈ s := by
  induction s with
  | nil => simp [insertNat]
  | cons z zs ih =>
    simp only [insertNat]
    split
    · simp
    · split
      · next h => subst h; simp
      · simp [ih]; constructor <;> (intro h; rcases h with h | h | h <;> simp [h])

theorem mem_foldr_insertNat {y : Nat} {l : List Nat} : y ∈ l.foldr insertNat [] ↔ y ∈ l := by
  induction l with
  | nil => simp
  | cons x xs ih => simp [List.foldr, mem_insertNat, ih]

theorem insertNat_of_lt {n : Nat} {s : List Nat} (h : ∀ y ∈ s, n < y) : insertNat n s = n :: s := by
  cases s with
  | nil => rfl
  | cons y ys => simp [insertNat, h y (by simp)]

theorem foldr_insertNat_min {n : Nat} {l : List Nat} (hn : n ∈ l) (hmin : ∀ k ∈ l, n ≤ k) :
    l.foldr insertNat [] = n :: (l.filter (· ≠ n)).foldr insertNat [] := by
  induction l with
  | nil => simp at hn
  | cons x xs ih =>
    have hmin' : ∀ k ∈ xs, n ≤ k := fun k hk => hmin k (by simp [hk])
    by_cases hx : x = n
    · subst hx
      simp only [List.foldr, ne_eq, not_true_eq_false, decide_false, Bool.false_eq_true,
        not_false_eq_true, List.filter_cons_of_neg]
      by_cases hin : x ∈ xs
      · rw [ih hin hmin']; simp [insertNat]
      · have hf : xs.filter (· ≠ x) = xs := by
          apply List.filter_eq_self.2
          intro k hk; simp; intro e; subst e; exact hin hk
        simp only [ne_eq] at hf
        rw [hf]
        apply insertNat_of_lt
        intro y hy
        have hy' := mem_foldr_insertNat.1 hy
        have := hmin' y hy'
        have : y ≠ x := by intro e; subst e; exact hin hy'
        omega
    · have hin : n ∈ xs := by simpa [Ne.symm hx] using hn
      have hlt : n < x := by have := hmin x (by simp); omega
      simp only [List.foldr]
      rw [ih hin hmin']
      have : (x :: xs).filter (· ≠ n) = x :: xs.filter (· ≠ n) := by simp [hx]
      rw [this]
      simp only [List.foldr, insertNat]
      have h1 : ¬ x < n := by omega
      simp [h1, hx]

theorem mem_escNums {k : Nat} {toks : List ArgTok} : k ∈ escNums toks ↔ ∃ raw, ArgTok.esc k raw ∈ toks := by
  induction toks with
  | nil => simp [escNums]
  | cons t l ih =>
    cases t with
    | lit c => simp [escNums, ih]
    | esc j raw =>
      simp only [escNums, List.mem_cons, ih]
      constructor
      · rintro (rfl | ⟨r, hr⟩)
        · exact ⟨raw, by simp⟩
        · exact ⟨r, by simp [hr]⟩
      · rintro ⟨r, hr⟩
        simp at hr
        rcases hr with ⟨rfl, _⟩ | hr
        · simp
        · exact Or.inr ⟨r, hr⟩

theorem escNums_lits (a : QStr) (l : List ArgTok) : escNums (a.map .lit ++ l) = escNums l := by
  induction a with
  | nil => rfl
  | cons c cs ih => simpa [escNums] using ih

theorem escNums_expand (n : Nat) (a : QStr) (toks : List ArgTok) :
    escNums (expand n a toks) = (escNums toks).filter (· ≠ n) := by
  induction toks with
  | nil => rfl
  | cons t l ih =>
    cases t with
    | lit c => simpa [expand, escNums] using ih
    | esc k raw =>
      by_cases h : k = n
      · simp [expand, escNums, h, escNums_lits, ih]
      · simp [expand, escNums, h, ih]

theorem markers_of_minEsc {toks : List ArgTok} {n : Nat} (h : minEsc toks = some n) (a : QStr) :
    markers toks = n :: markers (expand n a toks) := by
  obtain ⟨⟨raw, hr⟩, hmin⟩ := minEsc_some h
  simp only [markers, escNums_expand]
  apply foldr_insertNat_min
  · exact mem_escNums.2 ⟨raw, hr⟩
  · intro k hk
    obtain ⟨r, hk⟩ := mem_escNums.1 hk
    exact hmin k r hk

theorem markers_of_minEsc_none {toks : List ArgTok} (h : minEsc toks = none) : markers toks = [] := by
  have : escNums toks = [] := by
    apply List.eq_nil_iff_forall_not_mem.2
    intro k hk
    obtain ⟨r, hk⟩ := mem_escNums.1 hk
    exact minEsc_none h k r hk
  simp [markers, this]

theorem fillAll_lits (nums : List Nat) (caps : List QStr) (a : QStr) (l : List ArgTok) :
    fillAll nums caps (a.map .lit ++ l) = a ++ fillAll nums caps l := by
  induction a with
  | nil => rfl
  | cons c cs ih => simp [fillAll, ih]

theorem fillAll_nil_nums (caps : List QStr) (toks : List ArgTok) : fillAll [] caps toks = render toks := by
  induction toks with
  | nil => rfl
  | cons t l ih => cases t <;> simp [fillAll, render, ih, List.idxOf?]

theorem fillAll_nil_caps (nums : List Nat) (toks : List ArgTok) : fillAll nums [] toks = render toks := by
  induction toks with
  | nil => rfl
  | cons t l ih =>
    cases t with
    | lit c => simp [fillAll, render, ih]
    | esc k raw => simp only [fillAll, render, ih]; cases nums.idxOf? k <;> simp

theorem fillAll_cons (n : Nat) (rest : List Nat) (a : QStr) (as : List QStr) (toks : List ArgTok) :
    fillAll (n :: rest) (a :: as) toks = fillAll rest as (expand n a toks) := by
  induction toks with
  | nil => rfl
  | cons t l ih =>
    cases t with
    | lit c => simp [fillAll, expand, ih]
    | esc k raw =>
      by_cases h : k = n
      · subst h; simp [fillAll, expand, fillAll_lits, ih, List.idxOf?_cons]
      · have h' : ¬ n = k := fun e => h e.symm
        simp only [fillAll, expand, h, if_false, ih, List.idxOf?_cons, beq_iff_eq, h']
        cases rest.idxOf? k <;> simp

theorem render_expandAll (caps : List QStr) :
    ∀ toks, render (expandAll toks caps) = fillAll (markers toks) caps toks := by
  induction caps with
  | nil => intro toks; simp [expandAll, fillAll_nil_caps]
  | cons a as ih =>
    intro toks
    simp only [expandAll]
    cases hm : minEsc toks with
    | none => simp [markers_of_minEsc_none hm, fillAll_nil_nums]
    | some n => simp only [markers_of_minEsc hm a, fillAll_cons, ih]

def Asc : List Nat → Prop
  | [] => True
  | x :: l => (∀ y ∈ l, x < y) ∧ Asc l

theorem asc_insertNat (x : Nat) : ∀ {s : List Nat}, Asc s → Asc (insertNat x s)
  | [], _ => ⟨by simp, trivial⟩
  | y :: ys, h => by
    simp only [insertNat]
    split
    · next hlt =>
      refine ⟨?_, h⟩
      intro z hz
      simp at hz
      rcases hz with rfl | hz
      · exact hlt
      · exact Nat.lt_trans hlt (h.1 z hz)
    · split
      · exact h
      · next h1 h2 =>
        refine ⟨?_, asc_insertNat x h.2⟩
        intro z hz
        rcases mem_insertNat.1 hz with rfl | hz
        · omega
        · exact h.1 z hz

theorem asc_foldr_insertNat (l : List Nat) : Asc (l.foldr insertNat []) := by
  induction l with
  | nil => trivial
  | cons x xs ih => exact asc_insertNat x ih

theorem idxOf_asc {k : Nat} : ∀ {L : List Nat}, Asc L → k ∈ L → L.idxOf? k = some (L.filter (· < k)).length
  | [], _, h => by simp at h
  | y :: ys, ha, h => by
    by_cases hy : y = k
    · subst hy
      have : ys.filter (· < y) = [] := by
        apply List.filter_eq_nil_iff.2
        intro z hz; have := ha.1 z hz; simp; omega
      simp [List.idxOf?_cons, this]
    · have hin : k ∈ ys := by simpa [Ne.symm hy] using h
      have hlt : y < k := ha.1 k hin
      simp [List.idxOf?_cons, hy, idxOf_asc ha.2 hin, hlt]

theorem filter_lt_succ (k : Nat) : ∀ {L : List Nat}, Asc L →
    (L.filter (· < k + 1)).length = (L.filter (· < k)).length + (if k ∈ L then 1 else 0)
  | [], _ => by simp
  | y :: ys, ha => by
    have ih := filter_lt_succ k ha.2
    by_cases h1 : y < k
    · have h2 : y < k + 1 := by omega
      have h3 : k ≠ y := by omega
      simp only [List.filter_cons, h1, h2, decide_true, if_true, List.length_cons, ih, List.mem_cons, h3, false_or]
      omega
    · by_cases h2 : y = k
      · subst h2
        have hnot : y ∉ ys := fun hm => by have := ha.1 y hm; omega
        simp [ih, hnot]
      · have h3 : ¬ y < k + 1 := by omega
        have h4 : k ≠ y := fun e => h2 e.symm
        simp only [List.filter_cons, h1, h3, decide_false, Bool.false_eq_true, if_false, ih, List.mem_cons, h4, false_or]

/-- `rank` is the counting loop of `substituteCaptures` -/
theorem rank_eq_filter (nums : List Nat) (k : Nat) :
    rank nums k = ((nums.foldr insertNat []).filter (· < k)).length := by
  induction k with
  | zero =>
    have : ∀ L : List Nat, (L.filter (· < 0)).length = 0 := by intro L; induction L <;> simp_all
    rw [rank, this]
  | succ k ih =>
    rw [rank, ih, filter_lt_succ k (asc_foldr_insertNat nums)]
    simp [mem_foldr_insertNat]

theorem idxOf_markers {nums : List Nat} {k : Nat} (h : k ∈ nums) :
    (nums.foldr insertNat []).idxOf? k = some (rank nums k) := by
  rw [rank_eq_filter]
  exact idxOf_asc (asc_foldr_insertNat nums) (mem_foldr_insertNat.2 h)

theorem escNums_eq_tokNums (toks : List ArgTok) : escNums toks = tokNums toks := by
  induction toks with
  | nil => rfl
  | cons t l ih => cases t <;> simp [escNums, tokNums, ih]

theorem fillAll_eq_fillTok (nums : List Nat) (caps : List QStr) (toks : List ArgTok) :
    fillAll nums caps toks = fillTok (fun k => (nums.idxOf? k).bind fun i => caps[i]?) toks := by
  induction toks with
  | nil => rfl
  | cons t l ih =>
    cases t with
    | lit c => simp [fillAll, fillTok, ih]
    | esc k raw =>
      simp only [fillAll, fillTok, ih]
      cases nums.idxOf? k with
      | none => rfl
      | some i => simp only [Option.bind_some]; rfl

/-- **key lemma**: the substitution `Handler::route` performs is the documented one, whatever the
    captures contain (`%`, digits, markers, nothing) -/
theorem substitute_eq_specSubst (tmpl : QStr) (caps : List QStr) :
    substitute tmpl caps = specSubst tmpl caps := by
  unfold substitute specSubst
  rw [fillGo_eq, presentGo_eq, tokGo_eq_argScan, fillAll_eq_fillTok]
  apply fillTok_congr
  intro k hk
  simp only [markers, escNums_eq_tokNums]
  rw [idxOf_markers hk]
  rfl

/-- one `QString::arg` call per capture is the documented substitution exactly on `MarkerFree` inputs -/
theorem substituteChained_eq_specSubst (tmpl : QStr) (caps : List QStr) (h : MarkerFree tmpl caps = true) :
    substituteChained tmpl caps = specSubst tmpl caps := by
  rw [substituteChained_eq_render tmpl caps h, render_expandAll]; rfl

theorem substitute_eq_chained (tmpl : QStr) (caps : List QStr) (h : MarkerFree tmpl caps = true) :
    substitute tmpl caps = substituteChained tmpl caps := by
  rw [substitute_eq_specSubst, substituteChained_eq_specSubst tmpl caps h]

theorem substitute_eq_chained_of_separated (tmpl : QStr) (caps : List QStr)
    (ht : Separated tmpl = true) (hc : ∀ a ∈ caps, Plain a = true) :
    substitute tmpl caps = substituteChained tmpl caps :=
  substitute_eq_chained tmpl caps (markerFree_of_separated ht hc)

theorem substitute_one (tmpl a : QStr) : substitute tmpl [a] = substituteChained tmpl [a] :=
  substitute_eq_chained tmpl [a] (markerFree_one tmpl a)

theorem terminal_append_single (l : List Act) (t : Act) (ht : isTerminalAct t = true) :
    terminal (l ++ [t]) = some t := by
  induction l with
  | nil => cases t <;> simp_all [terminal, isTerminalAct]
  | cons a l ih =>
    cases hl : l ++ [t] with
    | nil => simp at hl
    | cons b r => simp only [List.cons_append, hl, terminal]; rw [← hl]; exact ih

theorem terminal_map_mwAct (l : List (Nat × Bool)) : terminal (l.map mwAct) = none := by
  induction l with
  | nil => rfl
  | cons e l ih =>
    cases hl : l.map mwAct with
    | nil => rw [List.map_cons, hl]; rfl
    | cons b r => rw [List.map_cons, hl]; simp only [terminal]; rw [← hl]; exact ih

theorem filter_terminal_map_mwAct (l : List (Nat × Bool)) : (l.map mwAct).filter isTerminalAct = [] := by
  induction l with
  | nil => rfl
  | cons e l ih => simp [mwAct, isTerminalAct, ih]

/-- **C05.1** at most one terminal action (`.redirect` / `.process`), it is the last element,
    there is exactly one iff no consulted middleware refused, and every other element is `.mw` -/
theorem route_terminal_count (m : Matcher) (n : Node) (path : QStr) :
    ((route m n path).filter isTerminalAct).length = (if noRefusal (route m n path) then 1 else 0) ∧
    (route m n path).dropLast.all (fun a => !isTerminalAct a) = true ∧
    (∀ a ∈ route m n path, isTerminalAct a = true → (route m n path).getLast? = some a) ∧
    ((terminal (route m n path)).isSome = noRefusal (route m n path)) := by
  obtain ⟨pre, hp, ⟨t, ht, hr, hn⟩ | ⟨id, hr, hn⟩⟩ := route_cases m n path
  · rw [hn, hr]
    refine ⟨by simp [List.filter_append, filter_terminal_map_mwAct, ht], ?_, ?_, by simp [terminal_append_single _ _ ht]⟩
    · simp [mwAct, isTerminalAct]
    · intro a ha hta
      rcases List.mem_append.1 ha with h | h
      · obtain ⟨e, _, rfl⟩ := List.mem_map.1 h
        simp [mwAct, isTerminalAct] at hta
      · rw [List.mem_singleton.1 h]; exact List.getLast?_concat ..
  · rw [hn, hr]
    have : pre.map mwAct ++ [Act.mw id false] = (pre ++ [(id, false)]).map mwAct := by simp [mwAct]
    refine ⟨?_, ?_, ?_, ?_⟩
    · rw [this, filter_terminal_map_mwAct]; rfl
    · simp [mwAct, isTerminalAct]
    · intro a ha hta
      rw [this] at ha
      simp only [List.mem_map] at ha
      obtain ⟨e, _, rfl⟩ := ha
      simp [mwAct, isTerminalAct] at hta
    · rw [this, terminal_map_mwAct]; rfl

theorem firstRedirect_eq_spec (m : Matcher) (path : QStr) (reds : List (Nat × QStr)) :
    firstRedirect m path reds = specRedirect m path reds := by
  induction reds with
  | nil => rfl
  | cons r l ih =>
    obtain ⟨pat, tmpl⟩ := r
    simp only [firstRedirect, specRedirect]
    cases hm : m pat path with
    | none => exact ih
    | some mt => simp [substitute_eq_specSubst]

mutual
  theorem termOf_eq_spec (m : Matcher) : ∀ (n : Node) (path : QStr) (t : Act),
      specRoute m n path = some t → termOf m n path = t
    | .mk id mws reds subs own, path, t => by
      rw [specRoute, termOf, firstRedirect_eq_spec m path reds]
      cases hr : specRedirect m path reds with
      | some loc => simp only; intro hs; cases hs; rfl
      | none =>
        simp only
        intro hs
        have := termSubs_eq_spec m subs path
        cases hss : specSubs m subs path
        · rename_i t'
          rw [hss] at hs this
          simp only at hs
          subst hs
          simp only at this
          rw [this t rfl]
        · rw [hss] at hs this
          simp only at hs this
          rw [this]
          cases hs; rfl
        · rw [hss] at hs; cases hs
  theorem termSubs_eq_spec (m : Matcher) : ∀ (s : Subs) (path : QStr),
      match specSubs m s path with
      | .found t' => ∀ t, t' = some t → termSubs m s path = some t
      | .outside => True
      | .nomatch => termSubs m s path = none
    | .nil, path => by simp [specSubs, termSubs]
    | .cons pat child rest, path => by
      rw [specSubs, termSubs]
      cases h : m pat path with
      | none => simp only; exact termSubs_eq_spec m rest path
      | some mt =>
        simp only
        by_cases hi : mt.idx = 0
        · simp only [hi, if_true]
          intro t ht
          rw [termOf_eq_spec m child _ t ht]
        · simp [hi]
end

/-- **C05.2** when no consulted middleware refuses, inside the documented domain (`specRoute`
    defined), routing performs exactly the terminal action the documentation selects -/
theorem route_eq_spec (m : Matcher) (n : Node) (path : QStr) (t : Act)
    (hacc : noRefusal (route m n path) = true) (hspec : specRoute m n path = some t) :
    terminal (route m n path) = some t := by
  have ht := termOf_eq_spec m n path t hspec
  rw [noRefusal_route] at hacc
  rw [route_struct, tailOf, hacc, if_pos rfl, ht]
  exact terminal_append_single _ _ (ht ▸ termOf_terminal m n path)

/-- **C05.3** the root sees the path without its first unit; no root: no routing (500) -/
theorem serverRoute_root (m : Matcher) (r : Node) (p : QStr) :
    serverRoute m (some r) p = some (route m r (p.drop 1)) ∧ serverRoute m none p = none := ⟨rfl, rfl⟩

def isHexUp (b : UInt8) : Bool := (48 ≤ b && b ≤ 57) || (65 ≤ b && b ≤ 70)

theorem hexUp_isHexUp : ∀ n, n < 16 → isHexUp (hexUp n) = true := by decide +kernel

theorem pctEncode_mem (keep : UInt8 → Bool) (bs : Bytes) :
    ∀ b ∈ pctEncode keep bs, keep b = true ∨ b = 37 ∨ isHexUp b = true := by
  induction bs with
  | nil => simp [pctEncode]
  | cons c cs ih =>
    intro b hb
    simp only [pctEncode, List.mem_append] at hb
    rcases hb with hb | hb
    · split at hb
      · next hk => simp at hb; subst hb; exact Or.inl hk
      · simp at hb
        have hlt : c.toNat < 256 := UInt8.toNat_lt c
        rcases hb with rfl | rfl | rfl
        · exact Or.inr (Or.inl rfl)
        · exact Or.inr (Or.inr (hexUp_isHexUp _ (by omega)))
        · exact Or.inr (Or.inr (hexUp_isHexUp _ (by omega)))
    · exact ih b hb

/-- **C05.4** every byte of a Location value is a kept byte, '%' or an upper-case hex digit; in
    particular no CR, LF or SP, whatever the captures contained -/
theorem encodeLoc_clean (loc : QStr) :
    ∀ b ∈ encodeLoc loc, (locKeep b = true ∨ b = 37 ∨ isHexUp b = true) ∧ b ≠ 13 ∧ b ≠ 10 ∧ b ≠ 32 := by
  intro b hb
  have h := pctEncode_mem locKeep _ b hb
  refine ⟨h, ?_, ?_, ?_⟩ <;> (intro e; subst e; revert h; decide)

theorem accepted_iff (env : Env) (sc : RouteScn) :
    accepted env sc = true ↔ Accepts env sc.stream := by
  unfold accepted C01.headOf Accepts
  constructor
  · intro h
    cases hb : breakOn CRLF2 sc.stream with
    | none => simp [hb] at h
    | some hr =>
      obtain ⟨head, rest⟩ := hr
      simp only [hb, Option.map_some] at h
      obtain ⟨s, hs⟩ := Option.isSome_iff_exists.1 h
      obtain ⟨rh, p, q, h1, h2, _⟩ := (C01.expect_eq_some_iff _ _ _).1 hs
      exact ⟨head, rest, rh, p, q, rfl, h1, h2⟩
  · rintro ⟨head, rest, rh, p, q, hb, h1, h2⟩
    simp only [hb, Option.map_some]
    exact Option.isSome_iff_exists.2 ⟨_, (C01.expect_eq_some_iff _ _ _).2 ⟨rh, p, q, h1, h2, rfl⟩⟩

theorem stream_breaks (sc : RouteScn) : ∃ head rest, breakOn CRLF2 sc.stream = some (head, rest) := by
  have : (breakOn CRLF2 sc.stream).isSome := by
    rw [breakOn_isSome_iff]
    exact ⟨lit ['G','E','T',' '] ++ sc.raw ++ lit [' ','H','T','T','P','/','1','.','1'], [], by simp [RouteScn.stream]⟩
  obtain ⟨⟨h, r⟩, e⟩ := Option.isSome_iff_exists.1 this
  exact ⟨h, r, e⟩

/-- the history of an accepted routed request -/
theorem run_log (env : Env) (sc : RouteScn) (hacc : accepted env sc = true) :
    match sc.root with
    | none =>
      (Scenario.run env sc.scenario).log = [.ev 0, .ev 1, .hp] ++
        ([.w (headOf 500 (statusReason 500) (errHeaders [] (env.errPage 500 (statusReason 500)).length))] ++
          wObs (env.errPage 500 (statusReason 500)) ++ [.tc]) ++ [.ev 2]
    | some r =>
      ∃ pre t, allAccept pre = true ∧ isLastAct t = true ∧
        route sc.matcher r (sc.p16.drop 1) = pre.map mwAct ++ [t] ∧
        (Scenario.run env sc.scenario).log =
          [.ev 0, .ev 1, .hp] ++ (pre.map mwObs ++ lastObs env r t) ++ [.ev 2] := by
  have hhead := (accepted_iff env sc).1 hacc
  have hrun : Scenario.run env sc.scenario = Sock.run env sc.app [.new, .feed sc.stream, .turn] := rfl
  cases hroot : sc.root with
  | none =>
    simp only
    rw [hrun]
    apply run_ok env (app_silent sc) hhead (ops := [.err 500 none])
    · intro s; simp [RouteScn.app, hroot]
    · intro s1 h1 _ _ hh _
      exact apis_500 env sc.app h1 hh
  | some r =>
    simp only
    have hacts : sc.acts = some (route sc.matcher r (sc.p16.drop 1)) := by
      simp [RouteScn.acts, serverRoute, hroot]
    have hops : ∀ s, sc.app.onHp s = (route sc.matcher r (sc.p16.drop 1)).flatMap (RouteScn.actOps r) := by
      intro s; simp [RouteScn.app, hroot, hacts]
    obtain ⟨pre, hpre, ⟨t, ht, hr, _⟩ | ⟨id, hr, _⟩⟩ := route_cases sc.matcher r (sc.p16.drop 1)
    · have hl : isLastAct t = true := by cases t <;> first | rfl | cases ht
      refine ⟨pre, t, hpre, hl, hr, ?_⟩
      rw [hrun]
      apply run_ok env (app_silent sc) hhead hops
      intro s1 h1 hc hre hh _
      rw [hr]
      exact apis_route env sc.app r h1 hc hre hh pre hpre t hl
    · refine ⟨pre, .mw id false, hpre, rfl, hr, ?_⟩
      rw [hrun]
      apply run_ok env (app_silent sc) hhead hops
      intro s1 h1 hc hre hh _
      rw [hr]
      exact apis_route env sc.app r h1 hc hre hh pre hpre _ rfl

theorem prs_append (a b : List Obs) : prs (a ++ b) = prs a ++ prs b := by simp [prs, List.filterMap_append]

theorem prs_cons (o : Obs) (l : List Obs) :
    prs (o :: l) = (match o with | .pr n p => [(n, p)] | _ => []) ++ prs l := by
  cases o <;> rfl

theorem prs_mwObs (pre : List (Nat × Bool)) : prs (pre.map mwObs) = [] := by
  induction pre with
  | nil => rfl
  | cons e l ih => simp only [List.map_cons, prs_cons, mwObs, ih]; rfl

theorem prs_wObs (b : Bytes) : prs (wObs b) = [] := by unfold wObs; split <;> rfl

theorem prs_log (pre : List (Nat × Bool)) (x : List Obs) :
    prs ([Obs.ev 0, Obs.ev 1, Obs.hp] ++ (pre.map mwObs ++ x) ++ [Obs.ev 2]) = prs x := by
  simp only [prs_append, prs_mwObs, prs_cons]; simp [prs]

theorem wire_log (pre : List (Nat × Bool)) (x : List Obs) :
    Obs.wire ([Obs.ev 0, Obs.ev 1, Obs.hp] ++ (pre.map mwObs ++ x) ++ [Obs.ev 2]) = Obs.wire x := by
  simp only [Obs.wire_append, wire_mwObs]; simp [Obs.wire]

theorem wire_err (h : Bytes) (b : Bytes) : Obs.wire ([Obs.w h] ++ wObs b ++ [Obs.tc]) = h ++ b := by
  simp only [Obs.wire_append, wire_wObs]; simp [Obs.wire]

theorem prs_err (h : Bytes) (b : Bytes) : prs ([Obs.w h] ++ wObs b ++ [Obs.tc]) = [] := by
  simp only [prs_append, prs_wObs, prs_cons]; simp [prs]

theorem statusOf_headOf {c : Int} (hc : 0 ≤ c) {reason : Bytes} (hr : CR ∉ reason) {hs : HeaderMap}
    (hok : ∀ e ∈ hs, Http.EntryOk e) (body : Bytes) : statusOf (headOf c reason hs ++ body) = some c.natAbs := by
  obtain ⟨h1, h2⟩ := parse_headOf hc hr hok body
  unfold statusOf
  rw [h1]
  simp only
  rw [h2]
  rfl

theorem errHeaders_nil_ok (n : Nat) : ∀ e ∈ errHeaders [] n, Http.EntryOk e := by
  rw [errHeaders_nil]
  intro e he
  simp at he
  rcases he with rfl | rfl
  · exact entryOk_cl n
  · exact entryOk_ct

theorem encodeLoc_no_CR (loc : QStr) : CR ∉ encodeLoc loc := fun h => (encodeLoc_clean loc _ h).2.1 rfl

/-- **C05.5**: for every environment and every `route` scenario the predicate evaluated on
    implementation traces holds on the run of the model.  (Requests that are not accepted, runs in
    which a middleware refuses and trees outside the documented domain make `holds` true by definition.) -/
theorem holds_run (env : Env) (sc : RouteScn) :
    holds env sc (Scenario.run env sc.scenario).log = true := by
  unfold holds
  cases hacc : accepted env sc with
  | false => rfl
  | true =>
    simp only [Bool.not_true, Bool.false_eq_true, if_false]
    have hlog := run_log env sc hacc
    cases hroot : sc.root with
    | none =>
      rw [hroot] at hlog
      simp only at hlog ⊢
      have e : ∀ x : List Obs, [Obs.ev 0, Obs.ev 1, Obs.hp] ++ x ++ [Obs.ev 2] =
          [Obs.ev 0, Obs.ev 1, Obs.hp] ++ (([] : List (Nat × Bool)).map mwObs ++ x) ++ [Obs.ev 2] := fun _ => rfl
      rw [hlog, e, wire_log, prs_log, wire_err, prs_err,
        statusOf_headOf (by decide) (by decide) (errHeaders_nil_ok _)]
      rfl
    | some r =>
      rw [hroot] at hlog
      obtain ⟨pre, t, hpre, hlast, hr, hlog⟩ := hlog
      have hacts : sc.acts = some (route sc.matcher r (sc.p16.drop 1)) := by
        simp [RouteScn.acts, serverRoute, hroot]
      simp only [hacts]
      by_cases ht : isTerminalAct t = true
      · -- the run ends with a terminal action: it is the one `specRoute` selects
        have hT := terminal_append_single (pre.map mwAct) t ht
        rw [← hr] at hT
        rw [hT]
        simp only
        cases hspec : specRoute sc.matcher r (sc.p16.drop 1) with
        | none => rfl
        | some t' =>
          have hno : noRefusal (route sc.matcher r (sc.p16.drop 1)) = true := by
            rw [← (route_terminal_count _ _ _).2.2.2, hT]; rfl
          have ht' := route_eq_spec _ _ _ _ hno hspec
          rw [hT] at ht'
          cases ht'
          rw [hlog, wire_log, prs_log]
          cases t with
          | mw i ok => rfl
          | process id path =>
            simp only [lastObs, prs_cons]
            rw [Obs.wire_cons, Obs.wire_single rfl, List.nil_append]
            by_cases hown : (RouteScn.ownOf r id).getD false = true
            · simp only [hown, if_true]
              rw [wire_err, prs_err, statusOf_headOf (by decide) (by decide) (by simp)]
              simp
            · simp only [hown, Bool.false_eq_true, if_false]
              rw [wire_err, prs_err, statusOf_headOf (by decide) (by decide) (errHeaders_nil_ok _)]
              simp
          | redirect id loc =>
            obtain ⟨h1, h2⟩ := parse_headOf (c := 302) (by decide) (reason := statusReason 302) (by decide)
              (hs := [(LOC, encodeLoc loc)])
              (by intro e he; simp at he; subst he; exact entryOk_loc (encodeLoc_no_CR loc)) []
            have hw : Obs.wire (lastObs env r (.redirect id loc)) =
                headOf 302 (statusReason 302) [(LOC, encodeLoc loc)] ++ [] := by
              simp [lastObs, Obs.wire]
            have hp : prs (lastObs env r (.redirect id loc)) = [] := rfl
            simp only
            rw [hw, hp, h1]
            simp only [h2]
            simp [LOCATION, LOC]
      · -- the run ends with a refusal: no terminal action, C06's business
        cases t with
        | mw i ok =>
          have ok' : ok = false := by simpa [isLastAct] using hlast
          subst ok'
          have e : pre.map mwAct ++ [Act.mw i false] = (pre ++ [(i, false)]).map mwAct := by simp [mwAct]
          rw [hr, e, terminal_map_mwAct]
        | redirect _ _ => exact absurd rfl ht
        | process _ _ => exact absurd rfl ht

namespace Ex
/-- a toy `QRegExp`: 0 = `^a/`, 1 = `x` found at index 1 (not anchored), 2 = `^(.)/(.)$`, 3 = `^(.)(.)$` -/
def toyM : Matcher := fun pat s =>
  match pat, s with
  | 0, 97 :: 47 :: _ => some ⟨0, 2, []⟩
  | 1, _ :: 120 :: _ => some ⟨1, 1, []⟩
  | 2, [a, 47, b] => some ⟨0, 3, [[a], [b]]⟩
  | 3, [a, b] => some ⟨0, 2, [[a], [b]]⟩
  | _, _ => none

/-- "/%2/%1" -/
def tmpl21 : QStr := [47, 37, 50, 47, 37, 49]
def leaf (ok : Bool) : Node := .mk 2 [(20, ok)] [(2, tmpl21)] .nil true
def mid (ok ok2 : Bool) : Node := .mk 1 [(10, true), (11, ok)] [] (.cons 0 (leaf ok2) .nil) false
def root (ok ok2 : Bool) : Node := .mk 0 [(0, true)] [(2, tmpl21)] (.cons 0 (mid ok ok2) .nil) false
/-- "a/a/b/c" -/
def path : QStr := [97, 47, 97, 47, 98, 47, 99]

example : route toyM (root true true) path =
    [.mw 0 true, .mw 10 true, .mw 11 true, .mw 20 true, .redirect 2 [47, 99, 47, 98]] := by decide +kernel
example : specRoute toyM (root true true) path = some (.redirect 2 [47, 99, 47, 98]) := by decide +kernel
example : noRefusal (route toyM (root true true) path) = true := by decide +kernel
example : route toyM (root false true) path = [.mw 0 true, .mw 10 true, .mw 11 false] := by decide +kernel
example : chain toyM (root false true) path = [(0, true), (10, true), (11, false), (20, true)] := by decide +kernel
/-- not start-anchored sub pattern: outside the documented domain -/
def rootU : Node := .mk 0 [] [] (.cons 1 (leaf true) .nil) true
example : specRoute toyM rootU [98, 120, 99] = none := by decide +kernel
example : route toyM rootU [98, 120, 99] = [.mw 20 true, .process 2 [120, 99]] := by decide +kernel

def q (s : List Char) : QStr := s.map fun c => UInt16.ofNat c.toNat

/-! inputs on which chained `arg()` calls differ from the single pass (defect D12, DESIGN.md section 16) -/
-- a capture that contains a marker
example : substitute (q ['/','%','1','/','%','2']) [q ['a','%','2'], q ['x']] = q ['/','a','%','2','/','x'] ∧
    specSubst (q ['/','%','1','/','%','2']) [q ['a','%','2'], q ['x']] = q ['/','a','%','2','/','x'] ∧
    substituteChained (q ['/','%','1','/','%','2']) [q ['a','%','2'], q ['x']] = q ['/','a','x','/','x'] ∧
    Plain (q ['a','%','2']) = false := by decide +kernel
-- a capture that ends in '%', followed in the template by a digit
example : substitute (q ['/','%','1','0','5']) [q ['%'], q ['x']] = q ['/','%','5'] ∧
    specSubst (q ['/','%','1','0','5']) [q ['%'], q ['x']] = q ['/','%','5'] ∧
    substituteChained (q ['/','%','1','0','5']) [q ['%'], q ['x']] = q ['/','x'] ∧
    Separated (q ['/','%','1','0','5']) = true ∧ Plain (q ['%']) = false := by decide +kernel
-- a template marker glued to a pending '%' and a capture that starts with a digit
example : substitute (q ['/','%','%','1']) [q ['1','2','3'], q ['x']] = q ['/','%','1','2','3'] ∧
    specSubst (q ['/','%','%','1']) [q ['1','2','3'], q ['x']] = q ['/','%','1','2','3'] ∧
    substituteChained (q ['/','%','%','1']) [q ['1','2','3'], q ['x']] = q ['/','x','3'] ∧
    Separated (q ['/','%','%','1']) = false ∧ Plain (q ['1','2','3']) = true := by decide +kernel
-- a one-digit marker directly followed by a lower one
example : substitute (q ['/','%','2','%','1']) [q ['3'], q ['x']] = q ['/','x','3'] ∧
    specSubst (q ['/','%','2','%','1']) [q ['3'], q ['x']] = q ['/','x','3'] ∧
    substituteChained (q ['/','%','2','%','1']) [q ['3'], q ['x']] = q ['/','x'] ∧
    Separated (q ['/','%','2','%','1']) = false := by decide +kernel
-- an EMPTY capture that lets the template's own text close up into a marker
example : substitute (q ['/','%','%','1','5','5']) [[], q ['x']] = q ['/','%','5'] ∧
    specSubst (q ['/','%','%','1','5','5']) [[], q ['x']] = q ['/','%','5'] ∧
    substituteChained (q ['/','%','%','1','5','5']) [[], q ['x']] = q ['/','x'] ∧ Plain [] = true := by decide +kernel
example : MarkerFree (q ['/','%','1','/','%','2']) [q ['a','%','2'], q ['x']] = false ∧
    MarkerFree (q ['/','%','1','/','%','2']) [q ['a','%'], q ['2']] = true := by decide +kernel
example : Separated (q ['/','%','2','/','%','1']) = true ∧ Separated (q ['/','%','1','%','1']) = true ∧
    Separated (q ['/','n','/','%','L','1','/','%','1','2','x','%']) = true := by decide +kernel
example : Plain (q ['1','2','3']) = true ∧ Plain [] = true ∧ Plain (q ['5','0','%','x','%','%','y']) = true := by decide +kernel
/-! Qt's marker syntax, kept by `substituteCaptures`: `%0` is a marker (number 0), at most two digits
    are read (`%123` = marker 12, then `3`), `%L1` = `%1`, a lone `%` / `%L` is text, captures
    beyond the number of distinct markers are ignored, markers beyond the captures stay, and
    `QChar::digitValue()` accepts the digits of every script (U+0661 ARABIC-INDIC DIGIT ONE) -/
example : substitute (q ['/','%','0','/','%','1']) [q ['a'], q ['b']] = q ['/','a','/','b'] ∧
    substitute (q ['/','%','1','2','3']) [q ['a']] = q ['/','a','3'] ∧
    substitute (q ['/','%','L','1','/','%','1','%']) [q ['a'], q ['b']] = q ['/','a','/','a','%'] ∧
    substitute (q ['/','%','L','/','%']) [q ['a']] = q ['/','%','L','/','%'] ∧
    substitute (q ['/','%','5','/','%','3','/','%','7']) [q ['a'], q ['b']] = q ['/','b','/','a','/','%','7'] ∧
    substitute (q ['/','%','1']) [q ['a'], q ['b']] = q ['/','a'] ∧
    substitute [47, 37, 0x661, 47, 37, 50] [q ['a'], q ['b']] = q ['/','a','/','b'] := by decide +kernel

/-! `holds` is not trivially true on these runs: accepted, all middleware accept, inside the domain -/
def envX : Env := { url := fun t => some (t, []), errPage := fun _ _ => [33] }
/-- GET /a/a/b/c (redirect at depth 3), the three-level tree; `ok`: verdict of middleware 11 -/
def scEx (ok : Bool) : RouteScn :=
  { root := some (root ok true), matcher := toyM, raw := lit ['/','a','/','a','/','b','/','c'], p16 := 47 :: path }
/-- GET /a/zz: own processing of the inner node (default 404) -/
def scPr : RouteScn :=
  { root := some (root true true), matcher := toyM, raw := lit ['/','a','/','z','z'], p16 := [47, 97, 47, 122, 122] }
def scNoRoot : RouteScn := { scPr with root := none }

example : accepted envX (scEx true) = true ∧
    (terminal (route toyM (root true true) path)).isSome = true ∧
    (specRoute toyM (root true true) path).isSome = true := by decide +kernel
example : holds envX (scEx true) (Scenario.run envX (scEx true).scenario).log = true := by decide +kernel
example : terminal (route toyM (root true true) [97, 47, 122, 122]) = some (.process 1 [122, 122]) := by decide +kernel
example : holds envX scPr (Scenario.run envX scPr.scenario).log = true := by decide +kernel
example : holds envX scNoRoot (Scenario.run envX scNoRoot.scenario).log = true := by decide +kernel
/-- … and it does reject a wrong history: the same run with the response bytes removed -/
example : holds envX (scEx true)
    ((Scenario.run envX (scEx true).scenario).log.filter fun o => !Obs.isW o) = false := by decide +kernel
end Ex

/-- **C05.5 for soft refusals**: without a refusal the soft scenario is the ordinary one; with a
    refusal there is no terminal action, which is C06's business -/
theorem holds_run_soft (env : Env) (sc : RouteScn) :
    holds env sc (Scenario.run env sc.softScenario).log = true := by
  rcases RouteSoftL.softScenario_cases sc with e | ⟨r, pre, id, hroot, hpre, hr⟩
  · rw [e]
    exact holds_run env sc
  · unfold holds
    cases hacc : accepted env sc with
    | false => rfl
    | true =>
      have hacts : sc.acts = some (route sc.matcher r (sc.p16.drop 1)) := by
        simp [RouteScn.acts, serverRoute, hroot]
      have e : pre.map mwAct ++ [Act.mw id false] = (pre ++ [(id, false)]).map mwAct := by simp [mwAct]
      simp only [Bool.not_true, Bool.false_eq_true, if_false, hroot, hacts]
      rw [hr, e, terminal_map_mwAct]

namespace Ex
/-- GET /x on a root whose only middleware (7) refuses -/
def scSoft : RouteScn :=
  { root := some (.mk 0 [(7, false)] [] .nil true), matcher := toyM, raw := lit ['/','x'], p16 := [47, 120] }

example : accepted envX scSoft = true ∧
    holds envX scSoft (Scenario.run envX scSoft.softScenario).log = true := by decide +kernel
-- the soft run differs from the ordinary one: the refuser's own response, no close by the library
example : Obs.countP Obs.isTc (Scenario.run envX scSoft.softScenario).log = 0 ∧
    Obs.countP Obs.isTc (Scenario.run envX scSoft.scenario).log = 1 := by decide +kernel
-- with accepting middleware the soft scenario is the ordinary one and `holds` is not trivial there
example : holds envX scPr (Scenario.run envX scPr.softScenario).log = true := by decide +kernel
end Ex

end Qhttp.C05
