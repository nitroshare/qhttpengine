import Qhttp.Model.Tls
/-
  C20 — with TLS configured, nothing is routed before a completed handshake (partial).

  Model/Tls.lean is the gate of `Server::incomingConnection` only: `request t` is one whole request,
  at most one per connection is routed; that clear text cannot complete a handshake is QSslSocket's
  guarantee (`handshakeDone` is an event).  `holds` is what the driver evaluates; the theorems cover
  its routing clause (`gate`) and the release after a failed handshake (`error_releases`).
  `.misc 41 b`: bytes the test client received in the clear, recorded by the harness only (the
  model writes no response).  `.misc 40 [1]`: the connection's objects were released.
-/
namespace Qhttp.C20
open Qhttp Tls

def routedTargets (obs : List Obs) : List Bytes :=
  obs.filterMap fun o => match o with | .pr _ t => some t | _ => none

def clearHttp (obs : List Obs) : Bool :=
  obs.any fun o => match o with | .misc 41 b => startsWith (lit ['H','T','T','P','/']) b | _ => false

/-- what a client of the given kind did: `raw` sends bytes in the clear (never a handshake),
    `ssl` completes a handshake and sends one request for `target` -/
inductive Client
  | raw (bytes : Bytes)
  | ssl (target : Bytes)
deriving Repr, DecidableEq

/-- on the observations of one connection: on a TLS server a clear-text client never gets a
    handler or middleware invoked and never receives an HTTP response in clear text, and its
    connection is released; over a completed handshake (and on a plain server) a request is
    routed exactly as over plain TCP: once, with the same target -/
def holds (tls : Bool) (c : Client) (obs : List Obs) : Bool :=
  !obs.any Obs.isCrash &&
  (match tls, c with
   | true, .raw _ => routedTargets obs == [] && !clearHttp obs && obs.any (· == .misc 40 [1])
   | _, .ssl target => routedTargets obs == [target]
   | false, .raw _ => true)

theorem routed_append_misc (l : List Obs) (t : Nat) (d : Bytes) :
    routedTargets (l ++ [.misc t d]) = routedTargets l := by
  simp [routedTargets, List.filterMap_append]

theorem routed_append_pr (l : List Obs) (n : Nat) (t : Bytes) :
    routedTargets (l ++ [.pr n t]) = routedTargets l ++ [t] := by
  simp [routedTargets, List.filterMap_append]

/-- on a TLS-configured server `process` has run only if the handshake completed; a request is
    routed only on a processed connection.  The last conjunct is needed in the `connect` case -/
def GInv (s : St) : Prop := (s.tls = true → s.processed = true → s.encrypted = true) ∧
  (s.routed = true → s.processed = true) ∧ (s.routed = false → routedTargets s.log = []) ∧
  (s.routed = true → s.connected = true)

theorem ginv_init (tls : Bool) : GInv { tls := tls } := by
  simp [GInv, routedTargets]

theorem ginv_step (s : St) (e : TEv) (h : GInv s) : GInv (step s e) := by
  obtain ⟨h1, h2, h3, h4⟩ := h
  cases e with
  | connect =>
    simp only [step]
    split
    · exact ⟨h1, h2, h3, h4⟩
    · rename_i hc
      refine ⟨?_, ?_, h3, fun _ => rfl⟩
      · intro ht hp
        have ht' : s.tls = true := ht
        have hp' : (!s.tls) = true := hp
        rw [ht'] at hp'; cases hp'
      · intro hr
        have hr' : s.routed = true := hr
        exact absurd (h4 hr') hc
  | clear b => exact ⟨h1, h2, h3, h4⟩
  | handshakeDone =>
    simp only [step]
    split
    · exact ⟨fun _ _ => rfl, fun _ => rfl, h3, h4⟩
    · exact ⟨h1, h2, h3, h4⟩
  | sslError =>
    simp only [step]
    split
    · exact ⟨h1, h2, fun hr => by rw [routed_append_misc]; exact h3 hr, h4⟩
    · exact ⟨h1, h2, h3, h4⟩
  | request t =>
    simp only [step]
    split
    · rename_i hc
      simp only [Bool.and_eq_true, Bool.not_eq_true'] at hc
      exact ⟨h1, fun _ => hc.1.1.2, fun hr => Bool.noConfusion hr, fun _ => hc.1.1.1⟩
    · exact ⟨h1, h2, h3, h4⟩
  | clientClose =>
    simp only [step]
    split
    · exact ⟨h1, h2, fun hr => by rw [routed_append_misc]; exact h3 hr, h4⟩
    · exact ⟨h1, h2, h3, h4⟩

theorem ginv_run (tls : Bool) (evs : List TEv) : GInv (run tls evs) := by
  unfold run
  have : ∀ s, GInv s → GInv (evs.foldl step s) := by
    induction evs with
    | nil => intro s h; exact h
    | cons e es ih => intro s h; exact ih _ (ginv_step s e h)
  exact this _ (ginv_init tls)

theorem tls_const (s : St) (e : TEv) : (step s e).tls = s.tls := by
  cases e <;> simp only [step] <;> (try split) <;> rfl

theorem tls_run (tls : Bool) (evs : List TEv) : (run tls evs).tls = tls := by
  unfold run
  have : ∀ s, (evs.foldl step s).tls = s.tls := by
    induction evs with
    | nil => intro s; rfl
    | cons e es ih => intro s; rw [List.foldl_cons, ih, tls_const]
  exact this _

theorem encrypted_const (s : St) (e : TEv) (he : e ≠ .handshakeDone) :
    (step s e).encrypted = s.encrypted := by
  cases e with
  | handshakeDone => exact absurd rfl he
  | clear b => rfl
  | _ => simp only [step]; split <;> rfl

theorem encrypted_needs_handshake (tls : Bool) (evs : List TEv) (h : TEv.handshakeDone ∉ evs) :
    (run tls evs).encrypted = false := by
  unfold run
  have : ∀ s, (evs.foldl step s).encrypted = s.encrypted := by
    induction evs with
    | nil => intro s; rfl
    | cons e es ih =>
      intro s
      rw [List.foldl_cons, ih (fun hc => h (List.mem_cons_of_mem _ hc)),
        encrypted_const s e (fun hc => h (hc ▸ List.mem_cons_self))]
  exact this _

/-- **gate**: on a TLS-configured server, for every event sequence in which no handshake
    completes — whatever clear-text bytes arrive, in whatever order with connects, errors,
    requests and disconnects — nothing is ever routed -/
theorem gate (evs : List TEv) (h : TEv.handshakeDone ∉ evs) : routedTargets (run true evs).log = [] := by
  have hi := ginv_run true evs
  have ht := tls_run true evs
  have he := encrypted_needs_handshake true evs h
  obtain ⟨h1, h2, h3, _⟩ := hi
  cases hr : (run true evs).routed with
  | false => exact h3 hr
  | true =>
    have := h1 ht (h2 hr)
    rw [he] at this
    cases this

/-- after a completed handshake the connection routes a request exactly like a plain one -/
theorem same_routing (t : Bytes) :
    routedTargets (run true [.connect, .handshakeDone, .request t]).log =
    routedTargets (run false [.connect, .request t]).log := by
  simp [run, step, routedTargets]

theorem error_releases (pre : List TEv) (h : (run true pre).connected = true) (hr : (run true pre).released = false) :
    (run true (pre ++ [.sslError])).released = true := by
  have ht := tls_run true pre
  simp only [run, List.foldl_append, List.foldl_cons, List.foldl_nil] at *
  simp [step, h, hr, ht]

example : holds true (.raw [1, 2]) (run true [.connect, .clear [1, 2], .request [47], .clientClose]).log = true := by decide +kernel
example : holds true (.ssl [47]) (run true [.connect, .handshakeDone, .request [47], .clientClose]).log = true := by decide +kernel

end Qhttp.C20
