import Qhttp.Lemmas.BytesLemmas
import Qhttp.Props.C14
import Qhttp.Props.C16
/-
  C11 — no byte stream or event order makes the engine crash, hang or misbehave (partial).

  What a proof can carry: every handler of the model is a total Lean function (the two loops whose
  bound is not obvious have termination theorems below), every positional access of the parsers is
  in range, the translated arithmetic stays inside 64 bits.  Memory safety of the compiled code and
  of Qt is observed instead: the `sock` scenarios run under ASan+UBSan with arbitrary events, bytes
  and re-entrant reactions, and the whole history is compared with the model's.
-/
namespace Qhttp.C11
open Qhttp

/-- the implementation's history shows no sanitizer abort, failed assertion or hang -/
def holds (obs : List Obs) : Bool := !obs.any Obs.isCrash

/-- `Parser::split` terminates for a non-empty delimiter: the model's fuel `|data| + 1` is never
    exhausted (with an empty delimiter and `maxSplit == 0` the C++ loop does not terminate) -/
theorem split_terminates (d : Bytes) (hd : d ≠ []) (lim : Option Nat) (xs : Bytes) (extra : Nat) :
    splitF d (xs.length + 1 + extra) lim xs = splitF d (xs.length + 1) lim xs :=
  splitF_fuel hd (by omega) (by omega)

/-- the delimiters of the three calls of `split` (Model/Parser.lean, as in parser.cpp) -/
theorem call_site_delimiters : CRLF ≠ [] ∧ [SP] ≠ [] ∧ [COLON] ≠ [] := by decide

theorem split_progress (d xs a r : Bytes) (hd : d ≠ []) (h : breakOn d xs = some (a, r)) :
    r.length < xs.length := breakOn_length_lt hd h

/-- `lines.takeFirst()` in `parseHeaders` is applied to a non-empty list -/
theorem takeFirst_safe (data : Bytes) : split CRLF 0 data ≠ [] := split_ne_nil CRLF 0 data

/-- `parts[0..2]` are read only after `parts.count() == 3` was checked -/
theorem parts_indexed_after_count (data : Bytes) (m : HeaderMap) (p0 p1 p2 : Bytes) (m' : HeaderMap)
    (h : Parser.parseHeaders data m = some (p0, p1, p2, m')) :
    ∃ first lines, split CRLF 0 data = first :: lines ∧ split [SP] 2 first = [p0, p1, p2] := by
  unfold Parser.parseHeaders at h
  split at h
  · cases h
  · rename_i first lines hs
    split at h
    · rename_i a b c hp
      split at h
      · cases h; exact ⟨first, lines, hs, hp⟩
      · cases h
    · cases h

/-- the copier's block loop terminates (needs `bufferSize ≥ 1`) -/
theorem copier_block_loop_terminates (c : Copier.Cfg) (hb : c.block ≥ 1) (hr : C14.rangeOK c = true)
    (nt : Nat) (s : Copier.St) (h : C14L.Running c nt s) :
    C14L.Done c (Copier.nextBlock c { s with pending := .none }) ∨
    (C14L.Running c (nt + 1) (Copier.nextBlock c { s with pending := .none }) ∧
       (C14.wanted c).length - (C14.writtenOf (Copier.nextBlock c { s with pending := .none }).log).length <
       (C14.wanted c).length - (C14.writtenOf s.log).length) :=
  C14.block_loop_variant c hb hr nt s h

theorem range_arith_64bit (r : Range) (hf : -(2:Int)^62 < r.frm ∧ r.frm < 2^62)
    (ht : -(2:Int)^62 < r.to ∧ r.to < 2^62) (hs : -(2:Int)^62 < r.size ∧ r.size < 2^62) :
    (-(2:Int)^63 < r.size + r.frm ∧ r.size + r.frm < 2^63) ∧
    (-(2:Int)^63 < r.to - r.frm + 1 ∧ r.to - r.frm + 1 < 2^63) ∧
    (-(2:Int)^63 < r.size - r.frm ∧ r.size - r.frm < 2^63) := by
  have h := C16.sums_within_twice r (2^62) hf ht hs
  have e : (2:Int)^63 = 2 * 2^62 := by rw [Int.pow_succ, Int.mul_comm]
  rw [e]
  exact ⟨h.1, h.2.1, h.2.2.1⟩

/-- holds of any term: it only records that Lean accepted `Sock.step` without `partial` -/
theorem step_total (env : Env) (app : App) (s : Sock) (e : Event) : ∃ s', Sock.step env app s e = s' :=
  ⟨_, rfl⟩

end Qhttp.C11
