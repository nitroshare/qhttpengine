import Qhttp.Model.Range
/-
  C16 — Range values are internally consistent for all offsets and sizes.

  Over `Int`.  `Build`: the ways the scenario language builds a Range (a text-built range is not
  re-sized).  `holds_build` is the property.
-/
namespace Qhttp.C16
open Qhttp

inductive Build
  | nums (f t s : Int)                    -- Range(from, to, dataSize)
  | text (txt : Bytes) (s : Int)          -- Range("...", dataSize)
  | resize (f t s s' : Int)               -- Range(Range(from, to, dataSize), dataSize')
deriving Repr, DecidableEq

def build : Build → Range
  | .nums f t s => Range.ofNums f t s
  | .text x s => Range.ofString x s
  | .resize f t s s' => (Range.ofNums f t s).withSize s'

structure Acc where
  valid : Bool
  frm   : Int
  to    : Int
  len   : Int
  size  : Int
  text  : Bytes
deriving Repr, DecidableEq

def accOf (r : Range) : Acc :=
  { valid := r.isValid, frm := r.absFrom, to := r.absTo, len := r.length, size := r.size, text := r.contentRange }

/-- the three shapes the property names, for raw bounds `(f, t)` (`t < 0` = open end, `f < 0` =
    last `-f` bytes) and a size (`< 0` = unknown) -/
def specValid (f t s : Int) : Bool :=
  if f < 0 then decide (s < 0 ∨ -f ≤ s)                 -- `-n` with 1 ≤ n ≤ size
  else if t < 0 then decide (s < 0 ∨ f < s)              -- `a-` with 0 ≤ a < size
  else decide (f ≤ t ∧ (s < 0 ∨ t < s))                  -- `a-b` with 0 ≤ a ≤ b < size

/-- the text forms: `digits-digits` with at least one number, blanks around allowed; numerals above
    2^31-1 are rejected as the 32-bit parser does -/
def specText (x : Bytes) : Option (Int × Int) :=
  match breakOn [45] (trim x) with
  | none => none
  | some (a, c) =>
    if !(a.all isDigit) || !(c.all isDigit) || (a.isEmpty && c.isEmpty) then none else
    if a.isEmpty then
      (if digitsVal c 0 ≤ 2147483647 ∧ digitsVal c 0 ≠ 0 then some (-(digitsVal c 0 : Int), -1) else none)
    else if c.isEmpty then
      (if digitsVal a 0 ≤ 2147483647 then some ((digitsVal a 0 : Int), -1) else none)
    else
      (if digitsVal a 0 ≤ 2147483647 ∧ digitsVal c 0 ≤ 2147483647
       then some ((digitsVal a 0 : Int), (digitsVal c 0 : Int)) else none)

def expectedValid : Build → Bool
  | .nums f t s => specValid f t s
  | .text x s => match specText x with | some (f, t) => specValid f t s | none => false
  | .resize f t _ s' => specValid f t s'

def holds (b : Build) (a : Acc) : Bool :=
  -- valid and size known: 0 ≤ from ≤ to < size, length = to − from + 1, text `from-to/size`
  (if a.valid && a.size ≥ 0 then
     0 ≤ a.frm && a.frm ≤ a.to && a.to < a.size && a.len == a.to - a.frm + 1 &&
     a.text == intText a.frm ++ [45] ++ intText a.to ++ [47] ++ intText a.size
   else true) &&
  -- invalid: length −1, text `*/size`, empty when the size is unknown
  (if !a.valid then a.len == -1 && a.text == (if a.size ≥ 0 then [42, 47] ++ intText a.size else []) else true) &&
  -- valid exactly in the three shapes
  a.valid == expectedValid b &&
  -- copying / re-sizing preserves the bounds: same report as building directly with the new size
  (match b with
   | .resize f t _ s' => s' < -1 || a == accOf (Range.ofNums f t s')
   | _ => true)

/-- representation invariant: the stored end bound is an offset or the marker −1 -/
def WF (r : Range) : Prop := r.to ≥ -1

theorem wf_ofNums (f t s : Int) : WF (Range.ofNums f t s) := by
  simp only [WF, Range.ofNums]; grind

theorem wf_withSize (r : Range) (s : Int) (h : WF r) : WF (r.withSize s) := h

theorem wf_invalid : WF Range.invalid := by unfold WF; decide

theorem invalid_isValid : Range.invalid.isValid = false := by decide +kernel

theorem ofString_spec (x : Bytes) (s : Int) :
    match specText x with
    | some (f, t) => -1 ≤ t ∧ Range.ofString x s = ⟨f, t, s⟩
    | none => Range.ofString x s = Range.invalid := by
  unfold Range.ofString specText
  simp only []
  cases breakOn [45] (trim x) with
  | none => rfl
  | some p =>
    obtain ⟨a, c⟩ := p
    simp only [Range.digitsToInt]
    by_cases hd : (!(a.all isDigit) || !(c.all isDigit)) = true
    · simp only [hd, Bool.true_or, if_true]
    by_cases he : (a.isEmpty && c.isEmpty) = true
    · simp only [he, Bool.or_true, if_true, ite_self]
    simp only [hd, he, Bool.or_false, Bool.false_eq_true, if_false]
    by_cases ha : a.isEmpty = true
    · have hc : c.isEmpty = false := by simpa [ha] using he
      simp only [ha, hc, if_true, Bool.false_eq_true, if_false]
      by_cases hv : digitsVal c 0 ≤ 2147483647
      · by_cases hz : digitsVal c 0 = 0
        · simp only [hz, Int.natCast_zero, ne_eq, not_true, and_false, if_false]; rfl
        · simp only [hv, hz, if_true, ne_eq, not_false_eq_true, and_true, Int.natCast_eq_zero, if_false]
          decide
      · simp only [hv, false_and, if_false]
    · simp only [ha, Bool.false_eq_true, if_false]
      by_cases hv : digitsVal a 0 ≤ 2147483647
      · by_cases hc : c.isEmpty = true
        · simp only [hv, hc, if_true]
          decide
        · by_cases hw : digitsVal c 0 ≤ 2147483647
          · simp only [hv, hc, hw, if_true, Bool.false_eq_true, if_false, and_self]
            exact ⟨Int.le_trans (by decide) (Int.natCast_nonneg _), trivial⟩
          · simp only [hv, hc, hw, if_true, Bool.false_eq_true, if_false, and_false]
      · simp only [hv, if_false, false_and, ite_self]

theorem ofString_eq (x : Bytes) (s : Int) :
    Range.ofString x s = (match specText x with | some (f, t) => ⟨f, t, s⟩ | none => Range.invalid) := by
  have h := ofString_spec x s
  cases hx : specText x with
  | none => rw [hx] at h; exact h
  | some p => rw [hx] at h; exact h.2

theorem specText_wf {x : Bytes} {f t : Int} (h : specText x = some (f, t)) : -1 ≤ t := by
  have h' := ofString_spec x 0
  rw [h] at h'
  exact h'.1

theorem wf_ofString (x : Bytes) (s : Int) : WF (Range.ofString x s) := by
  rw [ofString_eq]
  cases hx : specText x with
  | none => exact wf_invalid
  | some p => exact specText_wf hx

theorem isValid_eq (r : Range) : r.isValid = specValid r.frm r.to r.size := by
  -- two if-chains over the same three tests (`size ≥ 0`, `frm < 0`, `to < 0`) in different order
  simp only [Range.isValid, specValid]; grind

/-- the numeric constructor's normalisations keep the shape -/
theorem specValid_normTo (f t s : Int) : specValid f (if t < 0 then -1 else t) s = specValid f t s := by
  by_cases h : t < 0
  · simp only [specValid, if_pos h, show (-1 : Int) < 0 by decide, if_true]
  · rw [if_neg h]

theorem specValid_normSize (f t s : Int) : specValid f t (if s < 0 then -1 else s) = specValid f t s := by
  by_cases h : s < 0
  · simp only [specValid, h, if_true, show (-1 : Int) < 0 by decide, true_or]
  · rw [if_neg h]

/-- first clause of the property.  In each of the three shapes (`frm < 0`; `to = -1`; both given)
    the accessors' if-chains take one branch and the claim is linear arithmetic -/
theorem valid_known (r : Range) (hwf : WF r) (hv : r.isValid = true) (hs : r.size ≥ 0) :
    0 ≤ r.absFrom ∧ r.absFrom ≤ r.absTo ∧ r.absTo < r.size ∧ r.length = r.absTo - r.absFrom + 1 ∧
    r.contentRange = intText r.absFrom ++ [45] ++ intText r.absTo ++ [47] ++ intText r.size := by
  refine ⟨?_, ?_, ?_, ?_, by simp only [Range.contentRange, hv, if_pos hs, if_true]⟩
  all_goals
    have hv' := hv
    simp only [Range.isValid, if_pos hs] at hv
    simp only [Range.length, hv', Range.absFrom, Range.absTo, WF] at *
    grind

theorem invalid_report (r : Range) (hv : r.isValid = false) :
    r.length = -1 ∧ r.contentRange = (if r.size ≥ 0 then [42, 47] ++ intText r.size else []) := by
  simp [Range.length, Range.contentRange, hv]

theorem valid_iff_nums (f t s : Int) : (Range.ofNums f t s).isValid = specValid f t s := by
  rw [isValid_eq]
  exact (specValid_normSize f _ s).trans (specValid_normTo f t s)

theorem valid_resize (f t s s' : Int) : ((Range.ofNums f t s).withSize s').isValid = specValid f t s' := by
  rw [isValid_eq]
  exact specValid_normTo f t s'

theorem size_nums (f t s : Int) : (Range.ofNums f t s).size = if s < 0 then -1 else s := rfl

theorem resize_preserves (f t s s' : Int) (h : s' ≥ -1) :
    (Range.ofNums f t s).withSize s' = Range.ofNums f t s' := by
  simp only [Range.ofNums, Range.withSize]
  -- only the size field differs: `if s' < 0 then -1 else s'` is `s'` for `s' ≥ -1`
  grind

theorem copy_preserves (r : Range) : r.withSize r.size = r := rfl

theorem sums_within_twice (r : Range) (B : Int)
    (hf : -B < r.frm ∧ r.frm < B) (ht : -B < r.to ∧ r.to < B) (hs : -B < r.size ∧ r.size < B) :
    (-(2 * B) < r.size + r.frm ∧ r.size + r.frm < 2 * B) ∧ (-(2 * B) < r.to - r.frm + 1 ∧ r.to - r.frm + 1 < 2 * B) ∧
    (-(2 * B) < r.size - r.frm ∧ r.size - r.frm < 2 * B) ∧ (-(2 * B) < r.size - 1) := by
  omega

/-- 64-bit safety: below 2^62 the sums and differences the accessors of Model/Range.lean form stay
    inside the signed 64-bit range -/
theorem no_overflow (r : Range) (B : Int) (hB : B = 2 ^ 62)
    (hf : -B < r.frm ∧ r.frm < B) (ht : -B < r.to ∧ r.to < B) (hs : -B < r.size ∧ r.size < B) :
    (-(2 * B) < r.size + r.frm ∧ r.size + r.frm < 2 * B) ∧ (-(2 * B) < r.to - r.frm + 1 ∧ r.to - r.frm + 1 < 2 * B) ∧
    (-(2 * B) < r.size - r.frm ∧ r.size - r.frm < 2 * B) ∧ (-(2 * B) < r.size - 1) :=
  sums_within_twice r B hf ht hs

theorem valid_iff_text (x : Bytes) (s : Int) :
    (Range.ofString x s).isValid =
      (match specText x with | some (f, t) => specValid f t s | none => false) := by
  rw [ofString_eq]
  cases specText x with
  | none => exact invalid_isValid
  | some p => exact isValid_eq _

/-- the first two clauses of `holds` follow from `WF` alone, the last two each way of building supplies -/
theorem holds_of {b : Build} {r : Range} (hwf : WF r) (hval : r.isValid = expectedValid b)
    (hre : ∀ f t s s', b = .resize f t s s' → -1 ≤ s' → r = Range.ofNums f t s') :
    holds b (accOf r) = true := by
  unfold holds
  simp only [Bool.and_eq_true, beq_iff_eq]
  refine ⟨⟨⟨?_, ?_⟩, hval⟩, ?_⟩
  · split
    · rename_i h
      simp only [Bool.and_eq_true, decide_eq_true_eq] at h
      obtain ⟨h1, h2, h3, h4, h5⟩ := valid_known r hwf h.1 h.2
      simp only [Bool.and_eq_true, decide_eq_true_eq, beq_iff_eq]
      exact ⟨⟨⟨⟨h1, h2⟩, h3⟩, h4⟩, h5⟩
    · rfl
  · split
    · rename_i h
      simp only [Bool.not_eq_true'] at h
      obtain ⟨h1, h2⟩ := invalid_report r h
      simp only [Bool.and_eq_true, beq_iff_eq]
      exact ⟨h1, h2⟩
    · rfl
  · cases b with
    | resize f t s s' =>
      simp only [Bool.or_eq_true, decide_eq_true_eq, beq_iff_eq]
      by_cases h : s' < -1
      · exact .inl h
      · exact .inr (congrArg accOf (hre f t s s' rfl (by omega)))
    | _ => rfl

/-- **C16**: however a range is built, with every offset and size, what its accessors report
    satisfies the property -/
theorem holds_build (b : Build) : holds b (accOf (build b)) = true := by
  cases b with
  | nums f t s => exact holds_of (wf_ofNums f t s) (valid_iff_nums f t s) (fun _ _ _ _ h => nomatch h)
  | text x s => exact holds_of (wf_ofString x s) (valid_iff_text x s) (fun _ _ _ _ h => nomatch h)
  | resize f t s s' =>
    refine holds_of (wf_withSize _ _ (wf_ofNums f t s)) (valid_resize f t s s') (fun _ _ _ _ h hs => ?_)
    cases h
    exact resize_preserves _ _ _ _ hs

example : holds (.text (lit ['-','5','0','0']) 1000) (accOf (build (.text (lit ['-','5','0','0']) 1000))) = true := by decide +kernel
example : (accOf (build (.text (lit [' ','1','0','-','6','0','0']) 1000))) =
    { valid := true, frm := 10, to := 600, len := 591, size := 1000, text := lit ['1','0','-','6','0','0','/','1','0','0','0'] } := by decide +kernel
example : (build (.text (lit ['-','0']) 1000)).isValid = false := by decide +kernel
example : (build (.nums 100 200 150)).isValid = false := by decide +kernel

/-! non-vacuity -/
example : (build (.text (lit ['-','0']) 10)).isValid = false := by decide +kernel
example : (build (.nums 100 200 150)).isValid = false := by decide +kernel
example : (build (.text (lit ['-','5']) 10)).isValid = true := by decide +kernel
example : (accOf (build (.text (lit [' ','1','-','6']) 10))) =
    { valid := true, frm := 1, to := 6, len := 6, size := 10, text := lit ['1','-','6','/','1','0'] } := by decide +kernel
example : WF (build (.resize 3 (-7) 9 20)) ∧ (build (.resize 3 (-7) 9 20)).isValid = true :=
  ⟨wf_withSize _ _ (wf_ofNums 3 (-7) 9), by decide +kernel⟩

end Qhttp.C16
