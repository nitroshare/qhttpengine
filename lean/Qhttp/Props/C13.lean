import Qhttp.Props.C12
import Qhttp.Lemmas.C13Turn
import Qhttp.Lemmas.C13Parse
import Qhttp.Lemmas.C13Run
/-
  C13 — the proxy relays the upstream response faithfully and maps failures to 502: the executable
  predicate `holds`, theorems about the model for every chunking of the upstream stream, and
  `holds_run` (`holds` on the model's run for every history of the shape `shapeOk`).
-/
namespace Qhttp.C13
open Qhttp Proxy

/-- what the upstream server sent while the connection was up, in order, and whether it then
    closed it; chunks written before the first turn are not counted.  Not `Proxy.upstreamSent`
    (model file, used by C12), which waits for the first turn after the client's head is complete
    and does not record the close; inside this namespace the short name means this one. -/
def upstreamSent : List PEv → (connected : Bool) → Bytes × Bool
  | [], _ => ([], false)
  | .turn :: rest, _ => upstreamSent rest true
  | .up b :: rest, true => let (x, c) := upstreamSent rest true; (b ++ x, c)
  | .upClose :: _, true => ([], true)
  | _ :: rest, conn => upstreamSent rest conn

/-- the `name: value` pairs of the header lines; `none` when some line is not of that form: no
    colon, or nothing but white space before the first colon -/
def headerPairs (lines : List Bytes) : Option (List (Bytes × Bytes)) :=
  lines.foldr (fun l acc =>
    match acc, breakOn [COLON] l with
    | some hs, some (n, v) => if (trim n).isEmpty then none else some ((trim n, trim v) :: hs)
    | _, _ => none) (some [])

/-- an upstream response head the proxy must understand: `version SP code SP reason` with a code
    in 100..599, then `name: value` lines (each with a colon and a name that is not blank) -/
def specHead (head : Bytes) : Option (Int × Bytes × List (Bytes × Bytes)) :=
  match splitF CRLF (head.length + 1) none head with
  | [] => none
  | first :: lines =>
    match splitF [SP] (first.length + 1) (some 2) first with
    | [_, code, reason] =>
      let cv := toIntQ code
      if 100 ≤ cv && cv ≤ 599 then (headerPairs lines).map fun hs => (cv, reason, hs) else none
    | _ => none

def is502Only (wire : Bytes) : Bool :=
  match Http.parse wire with
  | some m =>
    (Http.statusLine m.start).map (·.code) == some 502 &&
    Http.valuesOf Sock.CONTENT_LENGTH m.headers == [natDigits m.body.length]
  | none => false

def delivered (evs : List PEv) : Bool :=
  -- the last upstream action is followed by a turn
  match (evs.reverse.dropWhile fun e => match e with | .up _ => false | .upClose => false | _ => true) with
  | [] => true
  | _ => (evs.reverse.takeWhile fun e => match e with | .up _ => false | .upClose => false | _ => true).any
           fun e => match e with | .turn => true | _ => false

/-- scenario shape: one accepted client request, at least one turn (connection established or
    refused), then the upstream script.  Either the client receives the upstream response — same
    code and reason, every header value exactly once under its name, the body bytes in order,
    closed when the upstream ends — or, if the connection was refused, ended or produced an
    unparsable head before a complete head was relayed, exactly one 502 and nothing else. -/
def holds (env : Env) (c : Cfg) (evs : List PEv) (obs : List Obs) : Bool :=
  let stream := C12.clientStream evs
  let accepted := match C01.headOf stream with | some h => (C01.expect env h).isSome | none => false
  if !accepted || C12.nTurns evs == 0 || !delivered evs then true else
  let wire := Obs.wire obs
  if c.refuse then is502Only wire else
  let (sent, closed) := upstreamSent evs false
  match breakOn CRLF2 sent with
  | none => if closed then is502Only wire else wire.isEmpty
  | some (head, body) =>
    match specHead head with
    | none => is502Only wire
    | some (code, reason, hs) =>
      (match Http.parse wire with
       | none => false
       | some m =>
         (match Http.statusLine m.start with
          | some st => (st.code : Int) == code && st.reason == reason
          | none => false) &&
         m.body == body &&
         (Http.names m.headers).all (fun n => hs.any fun h => lower h.1 == n) &&
         hs.all (fun h => C12.vals h.1 m.headers == C12.vals h.1 hs)) &&
      (if closed then obs.any Obs.isTc else !(obs.any Obs.isTc))

/-! ## Theorems

  `C13L.WOpen`, `C13L.WShut`, `C13L.Frozen`: see `Lemmas/C13Sock.lean`.  Everything below is for
  EVERY list of chunks (every segmentation of the upstream stream), every `env` (error page, URL
  oracle) and every proxy state satisfying the stated hypotheses.

  An upstream header line whose name is empty or blank (`": v"`, `"  : v"`) is refused by
  `Parser::parseHeaderList`, so the client gets the 502 (`empty_name_502`,
  `blank_name_unparsable`); `specHead` says the same.  Nothing else is asked of the upstream head:
  whatever `Parser::parseResponseHeaders` accepts re-reads (`C13L.resp_parts_ok`; a lone CR is an
  ordinary byte, `Http.parse_render_w`). -/

open C13L

theorem specHead_def (head : Bytes) : specHead head = specHead' head := rfl

/-- `Parser::parseResponseHeaders` succeeds exactly when `specHead` does, with the same
    code and reason; its header map is the insertion of `specHead`'s pairs in line order -/
theorem specHead_eq (head : Bytes) :
    Parser.parseResponseHeaders head =
      (specHead head).map fun x => (x.1, x.2.1, x.2.2.foldl (fun acc e => HeaderMap.insert e.1 e.2 acc) []) :=
  specHead'_eq head

theorem specHead_none_iff (head : Bytes) :
    specHead head = none ↔ Parser.parseResponseHeaders head = none := by
  rw [specHead_eq]; cases specHead head <;> simp

/-- per name the same values (`C12.vals` sorts them), and no other name -/
theorem specHead_vals {head : Bytes} {code : Int} {reason : Bytes} {pairs : List (Bytes × Bytes)}
    (h : specHead head = some (code, reason, pairs)) :
    ∃ m, Parser.parseResponseHeaders head = some (code, reason, m) ∧ m.Perm pairs ∧
      (∀ n, C12.vals n m = C12.vals n pairs) ∧
      (Http.names m).all (fun n => pairs.any fun h => lower h.1 == n) = true := by
  refine ⟨mapOf pairs, by rw [specHead_eq, h]; rfl, ?_, fun n => vals_mapOf n pairs, names_mapOf pairs⟩
  simpa using mapOf_perm pairs []

theorem accumulate (env : Env) (cs : List Bytes) (st : St) (hp : st.headersParsed = false)
    (hn : breakOn CRLF2 (st.upRead ++ cs.flatten) = none) :
    deliverAll env cs st = { st with upRead := st.upRead ++ cs.flatten } :=
  C13L.accumulate env cs st hp hn

theorem first_blank_line_stable {acc head rest : Bytes} (pre post : List Bytes)
    (h : breakOn CRLF2 (acc ++ pre.flatten) = some (head, rest)) :
    breakOn CRLF2 (acc ++ (pre ++ post).flatten) = some (head, rest ++ post.flatten) :=
  C13L.first_blank_line_stable pre post h

/-- the relay is faithful: the socket open for writing, no head relayed yet, no blank line among
    the bytes already accumulated.  If these followed by the chunks are `head ++ CRLFCRLF ++ body`
    (first blank line) and the parser accepts `head`, then for EVERY chunking the client's wire
    grows by exactly the status line with the upstream's code and reason, one line per entry of
    the parsed header map, a blank line and `body`; nothing was closed. -/
theorem relay_faithful (env : Env) (cs : List Bytes) (st : St) {head body reason : Bytes} {code : Int}
    {hs : HeaderMap}
    (ho : WOpen st.sock) (hp : st.headersParsed = false) (hu : breakOn CRLF2 st.upRead = none)
    (hb : breakOn CRLF2 (st.upRead ++ cs.flatten) = some (head, body))
    (hq : Parser.parseResponseHeaders head = some (code, reason, hs)) :
    Obs.wire (deliverAll env cs st).sock.log =
      Obs.wire st.sock.log ++
        (lit ['H','T','T','P','/','1','.','0',' '] ++ intText code ++ [SP] ++ reason ++ CRLF ++
          Sock.headerLines hs ++ CRLF ++ body) ∧
    (deliverAll env cs st).headersParsed = true ∧ WOpen (deliverAll env cs st).sock ∧
    (deliverAll env cs st).sock.log.any Obs.isTc = false := by
  have := deliver_outcome env cs st ho hp hu
  cases this with
  | waiting h e => rw [hb] at h; cases h
  | relayed head' body' code' reason' hs' hb' hp' op wire parsed ws respH initP rest =>
    rw [hb] at hb'; cases hb'
    rw [hq] at hp'; cases hp'
    exact ⟨wire, parsed, op, anyTc_of_logOpen op.logOpen⟩
  | failed head' body' hb' hp' fr parsed rest =>
    rw [hb] at hb'; cases hb'
    rw [hq] at hp'; cases hp'

theorem relay_faithful_fresh (env : Env) (cs : List Bytes) (st : St) {head body reason : Bytes} {code : Int}
    {hs : HeaderMap}
    (ho : WOpen st.sock) (hp : st.headersParsed = false) (hu : st.upRead = [])
    (hb : breakOn CRLF2 cs.flatten = some (head, body))
    (hq : Parser.parseResponseHeaders head = some (code, reason, hs)) :
    Obs.wire (deliverAll env cs st).sock.log =
      Obs.wire st.sock.log ++
        (lit ['H','T','T','P','/','1','.','0',' '] ++ intText code ++ [SP] ++ reason ++ CRLF ++
          Sock.headerLines hs ++ CRLF ++ body) ∧
    (deliverAll env cs st).headersParsed = true ∧ WOpen (deliverAll env cs st).sock ∧
    (deliverAll env cs st).sock.log.any Obs.isTc = false :=
  relay_faithful env cs st ho hp (by rw [hu]; rfl) (by rw [hu]; exact hb) hq

theorem relay_prefix (env : Env) (pre post : List Bytes) (st : St) {head body reason : Bytes} {code : Int}
    {hs : HeaderMap}
    (ho : WOpen st.sock) (hp : st.headersParsed = false) (hu : breakOn CRLF2 st.upRead = none)
    (hb : breakOn CRLF2 (st.upRead ++ (pre ++ post).flatten) = some (head, body))
    (hq : Parser.parseResponseHeaders head = some (code, reason, hs)) :
    Obs.wire (deliverAll env pre st).sock.log <+: Obs.wire (deliverAll env (pre ++ post) st).sock.log := by
  obtain ⟨hw, _, _, _⟩ := relay_faithful env (pre ++ post) st ho hp hu hb hq
  rw [hw]
  have := deliver_outcome env pre st ho hp hu
  cases this with
  | waiting h e => rw [e]; exact ⟨_, rfl⟩
  | relayed head' body' code' reason' hs' hb' hp' op wire parsed ws respH initP rest =>
    have h2 := C13L.first_blank_line_stable pre post hb'
    rw [hb] at h2; cases h2
    rw [hq] at hp'; cases hp'
    rw [wire]
    refine ⟨post.flatten, ?_⟩
    simp [headOut, List.append_assoc]
  | failed head' body' hb' hp' fr parsed rest =>
    have h2 := C13L.first_blank_line_stable pre post hb'
    rw [hb] at h2; cases h2
    rw [hq] at hp'; cases hp'

/-- the relayed bytes re-parse, for every head the library's parser accepts: nothing is asked of
    the upstream head -/
theorem relay_reparses {head body reason : Bytes} {code : Int} {hs : HeaderMap}
    (hq : Parser.parseResponseHeaders head = some (code, reason, hs)) :
    ∃ m, Http.parse (lit ['H','T','T','P','/','1','.','0',' '] ++ intText code ++ [SP] ++ reason ++ CRLF ++
          Sock.headerLines hs ++ CRLF ++ body) = some m ∧
      Http.statusLine m.start = some { code := code.natAbs, reason := reason } ∧
      ((code.natAbs : Nat) : Int) = code ∧ m.headers = hs ∧ m.body = body := by
  obtain ⟨hr, hw, hc, _⟩ := resp_parts_ok hq
  have hc0 : 0 ≤ code := by omega
  obtain ⟨h1, h2⟩ := parse_relayed_w body hc0 hr hw
  exact ⟨_, h1, h2, Int.natAbs_of_nonneg hc0, rfl, rfl⟩

/-- the bytes `writeError(502)` puts on the wire on a socket whose header map was `H` -/
theorem err502_def (env : Env) (H : HeaderMap) :
    err502 env H = C09L.errStart 502 ++ CRLF ++
      Sock.headerLines (C09L.errHeaders H (natDigits (C09L.errBody env 502).length)) ++ CRLF ++
      C09L.errBody env 502 := rfl

/-- the upstream connection is refused or ends before a head was relayed: exactly the 502, then
    the transport is closed -/
theorem fault_502_error (env : Env) (st : St) (ho : WOpen st.sock) (hp : st.headersParsed = false) :
    Obs.wire (onUpstreamError env st).sock.log = Obs.wire st.sock.log ++ err502 env st.sock.respHeaders ∧
    WShut (onUpstreamError env st).sock ∧ (onUpstreamError env st).sock.log.any Obs.isTc = true := by
  have fr := onUpstreamError_502 env ho hp
  exact ⟨fr.wire, fr.shut, anyTc_of_logShut fr.shut.logShut⟩

/-- after a head was relayed an upstream error only closes the connection -/
theorem fault_close (env : Env) (st : St) (ho : WOpen st.sock) (hp : st.headersParsed = true) :
    Obs.wire (onUpstreamError env st).sock.log = Obs.wire st.sock.log ∧
    WShut (onUpstreamError env st).sock ∧ (onUpstreamError env st).sock.log.any Obs.isTc = true := by
  have fr := onUpstreamError_close env ho hp
  exact ⟨fr.wire, fr.shut, anyTc_of_logShut fr.shut.logShut⟩

/-- a complete head that `parseResponseHeaders` rejects: the same bytes, however many chunks
    follow; no head counts as relayed -/
theorem fault_502_badhead (env : Env) (cs : List Bytes) (st : St) {head body : Bytes}
    (ho : WOpen st.sock) (hp : st.headersParsed = false) (hu : breakOn CRLF2 st.upRead = none)
    (hb : breakOn CRLF2 (st.upRead ++ cs.flatten) = some (head, body))
    (hq : Parser.parseResponseHeaders head = none) :
    Obs.wire (deliverAll env cs st).sock.log = Obs.wire st.sock.log ++ err502 env st.sock.respHeaders ∧
    WShut (deliverAll env cs st).sock ∧ (deliverAll env cs st).headersParsed = false := by
  have := deliver_outcome env cs st ho hp hu
  cases this with
  | waiting h e => rw [hb] at h; cases h
  | relayed head' body' code' reason' hs' hb' hp' op wire parsed ws respH initP rest =>
    rw [hb] at hb'; cases hb'
    rw [hq] at hp'; cases hp'
  | failed head' body' hb' hp' fr parsed rest => exact ⟨fr.wire, fr.shut, parsed⟩

/-- once the transport is closed the wire never changes (a deleted socket is still `WShut`) -/
theorem wire_frozen (env : Env) (c : Cfg) (st : St) (hs : WShut st.sock) :
    (∀ chunk, WShut (onUpstreamReadyRead env st chunk).sock ∧
        Obs.wire (onUpstreamReadyRead env st chunk).sock.log = Obs.wire st.sock.log) ∧
    (∀ cs, WShut (deliverAll env cs st).sock ∧ Obs.wire (deliverAll env cs st).sock.log = Obs.wire st.sock.log) ∧
    (WShut (onUpstreamError env st).sock ∧ Obs.wire (onUpstreamError env st).sock.log = Obs.wire st.sock.log) ∧
    (WShut (Proxy.turn env c st).sock ∧ Obs.wire (Proxy.turn env c st).sock.log = Obs.wire st.sock.log) ∧
    (WShut (marker st).sock ∧ Obs.wire (marker st).sock.log = Obs.wire st.sock.log) ∧
    (∀ e, pevOk e = true → WShut (Proxy.step env c st e).sock ∧
        Obs.wire (Proxy.step env c st e).sock.log = Obs.wire st.sock.log) ∧
    (∀ evs : List PEv, (∀ e ∈ evs, pevOk e = true) → WShut (evs.foldl (Proxy.step env c) st).sock ∧
        Obs.wire (evs.foldl (Proxy.step env c) st).sock.log = Obs.wire st.sock.log) := by
  have h : Frozen (Obs.wire st.sock.log) st.sock := ⟨hs, rfl⟩
  refine ⟨fun chunk => ?_, fun cs => ?_, ?_, ?_, ?_, fun e he => ?_, fun evs he => ?_⟩
  · exact ⟨(frozen_onUpstreamReadyRead env h chunk).shut, (frozen_onUpstreamReadyRead env h chunk).wire⟩
  · exact ⟨(frozen_deliverAll env cs h).shut, (frozen_deliverAll env cs h).wire⟩
  · exact ⟨(frozen_onUpstreamError env h).shut, (frozen_onUpstreamError env h).wire⟩
  · exact ⟨(frozen_turn env c h).shut, (frozen_turn env c h).wire⟩
  · exact ⟨(frozen_marker h).shut, (frozen_marker h).wire⟩
  · exact ⟨(frozen_pstep env c h he).shut, (frozen_pstep env c h he).wire⟩
  · exact ⟨(frozen_run env c evs h he).shut, (frozen_run env c evs h he).wire⟩

example : pevOk (.up [1]) = true ∧ pevOk .upClose = true ∧ pevOk .turn = true ∧
    pevOk (.sock (.feed [1])) = true ∧ pevOk (.sock (.ack 3)) = true ∧ pevOk (.sock .ackAll) = true ∧
    pevOk (.sock .turn) = true := by decide

/-- the 502 on a socket whose header map is empty (as it is until a head is relayed) is exactly
    one 502 response, for every error page -/
theorem is502Only_502 (env : Env) : is502Only (err502 env []) = true := by
  unfold is502Only
  rw [C13L.parse_502]
  simp only [msg502, C09L.statusLine_errStart (c := 502) (by decide), Option.map_some]
  rw [C04L.valuesOf_cl _ (natDigits_all _)]
  simp

theorem parse_502 (env : Env) :
    Http.parse (err502 env []) = some
      { start := C09L.errStart 502,
        headers := [(Sock.CONTENT_LENGTH, natDigits (C09L.errBody env 502).length),
                    (Sock.CONTENT_TYPE, Sock.TEXT_HTML)],
        body := C09L.errBody env 502 } := C13L.parse_502 env

section examples

def exChunks : List Bytes :=
  [lit ['H','T','T','P','/','1','.','1',' ','2','0','0',' ','O','K','\r','\n','A',':',' ','b','\r'],
   lit ['\n','a',':','c','\r','\n','\r'], lit ['\n','b','o'], lit ['d','y','\r','\n','\r','\n','x']]

def exHead : Bytes :=
  lit ['H','T','T','P','/','1','.','1',' ','2','0','0',' ','O','K','\r','\n','A',':',' ','b','\r','\n','a',':','c']

/-- chunk boundaries inside the CRLFCRLF, a second CRLFCRLF in the body, a repeated header name -/
example : WOpen ({} : St).sock ∧ ({} : St).headersParsed = false ∧ ({} : St).upRead = [] ∧
    breakOn CRLF2 exChunks.flatten = some (exHead, lit ['b','o','d','y','\r','\n','\r','\n','x']) ∧
    Parser.parseResponseHeaders exHead =
      some (200, lit ['O','K'], [(lit ['a'], lit ['c']), (lit ['A'], lit ['b'])]) :=
  ⟨wopen_default, rfl, rfl, by decide +kernel, by decide +kernel⟩

example : Obs.wire (deliverAll C01.envT exChunks {}).sock.log =
    lit ['H','T','T','P','/','1','.','0',' ','2','0','0',' ','O','K','\r','\n','a',':',' ','c','\r','\n',
         'A',':',' ','b','\r','\n','\r','\n','b','o','d','y','\r','\n','\r','\n','x'] := by decide +kernel

example : Parser.parseResponseHeaders (lit ['H','T','T','P','/','1','.','1',' ','9','9',' ','O','K']) = none ∧
    specHead (lit ['H','T','T','P','/','1','.','1',' ','9','9',' ','O','K']) = none := by decide +kernel

/-- a header line with an empty or blank name is refused by the library's parser and by
    `specHead` alike -/
theorem empty_name_502 :
    let head : Bytes := lit ['H','T','T','P','/','1','.','1',' ','2','0','0',' ','O','K','\r','\n',':',' ','v']
    let head2 : Bytes := lit ['H','T','T','P','/','1','.','1',' ','2','0','0',' ','O','K','\r','\n','A',':','b','\r','\n',' ','\t',':','v']
    Parser.parseResponseHeaders head = none ∧ specHead head = none ∧
    Parser.parseResponseHeaders head2 = none ∧ specHead head2 = none := by
  decide +kernel

/-- a header line with nothing but white space before its first colon makes the head unparsable,
    wherever it stands: by `fault_502_badhead` the client receives exactly the 502 -/
theorem blank_name_unparsable (first : Bytes) (pre post : List Bytes) (n x : Bytes)
    (hf : ¬ CRLF <:+: first) (hl : ∀ l ∈ pre ++ (n ++ [COLON] ++ x) :: post, ¬ CRLF <:+: l)
    (hn : COLON ∉ n) (hb : Parser.Blank n) :
    Parser.parseResponseHeaders (joinWith CRLF (first :: (pre ++ (n ++ [COLON] ++ x) :: post))) = none := by
  unfold Parser.parseResponseHeaders Parser.parseHeaders
  rw [split_CRLF_joinWith _ (by simp) (by
    intro p hp
    rcases List.mem_cons.1 hp with rfl | hp
    · exact hf
    · exact hl p hp)]
  simp only [C12.blank_name_refused pre post n x [] hn hb]
  generalize split [SP] 2 first = parts
  rcases parts with _ | ⟨p0, _ | ⟨p1, _ | ⟨p2, _ | ⟨p3, ps⟩⟩⟩⟩ <;> rfl

end examples

theorem upstreamSent_def : ∀ (evs : List PEv) (c : Bool), upstreamSent evs c = upstreamSent' evs c := by
  intro evs
  induction evs with
  | nil => intro c; rfl
  | cons e r ih =>
    intro c
    cases e with
    | sock ev => cases c <;> simp only [upstreamSent, upstreamSent', ih]
    | turn => cases c <;> simp only [upstreamSent, upstreamSent', ih]
    | up b => cases c <;> simp only [upstreamSent, upstreamSent', ih]
    | upClose => cases c <;> simp only [upstreamSent, upstreamSent', ih]

theorem delivered_eq_dl (evs : List PEv) : delivered evs = dl false evs := by
  have e1 : (fun e : PEv => match e with | .up _ => false | .upClose => false | _ => true) =
      fun e => !isUpAct e := by
    funext e; cases e <;> rfl
  have e2 : (fun e : PEv => match e with | .turn => true | _ => false) = isTurnEv := by
    funext e; cases e <;> rfl
  unfold delivered
  rw [e1, e2, dl_eq_dlRev]
  exact delivered_eq_dlRev _

/-- the scenario shape of `gen_C13`: `new; feed req; turn`, then upstream writes, the upstream's
    close, event-loop turns and acknowledgements in any order, except that the upstream server
    writes nothing between its close and the next turn (with `refuse` nothing is excluded) -/
def shapeOk (refuse : Bool) : List PEv → Bool
  | .sock .new :: .sock (.feed _) :: .turn :: rest => restOk (if refuse then .closed else .open) rest
  | _ => false

theorem clientStream_rest (r : List PEv) (ph : UpPh) (h : restOk ph r = true) : C12.clientStream r = [] := by
  refine List.flatMap_eq_nil_iff.mpr fun e he => ?_
  have := restOk_all h e he
  cases e with
  | sock ev => cases ev <;> first | rfl | exact absurd this Bool.false_ne_true
  | _ => rfl

theorem accepted_of_expect {env : Env} {req head : Bytes} (h1 : C01.headOf req = some head)
    (h2 : (C01.expect env head).isSome = true) : Accepted env req := by
  unfold C01.headOf at h1
  cases hb : breakOn CRLF2 req with
  | none => rw [hb] at h1; cases h1
  | some x =>
    obtain ⟨hd, rest⟩ := x
    rw [hb] at h1
    simp only [Option.map_some, Option.some.injEq] at h1
    subst h1
    unfold C01.expect at h2
    cases hp : Parser.parseRequestHeaders hd with
    | none => rw [hp] at h2; cases h2
    | some rh =>
      rw [hp] at h2
      dsimp only at h2
      cases hu : env.url rh.rawPath with
      | none => rw [hu] at h2; cases h2
      | some pq =>
        obtain ⟨p, q⟩ := pq
        exact ⟨hd, rest, rh, p, q, hb, hp, hu⟩

theorem holds_of_final {env : Env} {s : Sock} {sent : Bytes} {closed : Bool} (fin : FinalP env s sent closed) :
    (match breakOn CRLF2 sent with
      | none => if closed then is502Only (Obs.wire s.log) else (Obs.wire s.log).isEmpty
      | some (head, body) =>
        match specHead head with
        | none => is502Only (Obs.wire s.log)
        | some (code, reason, hs) =>
          relayCheck (Obs.wire s.log) code reason body hs &&
            (if closed then s.log.any Obs.isTc else !(s.log.any Obs.isTc))) = true := by
  unfold FinalP at fin
  cases hb : breakOn CRLF2 sent with
  | none =>
    rw [hb] at fin
    cases closed
    · exact (congrArg List.isEmpty (fin : Obs.wire s.log = [])).trans rfl
    · exact (congrArg is502Only (fin : Obs.wire s.log = err502 env [])).trans (is502Only_502 env)
  | some p =>
    obtain ⟨head, body⟩ := p
    rw [hb] at fin
    dsimp only at fin ⊢
    have hsp := specHead_eq head
    cases hsh : specHead head with
    | none =>
      rw [hsh] at hsp
      rw [hsp] at fin
      exact (congrArg is502Only (fin : Obs.wire s.log = err502 env [])).trans (is502Only_502 env)
    | some x =>
      obtain ⟨code, reason, pairs⟩ := x
      rw [hsh] at hsp
      rw [hsp] at fin
      obtain ⟨hw, hcl⟩ : Obs.wire s.log = headOut code reason (mapOf pairs) ++ body ∧
          (if closed then WShut s else WOpen s) := fin
      obtain ⟨hr, hwf, hc, _⟩ := resp_parts_ok hsp
      refine (Bool.and_eq_true _ _).mpr ⟨?_, ?_⟩
      · rw [hw]; exact relayCheck_relayed_w body (by omega) hr hwf
      · cases closed
        · exact (congrArg (!·) (anyTc_of_logOpen (hcl : WOpen s).logOpen)).trans rfl
        · exact anyTc_of_logShut (hcl : WShut s).logShut

/-- the predicate the driver evaluates on implementation traces is true on the run of the model
    for every history of the shape `shapeOk`: `new`, the client's request in ONE segment, a turn,
    then every upstream byte stream in every segmentation and with every interleaving of turns and
    acknowledgements, upstream close at any point, connection refused or not.  When the request
    is not one the library accepts, or the last upstream action is not followed by a turn
    (`delivered`), `holds` is true by definition and nothing is claimed. -/
theorem holds_run (env : Env) (c : Cfg) (evs : List PEv) (hs : shapeOk c.refuse evs = true) :
    holds env c evs (Proxy.run env c evs).sock.log = true := by
  unfold shapeOk at hs
  split at hs
  · rename_i req rest
    unfold holds
    have hcs : C12.clientStream (.sock .new :: .sock (.feed req) :: .turn :: rest) = req := by
      have := clientStream_rest rest _ hs
      simp [C12.clientStream] at this ⊢
      exact this
    rw [hcs]
    dsimp only
    -- the request is not accepted, or not everything was delivered: nothing is claimed
    have hnt : (C12.nTurns (.sock .new :: .sock (.feed req) :: .turn :: rest) == 0) = false := by
      simp [C12.nTurns]
    rw [hnt]
    cases hacc : (match C01.headOf req with
        | some h => (C01.expect env h).isSome
        | none => false) with
    | false => simp
    | true =>
    cases hdl : delivered (.sock .new :: .sock (.feed req) :: .turn :: rest) with
    | false => simp
    | true =>
    simp only [Bool.not_true, Bool.or_self, Bool.false_eq_true, if_false]
    -- the run
    have ha : Accepted env req := by
      cases h1 : C01.headOf req with
      | none => rw [h1] at hacc; cases hacc
      | some head => rw [h1] at hacc; exact accepted_of_expect h1 hacc
    have hd : dl false rest = true := by rw [delivered_eq_dl] at hdl; exact hdl
    obtain ⟨f1, f2⟩ := run_final env c req rest ha hs hd
    generalize (Proxy.run env c (.sock .new :: .sock (.feed req) :: .turn :: rest)).sock = s at f1 f2
    by_cases hrf : c.refuse = true
    · rw [if_pos hrf, (f1 hrf).wire]
      exact is502Only_502 env
    · rw [if_neg hrf]
      have hrf' : c.refuse = false := by simpa using hrf
      have fin := f2 hrf'
      have hus : upstreamSent (.sock .new :: .sock (.feed req) :: .turn :: rest) false =
          upstreamSent' rest true := by
        rw [upstreamSent_def]; rfl
      rw [hus]
      generalize upstreamSent' rest true = sc at fin
      obtain ⟨sent, closed⟩ := sc
      dsimp only at fin ⊢
      exact holds_of_final fin
  · cases hs

section examples8

def exEnv : Env := { C01.envT with errPage := fun _ _ => C01.str "<h1>502</h1>" }

def exReq : Bytes := C01.str "POST /a?x=1 HTTP/1.1\r\nHost: h\r\nContent-Length: 5\r\n\r\nabc"

/-- head split inside the CRLFCRLF, repeated header name, partial acknowledgements, upstream close,
    late upstream data after the close was delivered -/
def exRelay : List PEv :=
  [.sock .new, .sock (.feed exReq), .turn,
   .up (C01.str "HTTP/1.1 404 Not Found\r\nA: b\r\na: c\r"), .turn, .sock (.ack 3),
   .up (C01.str "\n\r"), .up (C01.str "\nbo"), .turn, .sock (.ack 7), .up (C01.str "dy\r\n\r\nx"), .upClose, .turn,
   .up (C01.str "late"), .sock .ackAll, .turn]

/-- a head the parser rejects (code 99), then more data and the close -/
def exBad : List PEv :=
  [.sock .new, .sock (.feed exReq), .turn,
   .up (C01.str "HTTP/1.1 99 Low\r\n\r\nzz"), .turn, .up (C01.str "HTTP/1.1 200 OK\r\n\r\n"), .turn,
   .upClose, .turn, .sock .ackAll, .turn]

def exShort : List PEv :=
  [.sock .new, .sock (.feed exReq), .turn, .up (C01.str "HTTP/1.1 200 OK\r\nA: b\r\n\r"), .turn, .upClose, .turn]

def exRefused : List PEv :=
  [.sock .new, .sock (.feed exReq), .turn, .up (C01.str "HTTP/1.1 200 OK\r\n\r\n"), .upClose,
   .up (C01.str "x"), .turn, .sock .ackAll, .turn]

/-- the request is accepted and everything was delivered: `holds` is not true trivially -/
example : shapeOk false exRelay = true ∧ delivered exRelay = true ∧
    shapeOk false exBad = true ∧ delivered exBad = true ∧
    shapeOk false exShort = true ∧ delivered exShort = true ∧
    shapeOk true exRefused = true ∧ delivered exRefused = true ∧
    ((C01.headOf exReq).bind (C01.expect exEnv)).isSome = true := by
  unfold exRelay exBad exShort exRefused exReq
  repeat rw [C01.str_ofList]
  decide +kernel

example : Obs.wire (Proxy.run exEnv {} exRelay).sock.log =
    C01.str "HTTP/1.0 404 Not Found\r\na: c\r\nA: b\r\n\r\nbody\r\n\r\nx" ∧
    (Proxy.run exEnv {} exRelay).sock.log.any Obs.isTc = true := by
  unfold exRelay exReq
  repeat rw [C01.str_ofList]
  decide +kernel

example : Obs.wire (Proxy.run exEnv {} exBad).sock.log =
    C01.str "HTTP/1.0 502 BAD GATEWAY\r\nContent-Length: 12\r\nContent-Type: text/html\r\n\r\n<h1>502</h1>" ∧
    Obs.wire (Proxy.run exEnv {} exShort).sock.log = Obs.wire (Proxy.run exEnv {} exBad).sock.log ∧
    Obs.wire (Proxy.run exEnv { refuse := true } exRefused).sock.log =
      Obs.wire (Proxy.run exEnv {} exBad).sock.log := by
  unfold exBad exShort exRefused exReq
  repeat rw [C01.str_ofList]
  decide +kernel

example : holds exEnv {} exRelay (Proxy.run exEnv {} exRelay).sock.log = true :=
  holds_run exEnv {} exRelay (by unfold exRelay exReq; repeat rw [C01.str_ofList]
                                 decide +kernel)
example : holds exEnv {} exRelay (Proxy.run exEnv {} exRelay).sock.log = true ∧
    holds exEnv {} exBad (Proxy.run exEnv {} exBad).sock.log = true ∧
    holds exEnv {} exShort (Proxy.run exEnv {} exShort).sock.log = true ∧
    holds exEnv { refuse := true } exRefused (Proxy.run exEnv { refuse := true } exRefused).sock.log = true := by
  unfold exRelay exBad exShort exRefused exReq
  repeat rw [C01.str_ofList]
  decide +kernel

/-- a history outside `restOk` (the upstream server "writes" between its close and the next
    turn: the model delivers it, the real server cannot) fails `holds` -/
example :
    let evs : List PEv := [.sock .new, .sock (.feed exReq), .turn,
      .up (C01.str "HTTP/1.1 200 OK\r\n\r\nbo"), .upClose, .up (C01.str "dy"), .turn]
    shapeOk false evs = false ∧ holds exEnv {} evs (Proxy.run exEnv {} evs).sock.log = false := by
  unfold exReq
  repeat rw [C01.str_ofList]
  decide +kernel

example :
    let evs : List PEv := [.sock .new, .sock (.feed exReq), .turn,
      .up (C01.str "HTTP/1.1 200 OK\r\n: v\r\n\r\nbody"), .turn]
    shapeOk false evs = true ∧
    holds exEnv {} evs (Proxy.run exEnv {} evs).sock.log = true ∧
    Obs.wire (Proxy.run exEnv {} evs).sock.log = Obs.wire (Proxy.run exEnv {} exBad).sock.log := by
  unfold exBad exReq
  repeat rw [C01.str_ofList]
  decide +kernel

example :
    let evs : List PEv := [.sock .new, .sock (.feed exReq), .turn,
      .up (C01.str "HTTP/1.1 200 O\rK\r\nX\rY: a\rb\r\n\r\nbody"), .turn]
    shapeOk false evs = true ∧
    holds exEnv {} evs (Proxy.run exEnv {} evs).sock.log = true ∧
    Obs.wire (Proxy.run exEnv {} evs).sock.log = C01.str "HTTP/1.0 200 O\rK\r\nX\rY: a\rb\r\n\r\nbody" := by
  unfold exReq
  repeat rw [C01.str_ofList]
  decide +kernel

end examples8

end Qhttp.C13
