import Qhttp.Model.Copier
import Qhttp.Model.CopierStopIn
import Qhttp.Lemmas.C14Run
import Qhttp.Lemmas.C14Seq
import Qhttp.Lemmas.C14Open
import Qhttp.Lemmas.C14Restart
import Qhttp.Lemmas.C14StopIn
/-
  C14 — the device copier delivers exactly the requested bytes and signals completion once.
-/
namespace Qhttp.C14
open Qhttp Copier

def writtenOf (obs : List Obs) : Bytes :=
  obs.flatMap fun o => match o with | .misc 1 b => b | _ => []
def isFin : Obs → Bool | .misc 2 _ => true | _ => false
def isErr : Obs → Bool | .misc 3 _ => true | _ => false
def isWrote : Obs → Bool | .misc 1 _ => true | _ => false

def anyFault (c : Cfg) : Bool :=
  c.srcOpenFails || c.dstOpenFails || c.seekFails || c.readFailAt.isSome || c.writeFailAt.isSome

/-- the position of the first byte copied: `start()` seeks to the start of the range only when it
    is > 0; otherwise the copy begins where the random-access source stands (`prePos`: 0 for a
    source nobody has read from, the point reached by earlier reads or by an earlier, stopped copy) -/
def firstPos (c : Cfg) : Nat := if rangeFrom c > 0 then (rangeFrom c).toNat else c.prePos

/-- the bytes a copy is asked for, `p` being the position of the first byte: everything from `p`,
    or `src[p .. min to (|src|-1)]` -/
def wanted (c : Cfg) : Bytes :=
  match c.range with
  | none => c.src.drop c.prePos
  | some (f, t) =>
    if f < 0 then [] else
    let p := if f > 0 then f.toNat else c.prePos
    if t < 0 then c.src.drop p else
    if t < p then [] else (c.src.drop p).take (t.toNat + 1 - p)

/-- the range part of `holds`' domain: the first byte lies inside the source (a `QBuffer` opened
    for reading cannot be positioned past its end: `seek` refuses, and so does the harness), `to`
    is -1 ("to the end") or not before the first byte -/
def rangeOK (c : Cfg) : Bool :=
  match c.range with
  | some (f, t) => f ≥ 0 && (t ≥ firstPos c || t == -1) && firstPos c ≤ c.src.length
  | none => c.prePos ≤ c.src.length

/-- what the destination is to receive: the wanted bytes of a random-access source; a sequential
    source has no position (and no range: outside `setRange()`'s domain): all it delivers -/
def asked (c : Cfg) : Bytes := if c.seq then c.src else wanted c

def hasStop (evs : List Ev) : Bool := evs.any (· == .stop)
def nTurns (evs : List Ev) : Nat := (evs.filter (· == .turn)).length

/-- the observations after the marker of the first `stop` event (none when there is no `stop`) -/
def afterStop (evs : List Ev) (obs : List Obs) : List Obs :=
  match evs.findIdx? (· == .stop) with
  | none => []
  | some k => (obs.dropWhile (fun o => o != Obs.ev k)).drop 1

/-- scenario shape: `start` first, then turns (and, for a sequential source, arrivals — announced
    by `readyRead()` or not — and one eof), at most one `stop`; the random-access source may stand
    anywhere inside its content when the scenario begins (`prePos`).  (A scenario that starts the
    copy a second time is cut at the second `start` first: `holdsRuns`.)
     * whatever reaches the destination is a prefix of the wanted bytes (in order, no duplicate);
     * left to run (no stop, no fault, enough turns / eof delivered): exactly the wanted bytes,
       one completion, after the last write; ranges on a sequential source are outside the
       documented domain of setRange();
     * a fault: if an error is signalled, exactly one completion follows it and no error comes at or
       after the completion (that an error IS signalled: `holdsOpen` for open failures, theorem `errors`);
     * after stop() returned: no further byte, no further completion. -/
def holds (c : Cfg) (evs : List Ev) (obs : List Obs) : Bool :=
  let w := writtenOf obs
  let domain := c.block ≥ 1 && (if c.seq then !c.range.isSome else rangeOK c)
  if !domain then true else
  w.isPrefixOf (asked c) &&
  -- completion never precedes a write (unless the application stopped the copy)
  (hasStop evs || Obs.countP isWrote ((obs.dropWhile (fun o => !isFin o)).drop 1) == 0) &&
  -- left to run
  (if !hasStop evs && !anyFault c &&
       (if c.seq then evs.getLast? == some .eof
        else nTurns evs ≥ (wanted c).length / c.block + 2 && evs.head? == some .start)
   then w == asked c && Obs.countP isFin obs == 1
   else true) &&
  -- faults: error then exactly one completion (random-access block copy and open failures)
  (if anyFault c && !hasStop evs && !c.seq && Obs.countP isErr obs ≥ 1
   then Obs.countP isFin obs == 1 &&
        Obs.countP isErr ((obs.dropWhile (fun o => !isFin o))) == 0
   else true) &&
  -- stop() halts the copy
  (let tail := afterStop evs obs
   -- the completion stop() itself signals is the first `fin` of the tail
   Obs.countP isWrote tail == 0 && Obs.countP isFin tail ≤ 1)


def openFault (c : Cfg) : Bool := c.srcOpenFails || c.dstOpenFails

/-- "a failure to open either device signals an error followed by that single completion", for
    every kind of source and whatever the source announces afterwards (arrivals, end of data,
    timer turns): exactly one error, exactly one completion, the error first, nothing copied -/
def holdsOpen (c : Cfg) (evs : List Ev) (obs : List Obs) : Bool :=
  if openFault c && evs.head? == some .start && (evs.filter (· == .start)).length == 1 && !hasStop evs
  then Obs.countP isErr obs == 1 && Obs.countP isFin obs == 1 && Obs.countP isWrote obs == 0 &&
       Obs.countP isErr (obs.dropWhile (fun o => !isFin o)) == 0
  else true

def holdsAll (c : Cfg) (evs : List Ev) (obs : List Obs) : Bool := holds c evs obs && holdsOpen c evs obs

/-! ## Theorems

  The helper lemmas live in `Qhttp/Lemmas/C14*.lean` (namespace `Qhttp.C14L`; `Qhttp.C14O` for the
  open failures of C14Open.lean); they are stated about literal copies of the definitions above
  (Lemmas cannot import this file), identified here by `rfl`. -/

theorem writtenOf_eq : writtenOf = C14L.written := rfl
theorem isFin_eq : isFin = C14L.isFin := rfl
theorem isErr_eq : isErr = C14L.isErr := rfl
theorem isWrote_eq : isWrote = C14L.isWrote := rfl
theorem anyFault_eq : anyFault = C14L.anyFault := rfl
theorem wanted_eq : wanted = C14L.wanted := rfl
theorem firstPos_eq : firstPos = C14L.firstPos := rfl
theorem nTurns_eq : nTurns = C14L.nTurns := rfl

theorem rangeOK_eq : rangeOK = C14L.rangeOK := rfl

theorem firstPos_fresh (c : Cfg) (h0 : c.prePos = 0) (hf : 0 ≤ rangeFrom c) :
    firstPos c = (rangeFrom c).toNat := by
  unfold firstPos; rw [h0]; split <;> omega
theorem wanted_fresh (c : Cfg) (h0 : c.prePos = 0) :
    wanted c = match c.range with
      | none => c.src
      | some (f, t) =>
        if f < 0 then [] else
        if t < 0 then c.src.drop f.toNat else
        if t < f then [] else (c.src.drop f.toNat).take (t.toNat + 1 - f.toNat) := by
  unfold wanted; rw [h0]
  cases c.range with
  | none => rfl
  | some ft =>
    obtain ⟨f, t⟩ := ft
    simp only []
    have hp : (if f > 0 then f.toNat else 0) = f.toNat := by split <;> omega
    rw [hp]
    by_cases hf : f < 0
    · simp [hf]
    · by_cases ht : t < 0
      · simp [hf, ht]
      · have : (t < (f.toNat : Int)) ↔ t < f := by omega
        simp only [hf, ht, if_false, this]
theorem rangeOK_fresh (c : Cfg) (h0 : c.prePos = 0) :
    rangeOK c = match c.range with
      | some (f, t) => decide (f ≥ 0) && (decide (t ≥ f) || t == -1) && decide (f ≤ c.src.length)
      | none => true := by
  unfold rangeOK
  cases hr : c.range with
  | none => simp [h0]
  | some ft =>
    obtain ⟨f, t⟩ := ft
    simp only []
    by_cases hf : f ≥ 0
    · have e1 : rangeFrom c = f := by simp [rangeFrom, hr]
      have hp := firstPos_fresh c h0 (by rw [e1]; exact hf)
      rw [hp, e1]
      have h1 : (t ≥ (f.toNat : Int)) ↔ t ≥ f := by omega
      have h2 : (f.toNat ≤ c.src.length) ↔ f ≤ (c.src.length : Int) := by omega
      simp only [h1, h2]
    · simp [hf]

def quiet (r : List Ev) : Bool := r.all fun e => e != .start && e != .stop

theorem quiet_iff {r : List Ev} : quiet r = true ↔ ∀ e ∈ r, e ≠ .start ∧ e ≠ .stop := by
  simp [quiet]

/-- The block loop's variant.  `C14L.Running c nt s`: the copy is armed for block `nt`, positioned at
    `from + nt * block`, and has written exactly the first `nt * block` bytes of `wanted c`.
    One `nextBlock` either finishes the copy (`C14L.Done`: timer idle, exactly one `fin` with only
    markers after it) or re-arms it with strictly fewer bytes of `wanted` still to copy. -/
theorem block_loop_variant (c : Cfg) (hb : c.block ≥ 1) (hr : rangeOK c = true) (nt : Nat) (s : St)
    (h : C14L.Running c nt s) :
    C14L.Done c (nextBlock c { s with pending := .none }) ∨
    (C14L.Running c (nt + 1) (nextBlock c { s with pending := .none }) ∧
       (wanted c).length - (writtenOf (nextBlock c { s with pending := .none }).log).length <
       (wanted c).length - (writtenOf s.log).length) :=
  C14L.nextBlock_progress c hb (C14L.rangeNF_of_ok c hr) nt s h

/-- in order, no duplication, at every moment: whatever events (other than start/stop) follow
    `start`, and whatever devices fail, the bytes written are a prefix of the wanted bytes -/
theorem prefix_random_access (c : Cfg) (hseq : c.seq = false) (hb : c.block ≥ 1) (hr : rangeOK c = true)
    (r : List Ev) (hq : quiet r = true) :
    writtenOf (Copier.run c (.start :: r)).log <+: wanted c :=
  (C14L.run_ninv c hseq (C14L.rangeNF_of_ok c hr) r (quiet_iff.1 hq)).prefix

/-- a random-access copy left to run for at least `|wanted| / block + 2` turns (one more than the
    loop needs): exactly the wanted bytes, exactly one completion and it comes after the last
    write, no error, and the timer is idle (the loop has terminated) -/
theorem exact_random_access (c : Cfg) (hseq : c.seq = false) (hnf : anyFault c = false)
    (hb : c.block ≥ 1) (hr : rangeOK c = true) (n : Nat) (hn : n ≥ (wanted c).length / c.block + 2) :
    let s := Copier.run c (.start :: List.replicate n .turn)
    writtenOf s.log = wanted c ∧
    Obs.countP isFin s.log = 1 ∧
    Obs.countP isErr s.log = 0 ∧
    Obs.countP isWrote ((s.log.dropWhile (fun o => !isFin o)).drop 1) = 0 ∧
    s.pending = .none := by
  intro s
  have hd := C14L.run_turns_done c hseq hb (C14L.rangeNF_of_ok c hr) n (Nat.le_of_succ_le hn)
  exact ⟨hd.exact hnf, hd.closed.cnt_fin, hd.noerr hnf,
    hd.closed.no_wrote_after, hd.pending⟩

/-- `setRange(f, t)` with `0 ≤ t < p ≤ |src|`, `p` the position of the first byte (`f` if > 0,
    else where the source stands): nothing is written and completion is signalled exactly once.
    For `t < p - 1` the (negative-length) write fails, so `err` precedes the `fin`; for the empty
    range `t = p - 1` the copy just completes.  The log is given exactly. -/
theorem reversed_range (c : Cfg) (hseq : c.seq = false) (hnf : anyFault c = false) (f t : Int)
    (hrange : c.range = some (f, t)) (ht0 : 0 ≤ t) (htf : t < firstPos c) (hfl : firstPos c ≤ c.src.length) (n : Nat) :
    let s := Copier.run c (.start :: List.replicate (n + 1) .turn)
    s.log = [Obs.ev 0, Obs.ev 1] ++ (if t + 1 < firstPos c then [err, fin] else [fin]) ++ (List.range' 2 n).map Obs.ev ∧
    writtenOf s.log = [] ∧
    Obs.countP isFin s.log = 1 ∧
    Obs.countP isErr s.log = (if t + 1 < firstPos c then 1 else 0) ∧
    s.pending = .none := by
  intro s
  obtain ⟨hl, hp⟩ := C14L.run_reversed c hseq hnf f t hrange ht0 htf hfl n
  have hmk := C14L.range'_map_mk 2 n
  rw [← firstPos_eq] at hl
  refine ⟨hl, ?_, ?_, ?_, hp⟩
  · show writtenOf s.log = []
    rw [hl, writtenOf_eq, C14L.written_append, C14L.written_append, C14L.written_of_mk hmk]
    split <;> simp [C14L.written, err, fin]
  · show Obs.countP isFin s.log = 1
    rw [hl, isFin_eq, Obs.countP_append, Obs.countP_append, C14L.cnt_of_mk C14L.mk_not_fin hmk]
    split <;> simp [Obs.countP_cons]
  · show Obs.countP isErr s.log = _
    rw [hl, isErr_eq, Obs.countP_append, Obs.countP_append, C14L.cnt_of_mk C14L.mk_not_err hmk]
    split <;> simp [Obs.countP_cons]

/-- the same for a range whose start is > 0 (`start()` seeks there, wherever the source stood):
    `setRange(f, t)` with `0 ≤ t < f ≤ |src|`, for every `prePos` -/
theorem reversed_range_seek (c : Cfg) (hseq : c.seq = false) (hnf : anyFault c = false) (f t : Int)
    (hrange : c.range = some (f, t)) (ht0 : 0 ≤ t) (htf : t < f) (hfl : f ≤ c.src.length) (n : Nat) :
    let s := Copier.run c (.start :: List.replicate (n + 1) .turn)
    s.log = [Obs.ev 0, Obs.ev 1] ++ (if t + 1 < f then [err, fin] else [fin]) ++ (List.range' 2 n).map Obs.ev ∧
    writtenOf s.log = [] ∧
    Obs.countP isFin s.log = 1 ∧
    Obs.countP isErr s.log = (if t + 1 < f then 1 else 0) ∧
    s.pending = .none := by
  have e1 : rangeFrom c = f := by simp [rangeFrom, hrange]
  have hp : (firstPos c : Int) = f := by
    unfold firstPos; rw [e1, if_pos (by omega)]; omega
  have := reversed_range c hseq hnf f t hrange ht0 (by rw [hp]; exact htf) (by omega) n
  rw [hp] at this
  exact this

def pieceOf : Ev → Bytes | .arrive b => b | .arriveQ b => b | _ => []
/-- everything that arrived, announced by `readyRead()` or not, in order -/
def arrivedOf (evs : List Ev) : Bytes := evs.flatMap pieceOf
theorem arrivedOf_eq : arrivedOf = C14L.arrived := rfl

def feedOnly (r : List Ev) : Bool :=
  r.all fun e => match e with | .arrive _ => true | .arriveQ _ => true | .turn => true | _ => false

theorem feedOnly_iff {r : List Ev} (h : feedOnly r = true) : ∀ e ∈ r, e ≠ .start ∧ e ≠ .stop ∧ e ≠ .eof := by
  intro e he
  have := List.all_eq_true.1 h e he
  cases e <;> simp_all

/-- a sequential source delivering its data in arbitrary pieces — each announced by `readyRead()`
    (`arrive`) or just appended to what the source holds (`arriveQ`: e.g. a last piece that comes
    together with the end of the stream) —, interleaved with arbitrary event-loop turns, then
    end-of-data: exactly the arrived bytes (the quiet ones included) are written, no error,
    exactly one completion, and it is the very last observation (after the last write) -/
theorem sequential (c : Cfg) (hseq : c.seq = true) (hnf : anyFault c = false)
    (r : List Ev) (hr : feedOnly r = true) :
    let s := Copier.run c (.start :: (r ++ [.eof]))
    writtenOf s.log = arrivedOf r ∧
    Obs.countP isFin s.log = 1 ∧
    Obs.countP isErr s.log = 0 ∧
    s.log.getLast? = some fin := by
  intro s
  obtain ⟨hcl, _, h3⟩ := C14L.run_seq_eof c hseq r (feedOnly_iff hr)
  obtain ⟨hw, he, L, hL⟩ := h3 hnf
  refine ⟨hw, hcl.cnt_fin, he, ?_⟩
  show (Copier.run c (.start :: (r ++ [.eof]))).log.getLast? = some fin
  rw [hL]; simp

/-- a device fault that a copy left to run actually meets: a device that does not open, a failing
    seek to a range start > 0, or a failing read / write whose index `k` is that of a block the
    copy gets to (`k = 0`, or `k * block < |wanted|`) -/
def faultReached (c : Cfg) : Bool :=
  c.srcOpenFails || c.dstOpenFails || (c.seekFails && decide (rangeFrom c > 0)) ||
  (match c.readFailAt with | some k => k == 0 || decide (k * c.block < (wanted c).length) | none => false) ||
  (match c.writeFailAt with | some k => k == 0 || decide (k * c.block < (wanted c).length) | none => false)

/-- a random-access copy left to run, whatever devices fail: the timer is idle, exactly one
    completion with nothing but event markers after it, a prefix of the wanted bytes written, and
    either no error and everything written, or exactly one error (which precedes the completion) -/
theorem outcome_random_access (c : Cfg) (hseq : c.seq = false) (hb : c.block ≥ 1) (hr : rangeOK c = true)
    (n : Nat) (hn : n ≥ (wanted c).length / c.block + 2) :
    let s := Copier.run c (.start :: List.replicate n .turn)
    s.pending = .none ∧
    Obs.countP isFin s.log = 1 ∧
    Obs.countP isWrote ((s.log.dropWhile (fun o => !isFin o)).drop 1) = 0 ∧
    Obs.countP isErr (s.log.dropWhile (fun o => !isFin o)) = 0 ∧
    writtenOf s.log <+: wanted c ∧
    ((Obs.countP isErr s.log = 0 ∧ writtenOf s.log = wanted c) ∨ Obs.countP isErr s.log = 1) := by
  intro s
  have hd := C14L.run_turns_done c hseq hb (C14L.rangeNF_of_ok c hr) n (Nat.le_of_succ_le hn)
  refine ⟨hd.pending, hd.closed.cnt_fin, hd.closed.no_wrote_after, hd.closed.no_err_after, hd.pre, ?_⟩
  rcases hd.res with ⟨he, hw, _, _⟩ | ⟨he, _⟩
  · exact Or.inl ⟨he, hw⟩
  · exact Or.inr he

/-- srcOpenFails / dstOpenFails / seekFails with a range start > 0 / `readFailAt = some k` /
    `writeFailAt = some k` (for a block the copy reaches): exactly one `err`, exactly one `fin`,
    the `err` before the `fin` (none at or after it), no write after the `fin`, and what was
    written is a prefix of `wanted` -/
theorem errors (c : Cfg) (hseq : c.seq = false) (hb : c.block ≥ 1) (hr : rangeOK c = true)
    (hf : faultReached c = true) (n : Nat) (hn : n ≥ (wanted c).length / c.block + 2) :
    let s := Copier.run c (.start :: List.replicate n .turn)
    Obs.countP isErr s.log = 1 ∧
    Obs.countP isFin s.log = 1 ∧
    Obs.countP isErr (s.log.dropWhile (fun o => !isFin o)) = 0 ∧
    Obs.countP isWrote ((s.log.dropWhile (fun o => !isFin o)).drop 1) = 0 ∧
    writtenOf s.log <+: wanted c ∧
    s.pending = .none := by
  intro s
  have hnf := C14L.rangeNF_of_ok c hr
  have hd := C14L.run_turns_done c hseq hb hnf n (Nat.le_of_succ_le hn)
  refine ⟨?_, hd.closed.cnt_fin, hd.closed.no_err_after, hd.closed.no_wrote_after, hd.pre, hd.pending⟩
  rcases hd.res with ⟨_, _, hsf, hno⟩ | ⟨he, _⟩
  · exfalso
    rw [C14L.startFails_nonseq c hseq hnf] at hsf
    simp only [Bool.or_eq_false_iff, Bool.and_eq_false_iff, decide_eq_false_iff_not] at hsf
    obtain ⟨⟨h1, h2⟩, h3⟩ := hsf
    simp only [faultReached, h1, h2, Bool.false_or, Bool.or_eq_true, Bool.and_eq_true, decide_eq_true_eq] at hf
    rcases hf with (⟨h4, h5⟩ | h4) | h4
    · rcases h3 with h3 | h3
      · exact h3 h5
      · rw [h3] at h4; cases h4
    · cases hk : c.readFailAt with
      | none => rw [hk] at h4; cases h4
      | some k =>
        rw [hk] at h4
        simp only [Bool.or_eq_true, beq_iff_eq, decide_eq_true_eq] at h4
        exact hno k (by simp [C14L.faultAt, hk]) h4
    · cases hk : c.writeFailAt with
      | none => rw [hk] at h4; cases h4
      | some k =>
        rw [hk] at h4
        simp only [Bool.or_eq_true, beq_iff_eq, decide_eq_true_eq] at h4
        exact hno k (by simp [C14L.faultAt, hk]) h4
  · exact he

theorem findIdx_stop (pre post : List Ev) (hpre : Ev.stop ∉ pre) :
    (pre ++ .stop :: post).findIdx? (· == .stop) = some pre.length := by
  induction pre with
  | nil => simp [List.findIdx?_cons]
  | cons a l ih =>
    have ha : a ≠ .stop := fun e => hpre (by simp [e])
    have hl : Ev.stop ∉ l := fun e => hpre (List.mem_cons_of_mem _ e)
    simp [List.findIdx?_cons, ha, ih hl]

theorem afterStop_run (c : Cfg) (pre post : List Ev) (hpre : Ev.stop ∉ pre) (hpost : quiet post = true) :
    (∃ ms, afterStop (pre ++ .stop :: post) (Copier.run c (pre ++ .stop :: post)).log = fin :: ms ∧
           ∀ o ∈ ms, C14L.isMk o = true) ∧
    writtenOf (Copier.run c (pre ++ .stop :: post)).log = writtenOf (Copier.run c pre).log := by
  obtain ⟨hnot, ms, hl, hms⟩ := C14L.run_stop c pre post (quiet_iff.1 hpost)
  refine ⟨⟨ms, ?_, hms⟩, ?_⟩
  · unfold afterStop
    rw [findIdx_stop pre post hpre]
    simp only []
    rw [hl, C14L.dropWhile_ne_mk hnot]; rfl
  · rw [hl, writtenOf_eq, C14L.written_append, C14L.written_cons, C14L.written_cons (a := fin),
      C14L.written_of_mk hms]
    simp [C14L.written, fin]

/-- for every configuration (any source kind, range, faults — inside or outside the documented
    domain) and every event list `pre ++ stop :: post` whose first `stop` is the one shown and
    where no `start`/`stop` follows it: after the marker of the stop event the log holds exactly
    the `fin` that `stop()` itself signals, then event markers only — no `wrote`, no other `fin`,
    whatever turns, arrivals or eof follow; the destination content is what it was before -/
theorem stop_halts (c : Cfg) (pre post : List Ev) (hpre : Ev.stop ∉ pre) (hpost : quiet post = true) :
    let evs := pre ++ .stop :: post
    let tail := afterStop evs (Copier.run c evs).log
    Obs.countP isWrote tail = 0 ∧ Obs.countP isFin tail = 1 ∧
    writtenOf (Copier.run c evs).log = writtenOf (Copier.run c pre).log := by
  intro evs tail
  obtain ⟨⟨ms, ht, hms⟩, hw⟩ := afterStop_run c pre post hpre hpost
  refine ⟨?_, ?_, hw⟩
  · show Obs.countP isWrote (afterStop evs (Copier.run c evs).log) = 0
    rw [ht, isWrote_eq, Obs.countP_cons, C14L.cnt_of_mk C14L.mk_not_wrote hms]; rfl
  · show Obs.countP isFin (afterStop evs (Copier.run c evs).log) = 1
    rw [ht, isFin_eq, Obs.countP_cons, C14L.cnt_of_mk C14L.mk_not_fin hms]; rfl

theorem asked_nonseq (c : Cfg) (h : c.seq = false) : asked c = wanted c := by simp [asked, h]
theorem asked_seq (c : Cfg) (h : c.seq = true) : asked c = c.src := by simp [asked, h]

/-- `holds` from its five clauses in mathematical form (inside the documented domain) -/
theorem holds_intro (c : Cfg) (evs : List Ev) (obs : List Obs)
    (h : c.block ≥ 1 → (c.seq = true → c.range = none) → (c.seq = false → rangeOK c = true) →
      (writtenOf obs <+: asked c) ∧
      (hasStop evs = false → Obs.countP isWrote ((obs.dropWhile (fun o => !isFin o)).drop 1) = 0) ∧
      (hasStop evs = false → anyFault c = false →
        (if c.seq then evs.getLast? = some .eof
         else nTurns evs ≥ (wanted c).length / c.block + 2 ∧ evs.head? = some .start) →
        writtenOf obs = asked c ∧ Obs.countP isFin obs = 1) ∧
      (anyFault c = true → hasStop evs = false → c.seq = false → Obs.countP isErr obs ≥ 1 →
        Obs.countP isFin obs = 1 ∧ Obs.countP isErr (obs.dropWhile (fun o => !isFin o)) = 0) ∧
      (Obs.countP isWrote (afterStop evs obs) = 0 ∧ Obs.countP isFin (afterStop evs obs) ≤ 1)) :
    holds c evs obs = true := by
  unfold holds
  simp only []
  cases hdom : (decide (c.block ≥ 1) && (if c.seq then !c.range.isSome else rangeOK c))
  · rfl
  · simp only [Bool.and_eq_true, decide_eq_true_eq] at hdom
    obtain ⟨hb, hd2⟩ := hdom
    have hsr' : c.seq = true → c.range = none := by
      intro hs
      rw [hs] at hd2
      simp only [if_true] at hd2
      cases hh : c.range <;> simp_all
    have hr : c.seq = false → rangeOK c = true := by
      intro hs
      rw [hs] at hd2
      simpa using hd2
    obtain ⟨hA, hB, hC, hD, hE1, hE2⟩ := h hb hsr' hr
    simp only [Bool.not_true, Bool.false_eq_true, if_false]
    refine Bool.and_eq_true_iff.2 ⟨Bool.and_eq_true_iff.2 ⟨Bool.and_eq_true_iff.2 ⟨Bool.and_eq_true_iff.2 ⟨?_, ?_⟩, ?_⟩, ?_⟩,
      Bool.and_eq_true_iff.2 ⟨?_, ?_⟩⟩
    · exact List.isPrefixOf_iff_prefix.2 hA
    · cases hst : hasStop evs
      · rw [hB hst]; rfl
      · rfl
    · generalize hc : (!hasStop evs && !anyFault c && _) = cnd
      cases cnd
      · rfl
      · simp only [Bool.and_eq_true, Bool.not_eq_true'] at hc
        obtain ⟨⟨h1, h2⟩, h3⟩ := hc
        have := hC h1 h2 (by
          cases hs : c.seq
          · rw [hs] at h3; simpa using h3
          · rw [hs] at h3; simpa using h3)
        simp [this.1, this.2]
    · generalize hc : (anyFault c && !hasStop evs && !c.seq && _) = cnd
      cases cnd
      · rfl
      · simp only [Bool.and_eq_true, Bool.not_eq_true', decide_eq_true_eq] at hc
        obtain ⟨⟨⟨h1, h2⟩, h3⟩, h4⟩ := hc
        have := hD h1 h2 h3 h4
        simp [this.1, this.2]
    · rw [hE1]; rfl
    · exact decide_eq_true hE2

/-- scenario shape: `start` first and only there, at most one `stop`; for a sequential source
    additionally: `eof` at most once and only as the last event, the arrivals (`arrive` and the
    quiet `arriveQ`) are (in order) pieces of a prefix of the source content, and all of it when
    the scenario ends with `eof`.  (On a
    random-access source arrivals and eof are no-ops and may occur anywhere.) -/
def shape (c : Cfg) (evs : List Ev) : Bool :=
  match evs with
  | .start :: rest =>
    !rest.contains .start && decide ((rest.filter (· == .stop)).length ≤ 1) &&
    (!c.seq ||
      (!rest.dropLast.contains .eof && (arrivedOf rest).isPrefixOf c.src &&
       (rest.getLast? != some .eof || arrivedOf rest == c.src)))
  | _ => false

theorem snoc_cases {α : Type} (l : List α) : l = [] ∨ ∃ r a, l = r ++ [a] := by
  induction l with
  | nil => exact Or.inl rfl
  | cons x l ih =>
    right
    rcases ih with rfl | ⟨r, a, rfl⟩
    · exact ⟨[], x, rfl⟩
    · exact ⟨x :: r, a, rfl⟩

theorem stop_count_split {r1 r2 : List Ev}
    (h : ((r1 ++ Ev.stop :: r2).filter (· == Ev.stop)).length ≤ 1) : Ev.stop ∉ r1 ∧ Ev.stop ∉ r2 := by
  rw [List.filter_append, List.length_append, List.filter_cons] at h
  simp only [beq_self_eq_true, if_true, List.length_cons] at h
  constructor
  · intro hm
    have : 0 < (r1.filter (· == Ev.stop)).length := List.length_filter_pos_iff.2 ⟨_, hm, by simp⟩
    omega
  · intro hm
    have : 0 < (r2.filter (· == Ev.stop)).length := List.length_filter_pos_iff.2 ⟨_, hm, by simp⟩
    omega

theorem hasStop_iff (evs : List Ev) : hasStop evs = true ↔ Ev.stop ∈ evs := by
  simp [hasStop]

theorem afterStop_none (evs : List Ev) (obs : List Obs) (h : Ev.stop ∉ evs) : afterStop evs obs = [] := by
  unfold afterStop
  have : evs.findIdx? (· == Ev.stop) = none := by
    apply List.findIdx?_eq_none_iff.2
    intro x hx
    cases hh : (x == Ev.stop)
    · rfl
    · have : x = Ev.stop := by simpa using hh
      exact absurd (this ▸ hx) h
  rw [this]

theorem nTurns_start (rest : List Ev) : nTurns (.start :: rest) = C14L.nTurns rest := by
  rw [nTurns_eq, C14L.nTurns_cons]; simp

theorem wanted_none (c : Cfg) (h : c.range = none) : wanted c = c.src.drop c.prePos := by simp [wanted, h]

/-- **C14, main theorem.**  On every model run of the scenario shape — `start`, then any mix of
    event-loop turns, at most one `stop`, and for a sequential source the arrivals of the source
    content in arbitrary pieces, announced or quiet, with `eof` last — for every configuration
    (content, block size, range, source kind, position of the random-access source at the
    beginning, device faults), the executable predicate holds. -/
theorem holds_run (c : Cfg) (evs : List Ev) (hs : shape c evs = true) :
    holds c evs (Copier.run c evs).log = true := by
  cases evs with
  | nil => simp [shape] at hs
  | cons e0 rest =>
  cases e0 with
  | turn => simp [shape] at hs
  | stop => simp [shape] at hs
  | arrive b => simp [shape] at hs
  | eof => simp [shape] at hs
  | arriveQ b => simp [shape] at hs
  | start =>
  simp only [shape, Bool.and_eq_true, Bool.not_eq_true', decide_eq_true_eq, Bool.or_eq_true,
    List.contains_eq_mem, decide_eq_false_iff_not, bne_iff_ne, ne_eq, beq_iff_eq] at hs
  obtain ⟨⟨h_ns, h_st⟩, h_sq⟩ := hs
  apply holds_intro
  intro hb hsr hr
  by_cases hstop : Ev.stop ∈ rest
  · -- a stop: only the prefix clause and the stop clause are active
    obtain ⟨r1, r2, rfl⟩ := List.append_of_mem hstop
    obtain ⟨hs1, hs2⟩ := stop_count_split h_st
    have hn1 : Ev.start ∉ r1 := fun h => h_ns (List.mem_append_left _ h)
    have hn2 : Ev.start ∉ r2 := fun h => h_ns (List.mem_append_right _ (List.mem_cons_of_mem _ h))
    have hq1 : ∀ e ∈ r1, e ≠ Ev.start ∧ e ≠ Ev.stop :=
      fun e he => ⟨fun h => hn1 (h ▸ he), fun h => hs1 (h ▸ he)⟩
    have hq2 : quiet r2 = true :=
      quiet_iff.2 fun e he => ⟨fun h => hn2 (h ▸ he), fun h => hs2 (h ▸ he)⟩
    have hpre : Ev.stop ∉ (Ev.start :: r1) := by simp [hs1]
    have hevs : Ev.start :: (r1 ++ Ev.stop :: r2) = (Ev.start :: r1) ++ Ev.stop :: r2 := rfl
    have hhas : hasStop (Ev.start :: (r1 ++ Ev.stop :: r2)) = true := by
      rw [hasStop_iff]; simp
    obtain ⟨ha, hb', hw⟩ := stop_halts c (Ev.start :: r1) r2 hpre hq2
    rw [← hevs] at ha hb' hw
    refine ⟨?_, ?_, ?_, ?_, ?_, ?_⟩
    · rw [hw]
      cases hseq : c.seq
      · rw [asked_nonseq c hseq]
        exact (C14L.run_ninv c hseq (C14L.rangeNF_of_ok c (hr hseq)) r1 hq1).prefix
      · rcases h_sq with h | ⟨⟨he, hp⟩, _⟩
        · rw [hseq] at h; cases h
        · have he1 : ∀ e ∈ r1, e ≠ Ev.start ∧ e ≠ Ev.stop ∧ e ≠ Ev.eof := by
            intro e he'
            refine ⟨(hq1 e he').1, (hq1 e he').2, ?_⟩
            intro h; subst h
            apply he
            rw [List.dropLast_append_of_ne_nil (by simp)]
            exact List.mem_append_left _ he'
          have h1 := (C14L.run_sinv c hseq r1 he1).prefix
          rw [asked_seq c hseq]
          refine h1.trans (List.IsPrefix.trans ?_ (List.isPrefixOf_iff_prefix.1 hp))
          rw [arrivedOf_eq, C14L.arrived_append]
          exact List.prefix_append _ _
    · intro h; rw [hhas] at h; cases h
    · intro h; rw [hhas] at h; cases h
    · intro _ h; rw [hhas] at h; cases h
    · exact ha
    · exact Nat.le_of_eq hb'
  · -- left to run
    have hq : ∀ e ∈ rest, e ≠ Ev.start ∧ e ≠ Ev.stop :=
      fun e he => ⟨fun h => h_ns (h ▸ he), fun h => hstop (h ▸ he)⟩
    have hnostop : Ev.stop ∉ (Ev.start :: rest) := by simp [hstop]
    have hhas : hasStop (Ev.start :: rest) = false := by
      cases h : hasStop (Ev.start :: rest)
      · rfl
      · exact absurd ((hasStop_iff _).1 h) hnostop
    have hE : Obs.countP isWrote (afterStop (Ev.start :: rest) (Copier.run c (Ev.start :: rest)).log) = 0 ∧
        Obs.countP isFin (afterStop (Ev.start :: rest) (Copier.run c (Ev.start :: rest)).log) ≤ 1 := by
      rw [afterStop_none _ _ hnostop]; exact ⟨rfl, Nat.zero_le _⟩
    cases hseq : c.seq
    · -- random-access source
      have hnf := C14L.rangeNF_of_ok c (hr hseq)
      have hinv := C14L.run_ninv c hseq hnf rest hq
      rw [asked_nonseq c hseq]
      refine ⟨hinv.prefix, fun _ => hinv.no_wrote_after, ?_, ?_, hE⟩
      · intro _ hfa hcond
        simp only [Bool.false_eq_true, if_false] at hcond
        rw [nTurns_start] at hcond
        have hd := hinv.done hb (by have := hcond.1; rw [wanted_eq] at this; omega)
        rcases hd.res with ⟨_, hw, _, _⟩ | ⟨_, hf⟩
        · exact ⟨hw, hd.closed.cnt_fin⟩
        · rw [← anyFault_eq, hfa] at hf; cases hf
      · intro _ _ _ herr
        rcases hinv with h | h
        · have := h.noerr; rw [isErr_eq] at herr; omega
        · exact ⟨h.closed.cnt_fin, h.closed.no_err_after⟩
    · -- sequential source
      have hrange := hsr hseq
      rcases h_sq with h | ⟨⟨he, hp⟩, hlast⟩
      · rw [hseq] at h; cases h
      have hp' := List.isPrefixOf_iff_prefix.1 hp
      rw [asked_seq c hseq]
      rcases snoc_cases rest with rfl | ⟨r, a, rfl⟩
      · -- just `start`
        have hinv := C14L.run_sinv c hseq [] (by simp)
        refine ⟨hinv.prefix.trans (by simp [C14L.arrived]), fun _ => hinv.no_wrote_after, ?_, ?_, hE⟩
        · intro _ _ hcond; simp at hcond
        · intro _ _ h; cases h
      · rw [List.dropLast_concat] at he
        rw [List.getLast?_concat] at hlast
        have hre : ∀ e ∈ r, e ≠ Ev.start ∧ e ≠ Ev.stop ∧ e ≠ Ev.eof := fun e he' =>
          ⟨(hq e (List.mem_append_left _ he')).1, (hq e (List.mem_append_left _ he')).2,
           fun h => he (h ▸ he')⟩
        by_cases ha : a = Ev.eof
        · subst ha
          obtain ⟨hcl, hpre, hclean⟩ := C14L.run_seq_eof c hseq r hre
          have harr : arrivedOf (r ++ [Ev.eof]) = C14L.arrived r := by
            rw [arrivedOf_eq, C14L.arrived_append]; simp [C14L.arrived, C14L.pieceOf]
          rw [harr] at hp' hlast
          refine ⟨hpre.trans hp', fun _ => hcl.no_wrote_after, ?_, ?_, hE⟩
          · intro _ hfa _
            refine ⟨?_, hcl.cnt_fin⟩
            rw [writtenOf_eq, (hclean (by rw [← anyFault_eq]; exact hfa)).1]
            rcases hlast with h | h
            · exact absurd rfl h
            · exact h
          · intro _ _ h; cases h
        · have hall : ∀ e ∈ r ++ [a], e ≠ Ev.start ∧ e ≠ Ev.stop ∧ e ≠ Ev.eof := by
            intro e he'
            rcases List.mem_append.1 he' with h | h
            · exact hre e h
            · simp at h; subst h; exact ⟨(hq e he').1, (hq e he').2, ha⟩
          have hinv := C14L.run_sinv c hseq (r ++ [a]) hall
          refine ⟨hinv.prefix.trans hp', fun _ => hinv.no_wrote_after, ?_, ?_, hE⟩
          · intro _ _ hcond
            simp only [if_true] at hcond
            rw [List.getLast?_cons, List.getLast?_concat] at hcond
            simp at hcond
            exact absurd hcond ha
          · intro _ _ h; cases h

private def abcdefg : Bytes := [65, 66, 67, 68, 69, 70, 71]
private def cfgR : Cfg := { src := abcdefg, block := 3, range := some (2, 5) }

example : writtenOf (Copier.run cfgR [.start, .turn, .turn, .turn, .turn]).log = [67, 68, 69, 70] := by decide +kernel
example : Obs.countP isFin (Copier.run cfgR [.start, .turn, .turn, .turn, .turn]).log = 1 := by decide +kernel
example : holds cfgR [.start, .turn, .turn, .turn, .turn]
    (Copier.run cfgR [.start, .turn, .turn, .turn, .turn]).log = true := by decide +kernel
-- the hypotheses of `exact_random_access` are satisfiable, with a multi-block copy
example : cfgR.seq = false ∧ anyFault cfgR = false ∧ cfgR.block ≥ 1 ∧ rangeOK cfgR = true ∧
    4 ≥ (wanted cfgR).length / cfgR.block + 2 := by decide +kernel
example : (Copier.run { cfgR with range := some (5, 2) } [.start, .turn, .turn]).log =
    [.ev 0, .ev 1, err, fin, .ev 2] := by decide +kernel
example : (Copier.run { cfgR with range := some (3, 2) } [.start, .turn, .turn]).log =
    [.ev 0, .ev 1, fin, .ev 2] := by decide +kernel

private def evsStop : List Ev := [.start, .turn, .stop, .turn, .turn, .turn]
example : (Copier.run cfgR evsStop).log =
    [.ev 0, .ev 1, wrote [67, 68, 69], .ev 2, fin, .ev 3, .ev 4, .ev 5] := by decide +kernel
example : shape cfgR evsStop = true := by decide +kernel
example : holds cfgR evsStop (Copier.run cfgR evsStop).log = true := by decide +kernel
-- the hypotheses of `stop_halts` are satisfiable (pre = start, turn; post = three turns)
example : Ev.stop ∉ [Ev.start, Ev.turn] ∧ quiet [Ev.turn, Ev.turn, Ev.turn] = true := by decide +kernel

private def cfgS : Cfg := { src := [65, 66, 67], seq := true }
private def evsS : List Ev := [.start, .turn, .arrive [65, 66], .arrive [], .turn, .arrive [67], .eof]
example : (Copier.run cfgS evsS).log =
    [.ev 0, .ev 1, .ev 2, wrote [65, 66], .ev 3, .ev 4, .ev 5, wrote [67], .ev 6, fin] := by decide +kernel
example : writtenOf (Copier.run cfgS evsS).log = [65, 66, 67] ∧
    Obs.countP isFin (Copier.run cfgS evsS).log = 1 := by decide +kernel
example : cfgS.seq = true ∧ anyFault cfgS = false ∧
    feedOnly [.turn, .arrive [65, 66], .arrive [], .turn, .arrive [67]] = true := by decide +kernel
example : shape cfgS evsS = true := by decide +kernel
example : holds cfgS evsS (Copier.run cfgS evsS).log = true := by decide +kernel
example : shape cfgS [.start, .arrive [65, 66], .stop, .arrive [67], .eof] = true := by decide +kernel
example : holds cfgS [.start, .arrive [65, 66], .stop, .arrive [67], .eof]
    (Copier.run cfgS [.start, .arrive [65, 66], .stop, .arrive [67], .eof]).log = true := by decide +kernel

private def cfgF : Cfg := { cfgR with readFailAt := some 1 }
example : faultReached cfgF = true ∧ cfgF.seq = false ∧ rangeOK cfgF = true ∧ cfgF.block ≥ 1 := by decide +kernel
example : (Copier.run cfgF [.start, .turn, .turn, .turn, .turn]).log =
    [.ev 0, .ev 1, wrote [67, 68, 69], .ev 2, err, fin, .ev 3, .ev 4] := by decide +kernel
example : faultReached { cfgR with seekFails := true } = true := by decide +kernel
example : (Copier.run { cfgR with seekFails := true } [.start, .turn]).log = [.ev 0, err, fin, .ev 1] := by decide +kernel
example : shape cfgF [.start, .turn, .turn, .turn, .turn] = true ∧
    holds cfgF [.start, .turn, .turn, .turn, .turn]
      (Copier.run cfgF [.start, .turn, .turn, .turn, .turn]).log = true := by decide +kernel
-- `shape` rejects what it should: a second start, two stops, eof in the middle of a sequential run
example : shape cfgR [.start, .turn, .start] = false ∧ shape cfgR [.start, .stop, .stop] = false ∧
    shape cfgS [.start, .eof, .arrive [65]] = false ∧ shape cfgS [.start, .arrive [66]] = false := by decide +kernel

private def cfgP : Cfg := { src := abcdefg, block := 3, prePos := 2 }
example : writtenOf (Copier.run cfgP [.start, .turn, .turn, .turn, .turn]).log = [67, 68, 69, 70, 71] ∧
    wanted cfgP = [67, 68, 69, 70, 71] := by decide +kernel
example : writtenOf (Copier.run { cfgP with range := some (0, 4) } [.start, .turn, .turn, .turn]).log = [67, 68, 69] ∧
    wanted { cfgP with range := some (0, 4) } = [67, 68, 69] := by decide +kernel
example : writtenOf (Copier.run { cfgP with range := some (3, 5), prePos := 6 } [.start, .turn, .turn, .turn]).log = [68, 69, 70] ∧
    wanted { cfgP with range := some (3, 5), prePos := 6 } = [68, 69, 70] := by decide +kernel
-- the hypotheses of `exact_random_access` / `errors` are satisfiable with a position > 0, on a multi-block copy
example : cfgP.seq = false ∧ anyFault cfgP = false ∧ cfgP.block ≥ 1 ∧ rangeOK cfgP = true ∧ firstPos cfgP = 2 ∧
    4 ≥ (wanted cfgP).length / cfgP.block + 2 := by decide +kernel
example : rangeOK { cfgP with range := some (0, 4) } = true ∧ rangeOK { cfgP with prePos := 7 } = true ∧
    rangeOK { cfgP with prePos := 8 } = false ∧ rangeOK { cfgP with range := some (0, 1) } = false := by decide +kernel
example : faultReached { cfgP with readFailAt := some 1 } = true ∧
    (Copier.run { cfgP with readFailAt := some 1 } [.start, .turn, .turn, .turn]).log =
      [.ev 0, .ev 1, wrote [67, 68, 69], .ev 2, err, fin, .ev 3] := by decide +kernel
example : holds cfgP [.start, .turn, .turn, .turn, .turn] (Copier.run cfgP [.start, .turn, .turn, .turn, .turn]).log = true ∧
    -- a copier that rewinds the source to 0 is rejected
    holds cfgP [.start, .turn, .turn, .turn, .turn]
      [.ev 0, .ev 1, wrote [65, 66, 67], .ev 2, wrote [68, 69, 70], .ev 3, wrote [71], fin, .ev 4] = false := by decide +kernel
example : (Copier.run { cfgP with range := some (0, 2), prePos := 5 } [.start, .turn, .turn]).log =
    [.ev 0, .ev 1, err, fin, .ev 2] ∧
    (Copier.run { cfgP with range := some (0, 4), prePos := 5 } [.start, .turn, .turn]).log =
    [.ev 0, .ev 1, fin, .ev 2] := by decide +kernel

private def evsQ : List Ev := [.start, .turn, .arrive [65], .arriveQ [66, 67], .eof]
example : (Copier.run cfgS evsQ).log =
    [.ev 0, .ev 1, .ev 2, wrote [65], .ev 3, .ev 4, wrote [66, 67], fin] := by decide +kernel
example : feedOnly [.turn, .arrive [65], .arriveQ [66, 67]] = true ∧
    arrivedOf [.turn, .arrive [65], .arriveQ [66, 67]] = [65, 66, 67] := by decide +kernel
example : shape cfgS evsQ = true ∧ holds cfgS evsQ (Copier.run cfgS evsQ).log = true ∧
    -- a copier that does not drain the source at the end of the stream is rejected
    holds cfgS evsQ [.ev 0, .ev 1, .ev 2, wrote [65], .ev 3, .ev 4, fin] = false := by decide +kernel
example : (Copier.run cfgS [.start, .arriveQ [65, 66], .turn, .arriveQ [67], .eof]).log =
    [.ev 0, .ev 1, .ev 2, wrote [65, 66], .ev 3, .ev 4, wrote [67], fin] := by decide +kernel

theorem counts_idle_log (d : List Obs) (hd : ∀ o ∈ d, C14L.isMk o = true) :
    Obs.countP isErr ([Obs.ev 0, err, fin] ++ d) = 1 ∧ Obs.countP isFin ([Obs.ev 0, err, fin] ++ d) = 1 ∧
    Obs.countP isWrote ([Obs.ev 0, err, fin] ++ d) = 0 ∧
    Obs.countP isErr (([Obs.ev 0, err, fin] ++ d).dropWhile (fun o => !isFin o)) = 0 := by
  have hcl : C14L.Closed ([Obs.ev 0, err, fin] ++ d) := ⟨[Obs.ev 0, err], d, rfl, rfl, hd⟩
  refine ⟨?_, hcl.cnt_fin, ?_, hcl.no_err_after⟩
  · rw [isErr_eq, Obs.countP_append, C14L.cnt_of_mk C14L.mk_not_err hd]; rfl
  · rw [isWrote_eq, Obs.countP_append, C14L.cnt_of_mk C14L.mk_not_wrote hd]; rfl

/-- for every configuration whose source or destination cannot be
    opened and every event list — arrivals, end of data and timer turns in any number and order
    after the `start` — the model signals exactly one error followed by exactly one completion and
    copies nothing -/
theorem holdsOpen_run (c : Cfg) (evs : List Ev) : holdsOpen c evs (run c evs).log = true := by
  unfold holdsOpen
  split
  · rename_i h
    simp only [Bool.and_eq_true, Bool.not_eq_true', beq_iff_eq] at h
    obtain ⟨⟨⟨hf, hh⟩, hn⟩, hst⟩ := h
    cases evs with
    | nil => simp at hh
    | cons e rest =>
      simp only [List.head?_cons, Option.some.injEq] at hh
      subst hh
      have h1 : ∀ x ∈ rest, x ≠ Ev.start := by
        intro x hx hxe
        subst hxe
        have : ((Ev.start :: rest).filter (· == Ev.start)).length ≥ 2 := by
          have hm : Ev.start ∈ rest.filter (· == Ev.start) := List.mem_filter.2 ⟨hx, by simp⟩
          have := List.length_pos_of_mem hm
          simp; omega
        omega
      have h2 : ∀ x ∈ rest, x ≠ Ev.stop := by
        intro x hx hxe
        subst hxe
        have : hasStop (Ev.start :: rest) = true := by
          simp only [hasStop, List.any_cons, List.any_eq_true, Bool.or_eq_true]
          exact Or.inr ⟨Ev.stop, hx, by decide⟩
        rw [this] at hst; cases hst
      obtain ⟨_, _, d, hl, hd⟩ : C14O.Idle (run c (Ev.start :: rest)) :=
        C14O.run_idle c rest _ 1 (C14O.start_idle c hf) fun e he => ⟨h1 e he, h2 e he⟩
      rw [hl]
      obtain ⟨a, b, c', d'⟩ := counts_idle_log d hd
      rw [a, b, c', d']; rfl
  · rfl

example : openFault { src := [1, 2], seq := true, dstOpenFails := true } = true ∧
    holdsOpen { src := [1, 2], seq := true, dstOpenFails := true } [.start, .arrive [1, 2], .turn, .eof]
      [Obs.ev 0, err, fin, Obs.ev 1, err, Obs.ev 2, Obs.ev 3, fin] = false := by decide +kernel

theorem holdsAll_run (c : Cfg) (evs : List Ev) (hs : shape c evs = true) :
    holdsAll c evs (run c evs).log = true := by
  simp [holdsAll, holds_run c evs hs, holdsOpen_run c evs]

def startTurns (evs : List Ev) : Bool :=
  match evs with
  | .start :: r => !r.isEmpty && r.all (· == .turn)
  | _ => false

/-- a range whose end lies before the first byte (its start if > 0, else where the source stands)
    asks for no byte at all: nothing reaches the destination
    and completion is signalled exactly once (random-access source, no injected fault, left to run) -/
def holdsReversed (c : Cfg) (evs : List Ev) (obs : List Obs) : Bool :=
  match c.range with
  | some (_, t) =>
    if !c.seq && !anyFault c && decide (0 ≤ t) && decide (t < firstPos c) && decide (firstPos c ≤ c.src.length) && startTurns evs
    then writtenOf obs == [] && Obs.countP isFin obs == 1
    else true
  | none => true

theorem startTurns_shape (evs : List Ev) (h : startTurns evs = true) :
    ∃ n, evs = .start :: List.replicate (n + 1) .turn := by
  match evs, h with
  | .start :: r, h =>
    simp only [startTurns, Bool.and_eq_true, Bool.not_eq_true', List.all_eq_true, beq_iff_eq] at h
    obtain ⟨hne, hall⟩ := h
    refine ⟨r.length - 1, ?_⟩
    have hlen : r.length - 1 + 1 = r.length := by
      cases r with
      | nil => simp at hne
      | cons _ _ => simp
    rw [hlen]
    congr 1
    exact List.eq_replicate_iff.mpr ⟨rfl, hall⟩

theorem holdsReversed_run (c : Cfg) (evs : List Ev) : holdsReversed c evs (run c evs).log = true := by
  unfold holdsReversed
  split
  · rename_i f t hr
    split
    · rename_i hc
      simp only [Bool.and_eq_true, Bool.not_eq_true', decide_eq_true_eq] at hc
      obtain ⟨⟨⟨⟨⟨hseq, hnf⟩, ht0⟩, htf⟩, hfl⟩, hst⟩ := hc
      obtain ⟨n, rfl⟩ := startTurns_shape evs hst
      obtain ⟨_, hw, hfin, _, _⟩ := reversed_range c hseq hnf f t hr ht0 htf hfl n
      simp [hw, hfin]
    · rfl
  · rfl

example : holdsReversed { src := [65, 66, 67], block := 3, range := some (2, 0) } [.start, .turn, .turn]
      (run { src := [65, 66, 67], block := 3, range := some (2, 0) } [.start, .turn, .turn]).log = true ∧
    holdsReversed { src := [65, 66, 67], block := 3, range := some (2, 0) } [.start, .turn, .turn]
      [Obs.ev 0, Obs.ev 1, wrote [67], fin, Obs.ev 2] = false := by decide +kernel

def holdsEvery (c : Cfg) (evs : List Ev) (obs : List Obs) : Bool := holdsAll c evs obs && holdsReversed c evs obs

theorem holdsEvery_run (c : Cfg) (evs : List Ev) (hs : shape c evs = true) :
    holdsEvery c evs (run c evs).log = true := by
  simp [holdsEvery, holdsAll_run c evs hs, holdsReversed_run c evs]


/-- a range start > 0 makes `start()` seek: where the source stood is irrelevant -/
theorem wanted_seek (c : Cfg) (q : Nat) (h : rangeFrom c > 0) : wanted { c with prePos := q } = wanted c := by
  unfold wanted
  cases hr : c.range with
  | none => simp [rangeFrom, hr] at h
  | some ft =>
    obtain ⟨f, t⟩ := ft
    have hf : f > 0 := by simpa [rangeFrom, hr] using h
    simp only [hf, if_true]

theorem rangeOK_seek (c : Cfg) (q : Nat) (h : rangeFrom c > 0) : rangeOK { c with prePos := q } = rangeOK c := by
  have e1 : firstPos { c with prePos := q } = firstPos c := by
    unfold firstPos
    have : rangeFrom { c with prePos := q } = rangeFrom c := rfl
    rw [this, if_pos h, if_pos h]
  unfold rangeOK
  simp only [e1]
  cases hr : c.range with
  | none => simp [rangeFrom, hr] at h
  | some ft => rfl

/-- **the second run.**  A random-access copier that has run before (events `pre`, whatever they
    were) and whose timer is idle — the stale 0 ms timer of a stopped copy has fired — is started
    again, no device fault injected; `c2` is the configuration whose source stands where `pre`
    left it (`(run c pre).pos`).  Then the observations from the marker of that `start` on
    (`tail`) are those of a first run of `c2`: whatever events other than start/stop follow, the
    bytes written are a prefix of `wanted c2`; left to run they are exactly `wanted c2`, with exactly
    one further completion, after the last write, and no error.
    `rangeOK c2` asks that the first byte of the second run lies inside the source and not beyond
    the end of the range (see `reversed_range` for the other case); it holds in particular when
    the first run was stopped before it reached the end of the range (`restart_resumes`) and, if
    the range start is > 0, whenever `rangeOK c` does (`restart_ranged`). -/
theorem restart (c : Cfg) (hseq : c.seq = false) (hnf : anyFault c = false) (hb : c.block ≥ 1)
    (pre r : List Ev) (hidle : (Copier.run c pre).pending = .none)
    (hr : rangeOK { c with prePos := (Copier.run c pre).pos } = true) (hq : quiet r = true) :
    let c2 : Cfg := { c with prePos := (Copier.run c pre).pos }
    let s := Copier.run c (pre ++ .start :: r)
    let tail := s.log.drop (Copier.run c pre).log.length
    s.log = (Copier.run c pre).log ++ tail ∧
    tail.head? = some (Obs.ev pre.length) ∧ Obs.ev pre.length ∉ (Copier.run c pre).log ∧
    writtenOf tail <+: wanted c2 ∧
    (nTurns r ≥ (wanted c2).length / c.block + 2 →
      writtenOf tail = wanted c2 ∧
      Obs.countP isFin tail = 1 ∧
      Obs.countP isErr tail = 0 ∧
      Obs.countP isWrote ((tail.dropWhile (fun o => !isFin o)).drop 1) = 0 ∧
      s.pending = .none) := by
  intro c2 s tail
  have hnf2 : C14L.RangeNF c2 := C14L.rangeNF_of_ok c2 hr
  obtain ⟨s2, rest, hlog, hpend, hs2, hmk, hinv⟩ :=
    C14L.run_restart c hseq hnf pre r hidle hnf2 (quiet_iff.1 hq)
  have htail : tail = s2.log := by
    show (Copier.run c (pre ++ .start :: r)).log.drop _ = _
    rw [hlog, List.drop_left]
  rw [htail]
  refine ⟨hlog, by rw [hs2]; rfl, hmk, hinv.prefix, ?_⟩
  intro hn
  have hd : C14L.Done c2 s2 := hinv.done hb (by
    show C14L.nTurns r ≥ (C14L.wanted c2).length / c.block + 1
    rw [nTurns_eq, wanted_eq] at hn; omega)
  rcases hd.res with ⟨he, hw, _, _⟩ | ⟨_, hf⟩
  · exact ⟨hw, hd.closed.cnt_fin, he, hd.closed.no_wrote_after, by show (Copier.run c _).pending = _; rw [hpend]; exact hd.pending⟩
  · have : C14L.anyFault c2 = C14L.anyFault c := rfl
    rw [this, ← anyFault_eq, hnf] at hf; cases hf

/-- the second run of a copy with a range start > 0: `start()` seeks there again, so — wherever
    the first run was stopped — the second run, left to run, writes exactly the wanted bytes
    again, followed by exactly one further completion -/
theorem restart_ranged (c : Cfg) (hseq : c.seq = false) (hnf : anyFault c = false) (hb : c.block ≥ 1)
    (hfrom : rangeFrom c > 0) (hr : rangeOK c = true)
    (pre r : List Ev) (hidle : (Copier.run c pre).pending = .none) (hq : quiet r = true)
    (hn : nTurns r ≥ (wanted c).length / c.block + 2) :
    let s := Copier.run c (pre ++ .start :: r)
    let tail := s.log.drop (Copier.run c pre).log.length
    s.log = (Copier.run c pre).log ++ tail ∧
    tail.head? = some (Obs.ev pre.length) ∧
    writtenOf tail = wanted c ∧
    Obs.countP isFin tail = 1 ∧
    Obs.countP isErr tail = 0 ∧
    Obs.countP isWrote ((tail.dropWhile (fun o => !isFin o)).drop 1) = 0 ∧
    s.pending = .none := by
  intro s tail
  have hw := wanted_seek c (Copier.run c pre).pos hfrom
  have hr2 : rangeOK { c with prePos := (Copier.run c pre).pos } = true := by
    rw [rangeOK_seek c _ hfrom]; exact hr
  obtain ⟨h1, h2, _, _, h5⟩ := restart c hseq hnf hb pre r hidle hr2 hq
  rw [hw] at h5
  obtain ⟨a, b, d, e, f⟩ := h5 hn
  exact ⟨h1, h2, a, b, d, e, f⟩

/-- the hypothesis "the timer is idle" of `restart` after a `stop()`: one event-loop turn after it
    (the stale timer fires and finds the copier stopped), then anything but `start` — and the
    source still stands where the events before the `stop` left it -/
theorem idle_after_stop (c : Cfg) (pre post : List Ev) (hpost : ∀ e ∈ post, e ≠ .start) :
    (Copier.run c (pre ++ .stop :: .turn :: post)).pending = .none ∧
    (Copier.run c (pre ++ .stop :: .turn :: post)).pos = (Copier.run c pre).pos :=
  C14L.run_stop_turn c pre post hpost

/-- a copy without range start whose source stands `d` bytes further, `d = 0` or `d < |wanted|`, is in the
    domain again … -/
theorem rangeOK_shift (c : Cfg) (d : Nat) (hr : rangeOK c = true) (hfrom : ¬ rangeFrom c > 0)
    (hd : d = 0 ∨ d < (wanted c).length) : rangeOK { c with prePos := c.prePos + d } = true := by
  have hnf := C14L.rangeNF_of_ok c hr
  have hp : C14L.f0 c = c.prePos := C14L.f0_of_zero c hfrom
  have hE := C14L.endPos_le c
  have hfe := hnf.slice.1
  have hw : (wanted c).length = C14L.endPos c - c.prePos := by rw [← hp]; exact hnf.wanted_len
  rw [hp] at hfe
  -- the new first byte lies before the end of the wanted bytes, or is the old one
  have hlt : d = 0 ∨ c.prePos + d < C14L.endPos c := by omega
  have hfp : firstPos { c with prePos := c.prePos + d } = c.prePos + d :=
    C14L.f0_of_zero { c with prePos := c.prePos + d } hfrom
  unfold rangeOK
  rw [hfp]
  cases hrg : c.range with
  | none => simpa using (show c.prePos + d ≤ c.src.length by omega)
  | some ft =>
    obtain ⟨f, t⟩ := ft
    have e1 : rangeFrom c = f := by simp [rangeFrom, hrg]
    have e2 : rangeTo c = t := by simp [rangeTo, hrg]
    have hto : ((c.prePos + d : Nat) : Int) ≤ t ∨ t = -1 := by
      rcases hnf.to_cases with ⟨h1, _⟩ | ⟨tn, h1, h2, _⟩
      · exact Or.inr (e2.symm.trans h1)
      · have : C14L.endPos c ≤ tn + 1 := by rw [C14L.endPos_some h1]; exact Nat.min_le_left _ _
        rw [hp] at h2
        exact Or.inl (by rw [← e2, h1]; omega)
    simp only [Bool.and_eq_true, Bool.or_eq_true, decide_eq_true_eq, beq_iff_eq]
    exact ⟨⟨e1 ▸ hnf.from_nonneg, hto⟩, by omega⟩

/-- … and is asked for the wanted bytes minus their first `d` -/
theorem wanted_shift (c : Cfg) (d : Nat) (hfrom : ¬ rangeFrom c > 0) (hr : rangeOK c = true)
    (hr' : rangeOK { c with prePos := c.prePos + d } = true) :
    wanted { c with prePos := c.prePos + d } = (wanted c).drop d := by
  have h1 := (C14L.rangeNF_of_ok c hr).slice.2
  have h2 : C14L.wanted { c with prePos := c.prePos + d } =
      (c.src.drop (c.prePos + d)).take (C14L.endPos c - (c.prePos + d)) := by
    have := (C14L.rangeNF_of_ok _ hr').slice.2
    rwa [C14L.f0_of_zero { c with prePos := c.prePos + d } hfrom] at this
  rw [C14L.f0_of_zero c hfrom] at h1
  show C14L.wanted _ = (C14L.wanted c).drop d
  rw [h2, h1, List.drop_take, List.drop_drop, Nat.sub_sub]

/-- **stop mid-copy, then resume.**  A fault-free random-access copy without range start
    (`rangeFrom ≤ 0`: `start()` does not seek) is stopped after `m` blocks, with bytes still to copy
    (`m = 0` or `m * block < |wanted|`); at least one event-loop turn later (the stale timer fires)
    it is started again and left to run.  The first run wrote the first `m * block` wanted bytes;
    the second run writes exactly the rest — the source from the position where the first run
    stopped —, followed by exactly one further completion; together: exactly the wanted bytes,
    in order and without duplication. -/
theorem restart_resumes (c : Cfg) (hseq : c.seq = false) (hnf : anyFault c = false) (hb : c.block ≥ 1)
    (hr : rangeOK c = true) (hfrom : ¬ rangeFrom c > 0)
    (m : Nat) (hm : m = 0 ∨ m * c.block < (wanted c).length)
    (post r : List Ev) (hpost : quiet post = true) (hq : quiet r = true)
    (hn : nTurns r ≥ ((wanted c).length - m * c.block) / c.block + 2) :
    let pre := (.start :: List.replicate m .turn) ++ .stop :: .turn :: post
    let s := Copier.run c (pre ++ .start :: r)
    let tail := s.log.drop (Copier.run c pre).log.length
    s.log = (Copier.run c pre).log ++ tail ∧
    writtenOf (Copier.run c pre).log = (wanted c).take (m * c.block) ∧
    writtenOf tail = (wanted c).drop (m * c.block) ∧
    writtenOf s.log = wanted c ∧
    Obs.countP isFin tail = 1 ∧
    Obs.countP isErr tail = 0 ∧
    Obs.countP isWrote ((tail.dropWhile (fun o => !isFin o)).drop 1) = 0 ∧
    s.pending = .none := by
  intro pre s tail
  have hnfr := C14L.rangeNF_of_ok c hr
  have hrun := C14L.run_running c hseq hnf hnfr m (by rw [← wanted_eq]; exact hm)
  have hpost' : ∀ e ∈ post, e ≠ Ev.start := fun e he => ((quiet_iff.1 hpost) e he).1
  obtain ⟨hidle, hpos⟩ := idle_after_stop c (.start :: List.replicate m .turn) post hpost'
  have hpos' : (Copier.run c pre).pos = c.prePos + m * c.block := by
    show (Copier.run c ((.start :: List.replicate m .turn) ++ .stop :: .turn :: post)).pos = _
    rw [hpos, hrun.pos, C14L.f0_of_zero c hfrom]
  have hstop : Ev.stop ∉ (Ev.start :: List.replicate m Ev.turn) := by
    intro h
    rcases List.mem_cons.1 h with h | h
    · cases h
    · cases List.eq_of_mem_replicate h
  have hq1 : quiet (Ev.turn :: post) = true := by
    apply quiet_iff.2
    intro e he
    rcases List.mem_cons.1 he with h | h
    · subst h; simp
    · exact (quiet_iff.1 hpost) e h
  have hw1 : writtenOf (Copier.run c pre).log = (wanted c).take (m * c.block) := by
    show writtenOf (Copier.run c ((.start :: List.replicate m .turn) ++ .stop :: .turn :: post)).log = _
    rw [(afterStop_run c _ _ hstop hq1).2, writtenOf_eq, hrun.wr, wanted_eq]
  have hr2 : rangeOK { c with prePos := (Copier.run c pre).pos } = true := by
    rw [hpos']; exact rangeOK_shift c _ hr hfrom (by
      rcases hm with h | h
      · left; rw [h]; simp
      · right; exact h)
  obtain ⟨h1, _, _, _, h5⟩ := restart c hseq hnf hb pre r hidle hr2 hq
  rw [hpos'] at hr2 h5
  rw [wanted_shift c _ hfrom hr hr2] at h5
  obtain ⟨a, b, d, e, f⟩ := h5 (by rw [List.length_drop]; exact hn)
  refine ⟨h1, hw1, a, ?_, b, d, e, f⟩
  show writtenOf (Copier.run c (pre ++ .start :: r)).log = wanted c
  rw [h1, writtenOf_eq, C14L.written_append, ← writtenOf_eq, hw1, a, List.take_append_drop]

/-- index of the first `start` that is not the head event: the copy is started again -/
def restartAt (evs : List Ev) : Option Nat := ((evs.drop 1).findIdx? (· == .start)).map (· + 1)

/-- the events of the first run … -/
def firstRunEvs (evs : List Ev) : List Ev :=
  match restartAt evs with | none => evs | some k => evs.take k
/-- … and its observations: those before the marker of the second `start` -/
def firstRunObs (evs : List Ev) (obs : List Obs) : List Obs :=
  match restartAt evs with | none => obs | some k => obs.takeWhile (fun o => o != Obs.ev k)

/-- the second run (random-access source, no injected fault, timer idle when `start` is called
    again, no further start/stop): what is observed from the marker of the second `start` on.
    `c2` is the configuration whose source stands where the model's first run left it — the
    implementation's position is not observable, but the bytes of its first run are, and they are
    compared with the model's.  In order and without duplication: a prefix of `wanted c2`; left
    to run: exactly `wanted c2` (the wanted bytes again if the range start is > 0, the source from
    where the first run stopped otherwise), one completion after the last write, no error. -/
def holdsRestart (c : Cfg) (evs : List Ev) (obs : List Obs) : Bool :=
  match restartAt evs with
  | none => true
  | some k =>
    let s1 := Copier.run c (evs.take k)
    let c2 : Cfg := { c with prePos := s1.pos }
    let post := evs.drop (k + 1)
    let tail := obs.dropWhile (fun o => o != Obs.ev k)
    if !c.seq && !anyFault c && decide (c.block ≥ 1) && rangeOK c2 && s1.pending == .none && quiet post
    then (writtenOf tail).isPrefixOf (wanted c2) &&
         (if nTurns post ≥ (wanted c2).length / c.block + 2
          then writtenOf tail == wanted c2 && Obs.countP isFin tail == 1 && Obs.countP isErr tail == 0 &&
               Obs.countP isWrote ((tail.dropWhile (fun o => !isFin o)).drop 1) == 0
          else true)
    else true

/-- the predicate the driver evaluates: the clauses of `holdsEvery` for the first run (they are
    about one `start`, at the head, and do not apply to what follows a second one), `holdsRestart`
    for the second -/
def holdsRuns (c : Cfg) (evs : List Ev) (obs : List Obs) : Bool :=
  holdsEvery c (firstRunEvs evs) (firstRunObs evs obs) && holdsRestart c evs obs

theorem restartAt_spec {evs : List Ev} {k : Nat} (h : restartAt evs = some k) :
    evs = evs.take k ++ .start :: evs.drop (k + 1) ∧ (evs.take k).length = k := by
  unfold restartAt at h
  cases hj : (evs.drop 1).findIdx? (· == Ev.start) with
  | none => rw [hj] at h; cases h
  | some j =>
    rw [hj] at h
    simp only [Option.map_some, Option.some.injEq] at h
    subst h
    obtain ⟨hlt, hp, _⟩ := List.findIdx?_eq_some_iff_getElem.1 hj
    have hlt' : j + 1 < evs.length := by
      rw [List.length_drop] at hlt; omega
    have hget : evs[j + 1] = Ev.start := by
      rw [List.getElem_drop] at hp
      have : evs[1 + j] = evs[j + 1] := by congr 1; omega
      rw [this] at hp
      simpa using hp
    refine ⟨?_, by rw [List.length_take]; omega⟩
    conv => lhs; rw [← List.take_append_drop (j + 1) evs, List.drop_eq_getElem_cons hlt', hget]

theorem firstRunObs_run (c : Cfg) (evs : List Ev) :
    firstRunObs evs (Copier.run c evs).log = (Copier.run c (firstRunEvs evs)).log := by
  unfold firstRunObs firstRunEvs
  cases hk : restartAt evs with
  | none => rfl
  | some k =>
    obtain ⟨hsplit, hlen⟩ := restartAt_spec hk
    simp only []
    obtain ⟨hmk, rest, hl⟩ := C14L.run_split c (evs.take k) .start (evs.drop (k + 1))
    rw [hlen] at hmk hl
    conv => lhs; rw [hsplit]
    rw [hl, C14L.takeWhile_ne_mk hmk]

theorem holdsRestart_run (c : Cfg) (evs : List Ev) : holdsRestart c evs (Copier.run c evs).log = true := by
  unfold holdsRestart
  cases hk : restartAt evs with
  | none => rfl
  | some k =>
    simp only []
    split
    · rename_i hc
      simp only [Bool.and_eq_true, Bool.not_eq_true', decide_eq_true_eq, beq_iff_eq] at hc
      obtain ⟨⟨⟨⟨⟨hseq, hnf⟩, hb⟩, hr⟩, hidle⟩, hq⟩ := hc
      obtain ⟨hsplit, hlen⟩ := restartAt_spec hk
      obtain ⟨h1, h2, h3, h4, h5⟩ := restart c hseq hnf hb (evs.take k) (evs.drop (k + 1)) hidle hr hq
      rw [← hsplit] at h1 h2 h4 h5
      rw [hlen] at h2 h3
      -- the tail the predicate cuts out is the tail of the theorem
      generalize hT : (Copier.run c evs).log.drop (Copier.run c (evs.take k)).log.length = T at h1 h2 h4 h5
      have hcut : (Copier.run c evs).log.dropWhile (fun o => o != Obs.ev k) = T := by
        cases T with
        | nil => simp at h2
        | cons t T' =>
          simp only [List.head?_cons, Option.some.injEq] at h2
          subst h2
          rw [h1, C14L.dropWhile_ne_mk h3]
      rw [hcut]
      refine Bool.and_eq_true_iff.2 ⟨List.isPrefixOf_iff_prefix.2 h4, ?_⟩
      split
      · rename_i hn
        obtain ⟨a, b, d, e, _⟩ := h5 hn
        rw [a, b, d, e]
        simp
      · rfl
    · rfl

/-- `shape` for scenarios that may start the copy a second time: the first run has the documented
    shape (what follows the second `start` is unconstrained: `holdsRestart` states its own
    conditions) -/
def shapeRuns (c : Cfg) (evs : List Ev) : Bool := shape c (firstRunEvs evs)

/-- the predicate the driver evaluates (`Driver/Main.lean`, `evalCopier`) holds on every run of the model
    whose first run has the documented shape -/
theorem holdsRuns_run (c : Cfg) (evs : List Ev) (hs : shapeRuns c evs = true) :
    holdsRuns c evs (Copier.run c evs).log = true := by
  unfold holdsRuns
  rw [firstRunObs_run, holdsEvery_run c _ hs, holdsRestart_run]
  rfl

theorem holdsRuns_single (c : Cfg) (evs : List Ev) (obs : List Obs) (h : restartAt evs = none) :
    holdsRuns c evs obs = holdsEvery c evs obs := by
  simp [holdsRuns, firstRunEvs, firstRunObs, holdsRestart, h]

private def evsRR : List Ev := [.start, .turn, .stop, .turn, .turn, .start, .turn, .turn, .turn, .turn]
example : (Copier.run cfgR evsRR).log =
    [.ev 0, .ev 1, wrote [67, 68, 69], .ev 2, fin, .ev 3, .ev 4,
     .ev 5, .ev 6, wrote [67, 68, 69], .ev 7, wrote [70], fin, .ev 8, .ev 9] := by decide +kernel
example : restartAt evsRR = some 5 ∧ shapeRuns cfgR evsRR = true ∧
    holdsRuns cfgR evsRR (Copier.run cfgR evsRR).log = true := by decide +kernel
-- the hypotheses of `restart` / `restart_ranged` are satisfiable (pre = start, turn, stop, turn, turn)
example : cfgR.seq = false ∧ anyFault cfgR = false ∧ cfgR.block ≥ 1 ∧ rangeFrom cfgR > 0 ∧ rangeOK cfgR = true ∧
    (Copier.run cfgR [.start, .turn, .stop, .turn, .turn]).pending = .none ∧
    (Copier.run cfgR [.start, .turn, .stop, .turn, .turn]).pos = 5 ∧
    rangeOK { cfgR with prePos := 5 } = true ∧
    quiet [Ev.turn, .turn, .turn, .turn] = true ∧ nTurns [Ev.turn, .turn, .turn, .turn] ≥ (wanted cfgR).length / cfgR.block + 2 := by
  decide +kernel
-- a second run that resumed where the first stopped (no seek) is rejected
example : holdsRuns cfgR evsRR
    [.ev 0, .ev 1, wrote [67, 68, 69], .ev 2, fin, .ev 3, .ev 4, .ev 5, .ev 6, wrote [70], fin, .ev 7, .ev 8, .ev 9] = false := by
  decide +kernel
private def cfgN : Cfg := { src := abcdefg, block := 3 }
example : (Copier.run cfgN evsRR).log =
    [.ev 0, .ev 1, wrote [65, 66, 67], .ev 2, fin, .ev 3, .ev 4,
     .ev 5, .ev 6, wrote [68, 69, 70], .ev 7, wrote [71], fin, .ev 8, .ev 9] := by decide +kernel
example : holdsRuns cfgN evsRR (Copier.run cfgN evsRR).log = true ∧
    -- a second run that starts over from byte 0, or that never completes, is rejected
    holdsRuns cfgN evsRR [.ev 0, .ev 1, wrote [65, 66, 67], .ev 2, fin, .ev 3, .ev 4,
      .ev 5, .ev 6, wrote [65, 66, 67], .ev 7, wrote [68, 69, 70], .ev 8, wrote [71], fin, .ev 9] = false ∧
    holdsRuns cfgN evsRR [.ev 0, .ev 1, wrote [65, 66, 67], .ev 2, fin, .ev 3, .ev 4,
      .ev 5, .ev 6, wrote [68, 69, 70], .ev 7, wrote [71], .ev 8, .ev 9] = false := by decide +kernel
-- the hypotheses of `restart_resumes` are satisfiable (m = 1 block of 3 out of 7 bytes)
example : cfgN.seq = false ∧ anyFault cfgN = false ∧ cfgN.block ≥ 1 ∧ rangeOK cfgN = true ∧ ¬ rangeFrom cfgN > 0 ∧
    1 * cfgN.block < (wanted cfgN).length ∧ quiet [Ev.turn] = true ∧
    nTurns [Ev.turn, .turn, .turn, .turn] ≥ ((wanted cfgN).length - 1 * cfgN.block) / cfgN.block + 2 := by decide +kernel
-- the first run's clauses still see the first run only: a write after the first stop() is rejected
example : holdsRuns cfgN evsRR [.ev 0, .ev 1, wrote [65, 66, 67], .ev 2, fin, .ev 3, wrote [68, 69, 70], .ev 4,
      .ev 5, .ev 6, wrote [68, 69, 70], .ev 7, wrote [71], fin, .ev 8, .ev 9] = false := by decide +kernel

/-! ### `stop()` called from inside a write of the destination

  `Copier.runS c k` (Model/CopierStopIn.lean) is the code when the destination's write
  number `k` (counted from 0) reaches a slot that calls `stop()` before `write()` returns; the
  harness produces that with the scenario token `stopin:k`.  `Copier.run` has `stop` only as an
  event between two turns.  `stopInEvs` is the event list the driver compares such a run with;
  `stopin_equiv` proves that the two runs log the same signals in the same order (event markers
  aside: the plain run has one more event), for every random-access configuration — any range,
  any block size (0 included), any device fault. -/

def noMark (l : List Obs) : List Obs := l.filter fun o => match o with | .ev _ => false | _ => true
theorem noMark_eq : noMark = C14L.noMark := rfl

/-- `stop` placed right after the `k`-th event-loop turn (counted from 0; `seen`: turns passed) -/
def insertStop (k : Nat) : List Ev → Nat → List Ev
  | [], _ => []
  | e :: r, seen =>
    if e == .turn then (if seen == k then e :: .stop :: r else e :: insertStop k r (seen + 1))
    else e :: insertStop k r seen

/-- the plain scenario a `stopin:k` run of `evs` is compared with: write number `k` is made by
    the `(k+1)`-th turn (if the copy gets that far), so `stop` goes right after that turn — unless
    the plain model has logged a completion by then (the copy ended earlier, block `k` was the last
    one, or a device failed): then the completion `stop()` signals would be a second one in the
    plain model while the nested `stop()` pre-empts the copier's own, and the scenario is `evs` -/
def stopInEvs (c : Cfg) (k : Nat) (evs : List Ev) : List Ev :=
  let withStop := insertStop k evs 0
  let upTo := withStop.takeWhile (· != .stop)
  if (Copier.run c upTo).log.any (· == fin) then evs else withStop

theorem insertStop_short (k : Nat) : ∀ (n seen : Nat), seen + n ≤ k →
    insertStop k (List.replicate n Ev.turn) seen = List.replicate n Ev.turn := by
  intro n
  induction n with
  | zero => intro seen _; rfl
  | succ n ih =>
    intro seen h
    have hne : ¬ seen = k := by omega
    rw [List.replicate_succ]
    simp only [insertStop, beq_self_eq_true, if_true, beq_iff_eq, hne, if_false]
    rw [ih (seen + 1) (by omega)]

theorem insertStop_long (k m : Nat) : ∀ (d seen : Nat), seen + d = k →
    insertStop k (List.replicate (d + 1 + m) Ev.turn) seen =
      List.replicate (d + 1) Ev.turn ++ Ev.stop :: List.replicate m Ev.turn := by
  intro d
  induction d with
  | zero =>
    intro seen h
    have he : seen = k := by omega
    rw [show 0 + 1 + m = m + 1 by omega, List.replicate_succ]
    simp [insertStop, he]
  | succ d ih =>
    intro seen h
    have hne : ¬ seen = k := by omega
    rw [show d + 1 + 1 + m = (d + 1 + m) + 1 by omega, List.replicate_succ]
    simp only [insertStop, beq_self_eq_true, if_true, beq_iff_eq, hne, if_false]
    rw [ih (seen + 1) (by omega), List.replicate_succ (n := d + 1)]
    rfl

theorem takeWhile_turns (a : Nat) (r : List Ev) :
    (List.replicate a Ev.turn ++ Ev.stop :: r).takeWhile (· != .stop) = List.replicate a Ev.turn := by
  induction a with
  | zero => simp
  | succ a ih =>
    rw [List.replicate_succ, List.cons_append, List.takeWhile_cons, ih]
    simp

theorem stopInEvs_short (c : Cfg) (k n : Nat) (h : n ≤ k) :
    stopInEvs c k (.start :: List.replicate n .turn) = .start :: List.replicate n .turn := by
  have e : insertStop k (.start :: List.replicate n .turn) 0 = .start :: List.replicate n .turn := by
    rw [insertStop]
    simp only [show (Ev.start == Ev.turn) = false from rfl, Bool.false_eq_true, if_false]
    rw [insertStop_short k n 0 (by omega)]
  simp only [stopInEvs, e, ite_self]

theorem stopInEvs_long (c : Cfg) (k m : Nat) :
    stopInEvs c k (.start :: List.replicate (k + 1 + m) .turn) =
      if (Copier.run c (.start :: List.replicate (k + 1) .turn)).log.any (· == fin)
      then .start :: List.replicate (k + 1 + m) .turn
      else (.start :: List.replicate (k + 1) .turn) ++ .stop :: List.replicate m .turn := by
  have e : insertStop k (.start :: List.replicate (k + 1 + m) .turn) 0 =
      .start :: (List.replicate (k + 1) .turn ++ .stop :: List.replicate m .turn) := by
    rw [insertStop]
    simp only [show (Ev.start == Ev.turn) = false from rfl, Bool.false_eq_true, if_false]
    rw [insertStop_long k m k 0 (by omega)]
  have e2 : (Ev.start :: (List.replicate (k + 1) Ev.turn ++ Ev.stop :: List.replicate m Ev.turn)).takeWhile (· != .stop) =
      .start :: List.replicate (k + 1) .turn := by
    rw [List.takeWhile_cons, takeWhile_turns]
    simp
  simp only [stopInEvs, e, e2]
  rfl

/-- **equivalence**: `stop()` called from inside write number `k` is observed exactly as the
    plain model's run of `stopInEvs` — the same signals in the same order.  Every random-access
    configuration (any block size, range, position, device faults), every `k`, every number of
    turns; no side condition. -/
theorem stopin_equiv (c : Cfg) (hseq : c.seq = false) (k n : Nat) :
    noMark (Copier.runS c k (.start :: List.replicate n .turn)).log =
    noMark (Copier.run c (stopInEvs c k (.start :: List.replicate n .turn))).log := by
  by_cases hn : n ≤ k
  · rw [stopInEvs_short c k n hn, C14L.runS_short c hseq k n hn]
  · obtain ⟨m, rfl⟩ : ∃ m, n = k + 1 + m := ⟨n - (k + 1), by omega⟩
    rw [stopInEvs_long]
    obtain ⟨_, hcase⟩ := C14L.runS_cases c hseq k m
    rcases hcase with ⟨ho, hl, hl'⟩ | ⟨hr, _, hl⟩
    · have hany : (Copier.run c (.start :: List.replicate (k + 1) .turn)).log.any (· == fin) = true := by
        simp only [List.any_eq_true, beq_iff_eq]
        exact ⟨fin, ho.closed.mem_fin, rfl⟩
      rw [if_pos hany, hl, hl']
    · have hany : ¬ (Copier.run c (.start :: List.replicate (k + 1) .turn)).log.any (· == fin) = true := by
        simp only [List.any_eq_true, beq_iff_eq]
        rintro ⟨o, ho, rfl⟩
        exact C14L.not_mem_fin_of_cnt hr.nofin ho
      rw [if_neg hany, hl]
      have hq : ∀ e ∈ List.replicate m Ev.turn, e ≠ .start ∧ e ≠ .stop := by
        intro e he; rw [List.eq_of_mem_replicate he]; simp
      obtain ⟨_, ms, hrun, hms⟩ := C14L.run_stop c (.start :: List.replicate (k + 1) .turn) (List.replicate m .turn) hq
      rw [hrun, noMark_eq, C14L.noMark_append, C14L.noMark_append, C14L.noMark_cons_fin, C14L.noMark_cons_ev,
        C14L.noMark_cons_fin, C14L.noMark_of_mk hms, C14L.noMark_of_mk (C14L.range'_map_mk _ _)]

theorem stopin_not_reached (c : Cfg) (hseq : c.seq = false) (k n : Nat) (h : n ≤ k) :
    Copier.runS c k (.start :: List.replicate n .turn) = Copier.run c (.start :: List.replicate n .turn) :=
  C14L.runS_short c hseq k n h

theorem writtenOf_noMark (l : List Obs) : writtenOf (noMark l) = writtenOf l := by
  rw [writtenOf_eq, noMark_eq]; exact C14L.written_noMark l

/-- in order, no duplication, whatever write stops the copier and whatever devices fail -/
theorem stopin_prefix (c : Cfg) (hseq : c.seq = false) (hb : c.block ≥ 1) (hr : rangeOK c = true) (k n : Nat) :
    writtenOf (Copier.runS c k (.start :: List.replicate n .turn)).log <+: wanted c := by
  have hq : ∀ j, quiet (List.replicate j Ev.turn) = true := by
    intro j; rw [quiet_iff]; intro e he; rw [List.eq_of_mem_replicate he]; simp
  rw [← writtenOf_noMark, stopin_equiv c hseq k n, writtenOf_noMark]
  by_cases hn : n ≤ k
  · rw [stopInEvs_short c k n hn]
    exact prefix_random_access c hseq hb hr _ (hq n)
  · obtain ⟨m, rfl⟩ : ∃ m, n = k + 1 + m := ⟨n - (k + 1), by omega⟩
    rw [stopInEvs_long]
    split
    · exact prefix_random_access c hseq hb hr _ (hq _)
    · have hpre : Ev.stop ∉ (Ev.start :: List.replicate (k + 1) Ev.turn) := by
        intro hm
        rcases List.mem_cons.1 hm with hm | hm
        · cases hm
        · have := List.eq_of_mem_replicate hm; cases this
      rw [(stop_halts c _ _ hpre (hq m)).2.2]
      exact prefix_random_access c hseq hb hr _ (hq _)

/-- no device fault: exactly the first `min n (k+1)` blocks of the wanted bytes were written (`List.take`
    stops at the end of `wanted`) -/
theorem stopin_written (c : Cfg) (hseq : c.seq = false) (hnf : anyFault c = false) (hb : c.block ≥ 1)
    (hr : rangeOK c = true) (k n : Nat) :
    writtenOf (Copier.runS c k (.start :: List.replicate n .turn)).log =
      (wanted c).take (min n (k + 1) * c.block) := by
  have hnf' : C14L.anyFault c = false := hnf
  have hrn := C14L.rangeNF_of_ok c hr
  by_cases hn : n ≤ k
  · rw [C14L.runS_short c hseq k n hn, Nat.min_eq_left (by omega)]
    exact (C14L.run_qinv c hseq hrn hnf' n).written
  · obtain ⟨m, rfl⟩ : ∃ m, n = k + 1 + m := ⟨n - (k + 1), by omega⟩
    rw [Nat.min_eq_right (by omega)]
    have ht := (C14L.run_qinv c hseq hrn hnf' (k + 1)).written
    obtain ⟨_, hcase⟩ := C14L.runS_cases c hseq k m
    rcases hcase with ⟨_, hl, _⟩ | ⟨_, _, hl⟩
    · rw [hl, writtenOf_eq, C14L.written_append, C14L.written_of_mk (C14L.range'_map_mk _ _), List.append_nil]
      exact ht
    · rw [hl, writtenOf_eq, C14L.written_append, C14L.written_cons, C14L.written_fin,
        C14L.written_of_mk (C14L.range'_map_mk _ _), List.append_nil, List.append_nil]
      exact ht

theorem stopin_written_length (c : Cfg) (hseq : c.seq = false) (hnf : anyFault c = false) (hb : c.block ≥ 1)
    (hr : rangeOK c = true) (k n : Nat) (hk : k < n) :
    (writtenOf (Copier.runS c k (.start :: List.replicate n .turn)).log).length =
      min ((k + 1) * c.block) (wanted c).length := by
  rw [stopin_written c hseq hnf hb hr k n, Nat.min_eq_right (by omega), List.length_take]

/-- exactly ONE completion, and nothing after it: the timer is idle and the log is closed.  In particular
    when write `k` is the last block, the copier's own `finished()` does not follow the one `stop()` emitted. -/
theorem stopin_closed (c : Cfg) (hseq : c.seq = false) (k n : Nat) (hk : k < n) :
    (Copier.runS c k (.start :: List.replicate n .turn)).pending = .none ∧
    C14L.Closed (Copier.runS c k (.start :: List.replicate n .turn)).log := by
  obtain ⟨m, rfl⟩ : ∃ m, n = k + 1 + m := ⟨n - (k + 1), by omega⟩
  obtain ⟨hp, hcase⟩ := C14L.runS_cases c hseq k m
  refine ⟨hp, ?_⟩
  rcases hcase with ⟨ho, hl, _⟩ | ⟨hr, _, hl⟩
  · rw [hl]; exact ho.closed.append_mk (C14L.range'_map_mk _ _)
  · rw [hl]; exact ⟨_, _, rfl, hr.nofin, C14L.range'_map_mk _ _⟩

/-- the same in the terms of `holds` -/
theorem stopin_once (c : Cfg) (hseq : c.seq = false) (k n : Nat) (hk : k < n) :
    let s := Copier.runS c k (.start :: List.replicate n .turn)
    s.pending = .none ∧
    Obs.countP isFin s.log = 1 ∧
    Obs.countP isWrote ((s.log.dropWhile (fun o => !isFin o)).drop 1) = 0 ∧
    Obs.countP isFin ((s.log.dropWhile (fun o => !isFin o)).drop 1) = 0 ∧
    Obs.countP isErr (s.log.dropWhile (fun o => !isFin o)) = 0 := by
  intro s
  obtain ⟨hp, hcl⟩ := stopin_closed c hseq k n hk
  refine ⟨hp, hcl.cnt_fin, hcl.no_wrote_after, ?_, hcl.no_err_after⟩
  obtain ⟨l2, e, h2⟩ := hcl.dropWhile
  show Obs.countP isFin ((s.log.dropWhile (fun o => !C14L.isFin o)).drop 1) = 0
  rw [e]; exact C14L.cnt_of_mk C14L.mk_not_fin h2

theorem stopin_ends_with_fin (c : Cfg) (hseq : c.seq = false) (k n : Nat) (hk : k < n) :
    ∃ l, noMark (Copier.runS c k (.start :: List.replicate n .turn)).log = l ++ [fin] ∧
         Obs.countP isFin l = 0 :=
  (stopin_closed c hseq k n hk).2.strip

theorem stopin_no_error (c : Cfg) (hseq : c.seq = false) (hnf : anyFault c = false)
    (hr : rangeOK c = true) (k n : Nat) :
    Obs.countP isErr (Copier.runS c k (.start :: List.replicate n .turn)).log = 0 := by
  have hnf' : C14L.anyFault c = false := hnf
  have hrn := C14L.rangeNF_of_ok c hr
  have hmk : ∀ j m, Obs.countP C14L.isErr ((List.range' j m).map Obs.ev) = 0 :=
    fun j m => C14L.cnt_of_mk C14L.mk_not_err (C14L.range'_map_mk j m)
  by_cases hn : n ≤ k
  · rw [C14L.runS_short c hseq k n hn]
    exact (C14L.run_qinv c hseq hrn hnf' n).noerr
  · obtain ⟨m, rfl⟩ : ∃ m, n = k + 1 + m := ⟨n - (k + 1), by omega⟩
    have ht := (C14L.run_qinv c hseq hrn hnf' (k + 1)).noerr
    obtain ⟨_, hcase⟩ := C14L.runS_cases c hseq k m
    rcases hcase with ⟨_, hl, _⟩ | ⟨_, _, hl⟩
    · rw [hl, isErr_eq, Obs.countP_append, ht, hmk]
    · rw [hl, isErr_eq, Obs.countP_append, Obs.countP_cons, ht, hmk]; rfl

/-- `stop()` from inside the LAST write, after which `nextBlock()` would signal completion itself
    (`|wanted| ≤ (k+1)·block`; or the copy has fewer blocks and write `k` never happens): everything wanted was copied, no
    error, and still exactly one completion with nothing after it -/
theorem stopin_last_block (c : Cfg) (hseq : c.seq = false) (hnf : anyFault c = false) (hb : c.block ≥ 1)
    (hr : rangeOK c = true) (k n : Nat) (hk : k < n) (hlast : (wanted c).length ≤ (k + 1) * c.block) :
    let s := Copier.runS c k (.start :: List.replicate n .turn)
    writtenOf s.log = wanted c ∧
    Obs.countP isErr s.log = 0 ∧
    Obs.countP isFin s.log = 1 ∧
    Obs.countP isWrote ((s.log.dropWhile (fun o => !isFin o)).drop 1) = 0 ∧
    Obs.countP isFin ((s.log.dropWhile (fun o => !isFin o)).drop 1) = 0 ∧
    s.pending = .none := by
  intro s
  obtain ⟨hp, h1, h2, h3, _⟩ := stopin_once c hseq k n hk
  refine ⟨?_, stopin_no_error c hseq hnf hr k n, h1, h2, h3, hp⟩
  show writtenOf (Copier.runS c k (.start :: List.replicate n .turn)).log = wanted c
  rw [stopin_written c hseq hnf hb hr k n, Nat.min_eq_right (by omega), List.take_of_length_le hlast]

private def cfg5 : Cfg := { src := [65, 66, 67, 68, 69], block := 2 }
private def evs5 : List Ev := [.start, .turn, .turn, .turn, .turn, .turn]
example : (Copier.runS cfg5 0 evs5).log =
    [.ev 0, .ev 1, wrote [65, 66], fin, .ev 2, .ev 3, .ev 4, .ev 5] := by decide +kernel
example : (Copier.runS cfg5 1 evs5).log =
    [.ev 0, .ev 1, wrote [65, 66], .ev 2, wrote [67, 68], fin, .ev 3, .ev 4, .ev 5] := by decide +kernel
-- the last block: one completion (`nextBlock()` returns after the write and signals none of its own)
example : (Copier.runS cfg5 2 evs5).log =
    [.ev 0, .ev 1, wrote [65, 66], .ev 2, wrote [67, 68], .ev 3, wrote [69], fin, .ev 4, .ev 5] ∧
    (Copier.runS cfg5 2 evs5).stopped = true ∧ (Copier.run cfg5 evs5).stopped = false := by decide +kernel
example : (Copier.runS cfg5 3 evs5).log = (Copier.run cfg5 evs5).log ∧ (Copier.runS cfg5 3 evs5).stopped = false := by decide +kernel
example : stopInEvs cfg5 0 evs5 = [.start, .turn, .stop, .turn, .turn, .turn, .turn] ∧
    stopInEvs cfg5 1 evs5 = [.start, .turn, .turn, .stop, .turn, .turn, .turn] ∧
    stopInEvs cfg5 2 evs5 = evs5 ∧ stopInEvs cfg5 3 evs5 = evs5 ∧ stopInEvs cfg5 7 evs5 = evs5 := by decide +kernel
example : (Copier.run cfg5 (stopInEvs cfg5 1 evs5)).log =
    [.ev 0, .ev 1, wrote [65, 66], .ev 2, wrote [67, 68], .ev 3, fin, .ev 4, .ev 5, .ev 6] := by decide +kernel
-- `stopin_equiv`, `stopin_written`, `stopin_once` instantiated (hypotheses: satisfiable)
example : cfg5.seq = false ∧ anyFault cfg5 = false ∧ cfg5.block ≥ 1 ∧ rangeOK cfg5 = true ∧
    evs5 = .start :: List.replicate 5 .turn := by decide +kernel
example : ∀ k ∈ [0, 1, 2, 3],
    noMark (Copier.runS cfg5 k evs5).log = noMark (Copier.run cfg5 (stopInEvs cfg5 k evs5)).log := by decide +kernel
example : ∀ k ∈ [0, 1, 2, 3],
    writtenOf (Copier.runS cfg5 k evs5).log = (wanted cfg5).take (min 5 (k + 1) * cfg5.block) ∧
    Obs.countP isFin (Copier.runS cfg5 k evs5).log = 1 := by decide +kernel
example : writtenOf (Copier.runS cfg5 0 evs5).log = [65, 66] ∧ writtenOf (Copier.runS cfg5 1 evs5).log = [65, 66, 67, 68] ∧
    writtenOf (Copier.runS cfg5 2 evs5).log = [65, 66, 67, 68, 69] ∧ (wanted cfg5).length ≤ (2 + 1) * cfg5.block := by decide +kernel
example : (Copier.runS cfgR 0 evs5).log = [.ev 0, .ev 1, wrote [67, 68, 69], fin, .ev 2, .ev 3, .ev 4, .ev 5] ∧
    (Copier.runS cfgR 1 evs5).log = [.ev 0, .ev 1, wrote [67, 68, 69], .ev 2, wrote [70], fin, .ev 3, .ev 4, .ev 5] ∧
    stopInEvs cfgR 0 evs5 = [.start, .turn, .stop, .turn, .turn, .turn, .turn] ∧ stopInEvs cfgR 1 evs5 = evs5 := by decide +kernel
example : ∀ k ∈ [0, 1, 2],
    noMark (Copier.runS cfgR k evs5).log = noMark (Copier.run cfgR (stopInEvs cfgR k evs5)).log ∧
    writtenOf (Copier.runS cfgR k evs5).log = (wanted cfgR).take (min 5 (k + 1) * cfgR.block) ∧
    Obs.countP isFin (Copier.runS cfgR k evs5).log = 1 := by decide +kernel
example : (Copier.runS { cfg5 with writeFailAt := some 1 } 1 evs5).log =
    [.ev 0, .ev 1, wrote [65, 66], .ev 2, err, fin, .ev 3, .ev 4, .ev 5] ∧
    stopInEvs { cfg5 with writeFailAt := some 1 } 1 evs5 = evs5 := by decide +kernel

end Qhttp.C14
