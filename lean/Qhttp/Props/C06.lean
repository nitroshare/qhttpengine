import Qhttp.Props.C05
/-
  C06 — middleware is a fail-closed gate in front of all routing.
-/
namespace Qhttp.C06
open Qhttp

def mwsOf (obs : List Obs) : List (Nat × Bool) :=
  obs.filterMap fun o => match o with | .mw i ok => some (i, ok) | _ => none
def mwActs (as : List Act) : List (Nat × Bool) :=
  as.filterMap fun a => match a with | .mw i ok => some (i, ok) | _ => none

def refuser (as : List Act) : Option Nat :=
  (mwActs as).findSome? fun e => if e.2 then none else some e.1

/-- the middleware consulted are exactly those on the route, in attachment order, up to and
    including the first refusal; after a refusal no handler code runs and the only response is
    the refuser's (a 403 carrying its `X-Mw` mark, as the harness's middleware writes) -/
def holds (env : Env) (sc : RouteScn) (obs : List Obs) : Bool :=
  if !C05.accepted env sc then mwsOf obs == [] else
  match sc.acts with
  | none => mwsOf obs == []
  | some as =>
    mwsOf obs == mwActs as &&
    (match refuser as with
     | none => true
     | some id =>
       C05.prs obs == [] &&
       (match Http.parse (Obs.wire obs) with
        | some m =>
          (Http.statusLine m.start).map (·.code) == some 403 &&
          Http.valuesOf RouteScn.X_MW m.headers == [natDigits id] &&
          Http.valuesOf C05.LOCATION m.headers == [] &&
          Http.valuesOf Sock.CONTENT_LENGTH m.headers == [natDigits m.body.length]
        | none => false))

open Qhttp.RouteL

theorem mwActs_map_mwAct (l : List (Nat × Bool)) : mwActs (l.map mwAct) = l := by
  induction l with
  | nil => rfl
  | cons e l ih => simp only [mwActs] at ih; simp [mwActs, mwAct, ih]

theorem mwActs_append (a b : List Act) : mwActs (a ++ b) = mwActs a ++ mwActs b := by
  simp [mwActs, List.filterMap_append]

theorem mwActs_terminal {t : Act} (h : isTerminalAct t = true) : mwActs [t] = [] := by
  cases t <;> simp_all [mwActs, isTerminalAct]

theorem findRefuser_append_of_accept {pre : List (Nat × Bool)} (h : allAccept pre = true) (l : List (Nat × Bool)) :
    (pre ++ l).findSome? (fun e => if e.2 then none else some e.1) =
      l.findSome? (fun e => if e.2 then none else some e.1) := by
  induction pre with
  | nil => rfl
  | cons e pre ih =>
    simp only [allAccept, List.all_cons, Bool.and_eq_true] at h
    simp only [List.cons_append, List.findSome?_cons, h.1, if_true]
    exact ih (by simpa [allAccept] using h.2)

/-- **C06.1 gate**: the middleware consulted are exactly those of the handlers on the route, in
    attachment order, up to and including the first refusal (`chain` is defined independently of
    `route`); after a refusal nothing else happens -/
theorem gate (m : Matcher) (n : Node) (path : QStr) :
    mwActs (route m n path) = takeThroughFirstRefusal (chain m n path) ∧
    (∀ id, refuser (route m n path) = some id →
      (∀ a ∈ route m n path, isTerminalAct a = false) ∧
      (route m n path).getLast? = some (.mw id false) ∧
      C05.terminal (route m n path) = none) := by
  constructor
  · rw [route_struct, tailOf, mwActs_append, mwActs_map_mwAct]
    split
    · rw [mwActs_terminal (termOf_terminal m n path)]; simp
    · simp [mwActs]
  · intro id hid
    obtain ⟨pre, hp, ⟨t, ht, hr, hn⟩ | ⟨id', hr, hn⟩⟩ := route_cases m n path
    · exfalso
      rw [refuser, hr, mwActs_append, mwActs_map_mwAct, mwActs_terminal ht, List.append_nil] at hid
      have := findRefuser_append_of_accept hp []
      simp only [List.append_nil] at this
      rw [this] at hid
      cases hid
    · have e : pre.map mwAct ++ [Act.mw id' false] = (pre ++ [(id', false)]).map mwAct := by simp [mwAct]
      have hid' : id' = id := by
        rw [refuser, hr, e, mwActs_map_mwAct, findRefuser_append_of_accept hp] at hid
        simpa using hid
      subst hid'
      rw [hr]
      refine ⟨?_, List.getLast?_concat .., ?_⟩
      · intro a ha
        rw [e] at ha
        obtain ⟨x, _, rfl⟩ := List.mem_map.1 ha
        rfl
      · rw [e]; exact C05.terminal_map_mwAct _

/-- **C06.2 reach**: a terminal action (a handler's redirect, or any handler's `process`) happens
    only if every middleware of every handler on the route was consulted, in order, and accepted -/
theorem reach (m : Matcher) (n : Node) (path : QStr)
    (h : ∃ a ∈ route m n path, isTerminalAct a = true) :
    allAccept (mwActs (route m n path)) = true ∧ mwActs (route m n path) = chain m n path ∧
    refuser (route m n path) = none := by
  have hacc : allAccept (chain m n path) = true := by
    cases hc : allAccept (chain m n path) with
    | true => rfl
    | false =>
      exfalso
      obtain ⟨a, ha, hta⟩ := h
      rw [route_struct, tailOf, hc] at ha
      simp only [Bool.false_eq_true, if_false, List.append_nil] at ha
      obtain ⟨x, _, rfl⟩ := List.mem_map.1 ha
      cases hta
  have hg := (gate m n path).1
  rw [ttfr_of_accept hacc] at hg
  refine ⟨by rw [hg]; exact hacc, hg, ?_⟩
  rw [refuser, hg]
  have := findRefuser_append_of_accept hacc []
  simpa using this

theorem refuser_route (m : Matcher) (n : Node) (path : QStr) :
    refuser (route m n path) =
      (chain m n path).findSome? (fun e => if e.2 then none else some e.1) := by
  rw [refuser, (gate m n path).1]
  generalize chain m n path = c
  induction c with
  | nil => rfl
  | cons e l ih =>
    obtain ⟨i, ok⟩ := e
    cases ok <;> simp [takeThroughFirstRefusal, ih]

theorem mwsOf_append (a b : List Obs) : mwsOf (a ++ b) = mwsOf a ++ mwsOf b := by
  simp [mwsOf, List.filterMap_append]

theorem mwsOf_cons (o : Obs) (l : List Obs) :
    mwsOf (o :: l) = (match o with | .mw i ok => [(i, ok)] | _ => []) ++ mwsOf l := by
  cases o <;> rfl

theorem mwsOf_mwObs (pre : List (Nat × Bool)) : mwsOf (pre.map mwObs) = pre := by
  induction pre with
  | nil => rfl
  | cons e l ih => simp only [List.map_cons, mwsOf_cons, mwObs, ih]; rfl

theorem mwsOf_wObs (b : Bytes) : mwsOf (wObs b) = [] := by unfold wObs; split <;> rfl

theorem mwsOf_err (h : Bytes) (b : Bytes) : mwsOf ([Obs.w h] ++ wObs b ++ [Obs.tc]) = [] := by
  simp only [mwsOf_append, mwsOf_wObs, mwsOf_cons]; simp [mwsOf]

theorem mwsOf_log (pre : List (Nat × Bool)) (x : List Obs) :
    mwsOf ([Obs.ev 0, Obs.ev 1, Obs.hp] ++ (pre.map mwObs ++ x) ++ [Obs.ev 2]) = pre ++ mwsOf x := by
  simp only [mwsOf_append, mwsOf_mwObs, mwsOf_cons]; simp [mwsOf]

theorem not_accepted_bad (env : Env) (sc : RouteScn) (h : C05.accepted env sc = false) {head rest : Bytes}
    (hb : breakOn CRLF2 sc.stream = some (head, rest)) :
    match Parser.parseRequestHeaders head [] with
    | none => True
    | some rh => env.url rh.rawPath = none := by
  cases hp : Parser.parseRequestHeaders head [] with
  | none => trivial
  | some rh =>
    simp only
    cases hu : env.url rh.rawPath with
    | none => rfl
    | some pq =>
      obtain ⟨p, q⟩ := pq
      have := (C05.accepted_iff env sc).2 ⟨head, rest, rh, p, q, hb, hp, hu⟩
      rw [h] at this; cases this

theorem acts_of_root {sc : RouteScn} {r : Node} (hroot : sc.root = some r) :
    sc.acts = some (route sc.matcher r (sc.p16.drop 1)) := by
  simp [RouteScn.acts, serverRoute, hroot]

theorem holds_of_not_accepted (env : Env) (sc : RouteScn) {app : App} (hsil : Silent app)
    (hacc : C05.accepted env sc = false) :
    holds env sc (Sock.run env app [.new, .feed sc.stream, .turn]).log = true := by
  obtain ⟨head, rest, hb⟩ := C05.stream_breaks sc
  unfold holds
  rw [hacc, run_bad env hsil sc.stream hb (not_accepted_bad env sc hacc hb)]
  simp only [mwsOf_append, mwsOf_cons, mwsOf_wObs]
  rfl

theorem holds_of_terminal (env : Env) (sc : RouteScn) {r : Node} {pre : List (Nat × Bool)} {t : Act}
    {obs : List Obs} (hacc : C05.accepted env sc = true) (hroot : sc.root = some r)
    (hpre : allAccept pre = true) (ht : isTerminalAct t = true)
    (hr : route sc.matcher r (sc.p16.drop 1) = pre.map mwAct ++ [t]) (hm : mwsOf obs = pre) :
    holds env sc obs = true := by
  have h1 : mwActs (pre.map mwAct ++ [t]) = pre := by
    rw [mwActs_append, mwActs_map_mwAct, mwActs_terminal ht, List.append_nil]
  have h2 : refuser (pre.map mwAct ++ [t]) = none := by
    rw [refuser, h1]; simpa using findRefuser_append_of_accept hpre []
  unfold holds
  rw [hacc, acts_of_root hroot, hr, hm]
  simp only [h1, h2, beq_self_eq_true, Bool.and_true, Bool.not_true, Bool.false_eq_true, if_false]

/-- what `holds` asks after a refusal: no handler observation, and on the wire one well-formed 403
    with the refuser's mark -/
theorem holds_of_refusal (env : Env) (sc : RouteScn) {r : Node} {pre : List (Nat × Bool)} {id : Nat}
    {obs : List Obs} {hs : HeaderMap} {body : Bytes}
    (hacc : C05.accepted env sc = true) (hroot : sc.root = some r) (hpre : allAccept pre = true)
    (hr : route sc.matcher r (sc.p16.drop 1) = pre.map mwAct ++ [.mw id false])
    (hm : mwsOf obs = pre ++ [(id, false)]) (hp : C05.prs obs = [])
    (hw : Obs.wire obs = headOf 403 (statusReason 403) hs ++ body) (hok : ∀ e ∈ hs, Http.EntryOk e)
    (v1 : Http.valuesOf RouteScn.X_MW hs = [natDigits id]) (v2 : Http.valuesOf C05.LOCATION hs = [])
    (v3 : Http.valuesOf Sock.CONTENT_LENGTH hs = [natDigits body.length]) :
    holds env sc obs = true := by
  have e : pre.map mwAct ++ [Act.mw id false] = (pre ++ [(id, false)]).map mwAct := by simp [mwAct]
  have h1 : mwActs (pre.map mwAct ++ [Act.mw id false]) = pre ++ [(id, false)] := by
    rw [e, mwActs_map_mwAct]
  have h2 : refuser (pre.map mwAct ++ [Act.mw id false]) = some id := by
    rw [refuser, h1, findRefuser_append_of_accept hpre]; rfl
  obtain ⟨p1, p2⟩ := parse_headOf (c := 403) (by decide) (reason := statusReason 403) (by decide) hok body
  unfold holds
  rw [hacc, acts_of_root hroot, hr, hm, hp, hw]
  simp only [h1, h2, p1, p2, v1, v2, v3]
  simp

theorem errHeaders_xmw_ok (v : Nat) (n : Nat) : ∀ e ∈ errHeaders [(RouteScn.X_MW, natDigits v)] n, Http.EntryOk e := by
  rw [errHeaders_xmw]
  intro e he
  simp at he
  rcases he with rfl | rfl | rfl
  · exact entryOk_cl _
  · exact entryOk_ct
  · exact entryOk_xmw _

/-- **C06.3**: for every environment and every `route` scenario the predicate evaluated on
    implementation traces holds on the run of the model -/
theorem holds_run (env : Env) (sc : RouteScn) : holds env sc (Scenario.run env sc.scenario).log = true := by
  cases hacc : C05.accepted env sc with
  | false => exact holds_of_not_accepted env sc (app_silent sc) hacc
  | true =>
    have hlog := C05.run_log env sc hacc
    cases hroot : sc.root with
    | none =>
      rw [hroot] at hlog
      simp only at hlog
      have hacts : sc.acts = none := by simp [RouteScn.acts, serverRoute, hroot]
      unfold holds
      rw [hacts, hlog]
      simp only [mwsOf_append, mwsOf_cons, mwsOf_wObs]
      simp [mwsOf]
    | some r =>
      rw [hroot] at hlog
      obtain ⟨pre, t, hpre, hlast, hr, hlog⟩ := hlog
      rw [hlog]
      cases t with
      | redirect id loc =>
        exact holds_of_terminal env sc hacc hroot hpre rfl hr (by rw [mwsOf_log]; simp [lastObs, mwsOf])
      | process id path =>
        refine holds_of_terminal env sc hacc hroot hpre rfl hr ?_
        rw [mwsOf_log]
        simp only [lastObs, mwsOf_cons]
        split <;> (simp only [mwsOf_cons, mwsOf_append, mwsOf_wObs]; simp [mwsOf])
      | mw id ok =>
        have ok' : ok = false := by simpa [isLastAct] using hlast
        subst ok'
        refine holds_of_refusal env sc hacc hroot hpre hr (body := env.errPage 403 (statusReason 403))
          (hs := errHeaders [(RouteScn.X_MW, natDigits id)] (env.errPage 403 (statusReason 403)).length)
          ?_ ?_ ?_ (errHeaders_xmw_ok id _) ?_ ?_ ?_
        · rw [mwsOf_log]; simp only [lastObs, mwsOf_cons, mwsOf_err]; rfl
        · rw [C05.prs_log]; simp only [lastObs, C05.prs_cons, C05.prs_err]; rfl
        · rw [C05.wire_log]; simp only [lastObs]; rw [Obs.wire_cons, Obs.wire_single rfl, C05.wire_err]; rfl
        · rw [errHeaders_xmw]
          apply Http.valuesOf_single (a := [_, _]) (b := []) (by decide) (HB.comma_not_mem_natDigits id)
          · intro e he; simp at he; rcases he with rfl | rfl <;> (dsimp only; decide)
          · intro e he; cases he
        · rw [errHeaders_xmw]
          apply Http.valuesOf_none
          intro e he; simp at he; rcases he with rfl | rfl | rfl <;> (dsimp only; decide)
        · rw [errHeaders_xmw]
          apply Http.valuesOf_single (a := []) (b := [_, _]) (by decide) (HB.comma_not_mem_natDigits _)
          · intro e he; cases he
          · intro e he; simp at he; rcases he with rfl | rfl <;> (dsimp only; decide)

open Qhttp.C05.Ex in
example : refuser (route toyM (root false true) path) = some 11 ∧
    mwActs (route toyM (root false true) path) = [(0, true), (10, true), (11, false)] ∧
    chain toyM (root false true) path = [(0, true), (10, true), (11, false), (20, true)] := by decide +kernel
open Qhttp.C05.Ex in
example : ∃ a ∈ route toyM (root true true) path, isTerminalAct a = true := by decide +kernel

open Qhttp.C05.Ex in
example : holds envX (scEx false) (Scenario.run envX (scEx false).scenario).log = true ∧
    holds envX (scEx true) (Scenario.run envX (scEx true).scenario).log = true ∧
    holds envX scNoRoot (Scenario.run envX scNoRoot.scenario).log = true := by decide +kernel
-- `holds` rejects the same refusing run once a handler observation is added after the refusal
open Qhttp.C05.Ex in
example : holds envX (scEx false) ((Scenario.run envX (scEx false).scenario).log ++ [.pr 2 []]) = false := by
  decide +kernel

open Qhttp.RouteSoftL in
/-- **C06.3 for soft refusals**: the client receives exactly the refuser's response (403, its
    `X-Mw` mark, `Content-Length: 6`, "denied"); the request-side signals of the connection that stays
    open carry no routing observation -/
theorem holds_run_soft (env : Env) (sc : RouteScn) :
    holds env sc (Scenario.run env sc.softScenario).log = true := by
  rcases softScenario_cases sc with e | ⟨r, pre, id, hroot, hpre, hr⟩
  · rw [e]
    exact holds_run env sc
  · cases hacc : C05.accepted env sc with
    | false => exact holds_of_not_accepted env sc (softApp_silent sc) hacc
    | true =>
      obtain ⟨X, Y, hX, hY, hlog⟩ :=
        run_soft_refusal env sc hroot hpre hr ((C05.accepted_iff env sc).1 hacc)
      have mX : mwsOf X = [] := filterMap_quiet _ rfl rfl hX
      have mY : mwsOf Y = [] := filterMap_quiet _ rfl rfl hY
      have pX : C05.prs X = [] := filterMap_quiet _ rfl rfl hX
      have pY : C05.prs Y = [] := filterMap_quiet _ rfl rfl hY
      rw [hlog]
      refine holds_of_refusal env sc hacc hroot hpre hr (hs := softHdrs id) (body := RouteScn.DENIED)
        ?_ ?_ ?_ (softHdrs_ok id) ?_ ?_ ?_
      · simp only [mwsOf_append, mwsOf_mwObs, mX, mY, softObs, mwsOf_cons]
        simp [mwsOf]
      · simp only [C05.prs_append, C05.prs_mwObs, pX, pY, softObs, C05.prs_cons]
        simp [C05.prs]
      · simp only [Obs.wire_append, wire_mwObs, wire_quiet hX, wire_quiet hY, wire_softObs]
        simp [Obs.wire]
      · apply Http.valuesOf_single (a := [_]) (b := []) (by decide) (HB.comma_not_mem_natDigits id)
        · intro e he; simp at he; subst he; (dsimp only; decide)
        · intro e he; cases he
      · apply Http.valuesOf_none
        intro e he; simp [softHdrs] at he; rcases he with rfl | rfl <;> (dsimp only; decide)
      · apply Http.valuesOf_single (a := []) (b := [_]) (by decide) (HB.comma_not_mem_natDigits _)
        · intro e he; cases he
        · intro e he; simp at he; subst he; (dsimp only; decide)

open Qhttp.C05.Ex in
example : refuser (route toyM (.mk 0 [(7, false)] [] .nil true) [120]) = some 7 ∧
    holds envX scSoft (Scenario.run envX scSoft.softScenario).log = true := by decide +kernel
open Qhttp.C05.Ex in
example : holds envX (scEx false) (Scenario.run envX (scEx false).softScenario).log = true := by decide +kernel
-- `holds` rejects the soft run once a handler observation follows the refusal
open Qhttp.C05.Ex in
example : holds envX scSoft ((Scenario.run envX scSoft.softScenario).log ++ [.pr 0 []]) = false := by
  decide +kernel
-- … and once anything more reaches the client after the refuser's body (the length does not match)
open Qhttp.C05.Ex in
example : holds envX scSoft ((Scenario.run envX scSoft.softScenario).log ++ [.w [33]]) = false := by
  decide +kernel

/-- bytes after the head (the target contains the end of the head): the connection stays open, so
    `readyRead` is signalled — the quiet stretches of `run_soft_refusal` are not always empty -/
def scSoftBody : RouteScn :=
  { C05.Ex.scSoft with raw := lit ['/','x',' ','H','T','T','P','/','1','.','1','\r','\n','\r','\n','z','z'] }
open Qhttp.C05.Ex in
example : C05.accepted envX scSoftBody = true ∧
    (Scenario.run envX scSoftBody.softScenario).log.filter Obs.isRr = [.rr, .rr] ∧
    holds envX scSoftBody (Scenario.run envX scSoftBody.softScenario).log = true := by decide +kernel

end Qhttp.C06
