import Qhttp.Model.Http
import Qhttp.Lemmas.C19Step
import Qhttp.Lemmas.C19After
import Qhttp.Lemmas.C19MarkRun
/-
  C19 — one request per connection; nothing is sent or routed after the close.
-/
namespace Qhttp.C19
open Qhttp

def isRt : Obs → Bool | .rt _ _ => true | _ => false

/-- after the library closed the transport no byte reaches the wire -/
def afterClose (obs : List Obs) : Bool :=
  let tail := obs.dropWhile (fun o => !Obs.isTc o)
  Obs.countP Obs.isW tail == 0

def ackOf (evs : List Event) (k : Nat) (unacked : Nat) : Nat :=
  match evs[k]? with
  | some (.ack n) => min n unacked
  | some .ackAll => unacked
  | _ => 0

/-- bytes written and not acknowledged at the end of the history -/
def pending (evs : List Event) : List Obs → (written acked : Nat) → Nat
  | [], written, acked => written - acked
  | .ev k :: l, written, acked => pending evs l written (acked + ackOf evs k (written - acked))
  | .w b :: l, written, acked => pending evs l (written + b.length) acked
  | _ :: l, written, acked => pending evs l written acked

def holds (sc : Scenario) (obs : List Obs) : Bool :=
  Obs.countP Obs.isHp obs ≤ 1 && Obs.countP isRt obs ≤ 1 && afterClose obs &&
  -- the transport is closed at most once; the shutdown is observed once, and it is observed
  -- whenever the library closed the transport and every written byte has been acknowledged
  Obs.countP Obs.isTc obs ≤ 1 && Obs.countP Obs.isDc obs ≤ 1 &&
  (if Obs.countP Obs.isTc obs == 1 && pending sc.events obs 0 0 == 0
   then Obs.countP Obs.isDc obs == 1 else true)

end Qhttp.C19

namespace Qhttp.C19
open Qhttp

/-- observations a `note` may record without touching what C19 counts or walks over -/
def quietObs : Obs → Bool
  | .hp => false | .rt _ _ => false | .w _ => false | .tc => false | .dc => false | .ev _ => false
  | _ => true

def quietOp : ApiOp → Bool
  | .note o => quietObs o
  | _ => true

def isRtNote : ApiOp → Bool
  | .note (.rt _ _) => true
  | _ => false

def hpOp (op : ApiOp) : Bool := isRtNote op || quietOp op

/-- the application class: arbitrary reactions to every signal; the only recorded routing is at
    most one `rt` per `headersParsed` (Server glue) -/
structure AppOK (app : App) : Prop where
  hp  : ∀ s, (app.onHp s).all hpOp = true ∧ ((app.onHp s).filter isRtNote).length ≤ 1
  rr  : ∀ s, (app.onRr s).all quietOp = true
  rcf : ∀ s, (app.onRcf s).all quietOp = true
  bw  : ∀ s, (app.onBw s).all quietOp = true
  dc  : ∀ s, (app.onDc s).all quietOp = true

def evOK : Event → Bool
  | .api op => quietOp op
  | _ => true

/-- "nothing is routed after the close" -/
def routedAfterClose (obs : List Obs) : Bool :=
  let tail := obs.dropWhile (fun o => !Obs.isTc o)
  tail.any fun o => Obs.isHp o || isRt o

/-- the predicate the driver evaluates -/
def holdsStrict (sc : Scenario) (obs : List Obs) : Bool := holds sc obs && !routedAfterClose obs

/-- the application's own record "by now I have closed the HTTP socket" (`mark` in the scenario
    language, issued right after `close`, `writeError`, `writeRedirect` or `writeJson`) -/
def isMark : Obs → Bool | .misc 50 _ => true | _ => false

/-- "after the application has closed the HTTP socket no further byte is written", judged from the
    application's first record on -/
def wroteAfterAppClose (obs : List Obs) : Bool :=
  (obs.dropWhile (fun o => !isMark o)).any Obs.isW

/-- "the client observes the connection being shut after the pending response bytes": a record
    means the library has closed the transport (`holds` says when `dc` then follows) -/
def appCloseShuts (obs : List Obs) : Bool :=
  !obs.any isMark || Obs.countP Obs.isTc obs == 1

/-- the predicate the driver evaluates on scenarios carrying `mark`s -/
def holdsMarked (sc : Scenario) (obs : List Obs) : Bool :=
  holdsStrict sc obs && !wroteAfterAppClose obs && appCloseShuts obs

/-! The lemma files (namespace `C19L`) come before this file and state their invariants with copies
  of the predicates above (`aftClose`, `ackAt`, `quiet`, `qOp`, `rtNote`, `hOp`, `rac`, `wac`, `markOp`, …);
  the `_eq` lemmas identify each pair, and the theorems about runs rewrite with them. -/

theorem isRt_eq : isRt = C19L.isRt := by
  funext o; cases o <;> rfl

theorem afterClose_eq (l : List Obs) : afterClose l = C19L.aftClose l := rfl

theorem ackOf_eq (evs : List Event) : ackOf evs = C19L.ackAt evs := by
  funext k u
  unfold ackOf C19L.ackAt
  cases evs[k]? with
  | none => rfl
  | some e => cases e <;> rfl

theorem pending_eq (evs : List Event) (l : List Obs) (w a : Nat) :
    pending evs l w a
      = (C19L.trkFrom (ackOf evs) l (w, a)).1 - (C19L.trkFrom (ackOf evs) l (w, a)).2 := by
  induction l generalizing w a with
  | nil => rfl
  | cons o l ih =>
    cases o <;> exact ih _ _

theorem quietObs_eq : quietObs = C19L.quiet := by
  funext o; cases o <;> rfl

theorem quietOp_eq : quietOp = C19L.qOp := by
  funext op; cases op <;> simp [quietOp, C19L.qOp, quietObs_eq]

theorem isRtNote_eq : isRtNote = C19L.rtNote := by
  funext op
  cases op with
  | note o => cases o <;> rfl
  | _ => rfl

theorem hpOp_eq : hpOp = C19L.hOp := by
  funext op; simp [hpOp, C19L.hOp, isRtNote_eq, quietOp_eq]

theorem evOK_eq : evOK = C19L.evOK := by
  funext e; cases e <;> simp [evOK, C19L.evOK, quietOp_eq]

theorem AppOK.toL {app : App} (h : AppOK app) : C19L.AppOK app where
  hp := fun s => by have := h.hp s; rwa [hpOp_eq, isRtNote_eq] at this
  rr := fun s => by have := h.rr s; rwa [quietOp_eq] at this
  rcf := fun s => by have := h.rcf s; rwa [quietOp_eq] at this
  bw := fun s => by have := h.bw s; rwa [quietOp_eq] at this
  dc := fun s => by have := h.dc s; rwa [quietOp_eq] at this

theorem holds_iff (sc : Scenario) (obs : List Obs) :
    holds sc obs = true ↔
      Obs.countP Obs.isHp obs ≤ 1 ∧ Obs.countP isRt obs ≤ 1 ∧ afterClose obs = true ∧
      Obs.countP Obs.isTc obs ≤ 1 ∧ Obs.countP Obs.isDc obs ≤ 1 ∧
      (Obs.countP Obs.isTc obs = 1 → pending sc.events obs 0 0 = 0 →
        Obs.countP Obs.isDc obs = 1) := by
  unfold holds
  simp only [Bool.and_eq_true, decide_eq_true_eq, beq_iff_eq]
  constructor
  · rintro ⟨⟨⟨⟨⟨h1, h2⟩, h3⟩, h4⟩, h5⟩, h6⟩
    refine ⟨h1, h2, h3, h4, h5, fun a b => ?_⟩
    simpa [a, b] using h6
  · rintro ⟨h1, h2, h3, h4, h5, h6⟩
    refine ⟨⟨⟨⟨⟨h1, h2⟩, h3⟩, h4⟩, h5⟩, ?_⟩
    split
    · rename_i hc; exact beq_iff_eq.mpr (h6 hc.1 hc.2)
    · rfl

/-- C19 on every run of the model.  "Routed at most once" is `hp ≤ 1` together with the class:
    `AppOK.hp` allows one `rt` note per `headersParsed` slot and none elsewhere (server.cpp is not
    modelled). -/
theorem holds_run (env : Env) (app : App) (evs : List Event)
    (happ : AppOK app) (hevs : evs.all evOK = true) :
    holds ⟨app, evs⟩ (Scenario.run env ⟨app, evs⟩).log = true := by
  rw [evOK_eq] at hevs
  have h := C19L.KS_final (C19L.run_KS (env := env) happ.toL evs hevs)
  rw [holds_iff]
  simp only [Scenario.run]
  rw [isRt_eq, afterClose_eq, pending_eq, ackOf_eq]
  exact h

def scriptOK (sc : Script) : Bool :=
  sc.onHp.all hpOp && decide ((sc.onHp.filter isRtNote).length ≤ 1) &&
  sc.onRr.all quietOp && sc.onRcf.all quietOp && sc.onBw.all quietOp && sc.onDc.all quietOp

theorem Script.appOK (sc : Script) (h : scriptOK sc = true) : AppOK sc.app := by
  simp only [scriptOK, Bool.and_eq_true, decide_eq_true_eq] at h
  obtain ⟨⟨⟨⟨⟨h1, h2⟩, h3⟩, h4⟩, h5⟩, h6⟩ := h
  exact ⟨fun _ => ⟨h1, h2⟩, fun _ => h3, fun _ => h4, fun _ => h5, fun _ => h6⟩

def exEnv : Env := { url := fun p => some (p, []), errPage := fun _ _ => [60, 62] }

/-- the Server glue: route on the parsed path, answer, close -/
def exApp : App :=
  { onHp := fun s => [.note (.rt 1 s.path), .write (lit ['h','e','l','l','o']), .close],
    onRr := fun _ => [.readAll],
    onBw := fun _ => [.avail],
    onDc := fun _ => [.write (lit ['h','e','l','l','o']), .close] }

theorem exApp_ok : AppOK exApp :=
  ⟨fun _ => by simp [exApp, hpOp, isRtNote, quietOp, List.filter], fun _ => rfl, fun _ => rfl,
   fun _ => rfl, fun _ => rfl⟩

def exScript : Script :=
  { onHp := [.note (.rt 1 [47, 97]), .write (lit ['h','e','l','l','o']), .close], onDc := [.close] }

example : AppOK exScript.app := Script.appOK _ (by decide +kernel)

/-- two pipelined requests cut inside the first blank line, then late API calls, late input,
    a partial acknowledgement, the peer's close and the final acknowledgement -/
def exEvents : List Event :=
  [.new, .feed (lit ['G','E','T',' ','/','a',' ','H','T','T','P','/','1','.','1','\r','\n','\r']), .feed (lit ['\n','G','E','T',' ','/','b',' ','H','T','T','P','/','1','.','1','\r','\n','\r','\n']),
   .api (.write (lit ['a','f','t','e','r'])), .api .wh, .api (.err 500 none),
   .feed (lit ['G','E','T',' ','/','l','a','t','e',' ','H','T','T','P','/','1','.','1','\r','\n','\r','\n']), .ack 5, .peerClose, .ackAll]

example : exEvents.all evOK = true := by decide +kernel

example : holds ⟨exApp, exEvents⟩ (Scenario.run exEnv ⟨exApp, exEvents⟩).log = true := by
  decide +kernel

example :
    let l := (Scenario.run exEnv ⟨exApp, exEvents⟩).log
    Obs.countP Obs.isHp l = 1 ∧ Obs.countP isRt l = 1 ∧ Obs.countP Obs.isTc l = 1 ∧
    Obs.countP Obs.isDc l = 1 ∧ Obs.countP Obs.isW l = 2 ∧ pending exEvents l 0 0 = 0 := by
  decide +kernel

end Qhttp.C19

/-! `holdsStrict` fails on some runs of the class `AppOK`, which lets the `headersParsed` slot record
  its routing anywhere in its call list, also after a `close` (`cxApp`).  It holds for `AppOKStrict`:
  the routing note, if any, is the FIRST call of the slot (Server glue: `route` is entered before
  the handler touches the socket). -/

namespace Qhttp.C19
open Qhttp

theorem routedAfterClose_eq (l : List Obs) : routedAfterClose l = C19L.rac l := by
  unfold routedAfterClose C19L.rac
  rw [isRt_eq]; rfl

structure AppOKStrict (app : App) : Prop where
  ok : AppOK app
  first : ∀ s, ((app.onHp s).drop 1).all quietOp = true

theorem AppOKStrict.hpFirst {app : App} (h : AppOKStrict app) (s : Sock) :
    C19L.hpFirst (app.onHp s) = true := by
  have h1 := (h.ok.hp s).1
  have h2 := h.first s
  rw [hpOp_eq] at h1
  rw [quietOp_eq] at h2
  cases hops : app.onHp s with
  | nil => rfl
  | cons op rest =>
    rw [hops] at h1 h2
    simp only [List.all_cons, Bool.and_eq_true] at h1
    simp only [List.drop_succ_cons, List.drop_zero] at h2
    simp [C19L.hpFirst, h1.1, h2]

theorem run_after (env : Env) (app : App) (evs : List Event)
    (happ : AppOKStrict app) (hevs : evs.all evOK = true) :
    routedAfterClose (Scenario.run env ⟨app, evs⟩).log = false ∧
    ((Scenario.run env ⟨app, evs⟩).rs = .headers →
      (Scenario.run env ⟨app, evs⟩).log.any Obs.isTc = false) := by
  rw [evOK_eq] at hevs
  have h := C19L.run_A (env := env) happ.ok.toL.toQ happ.hpFirst evs hevs
  rw [routedAfterClose_eq]
  exact h

/-- C19 with "nothing routed after the close", on every run of the strict class -/
theorem holdsStrict_run (env : Env) (app : App) (evs : List Event)
    (happ : AppOKStrict app) (hevs : evs.all evOK = true) :
    holdsStrict ⟨app, evs⟩ (Scenario.run env ⟨app, evs⟩).log = true := by
  unfold holdsStrict
  rw [holds_run env app evs happ.ok hevs, (run_after env app evs happ hevs).1]
  rfl

theorem routedAfterClose_false_iff (l : List Obs) :
    routedAfterClose l = false ↔
      ∀ pre post, l = pre ++ Obs.tc :: post → ∀ o ∈ post, Obs.isHp o = false ∧ isRt o = false := by
  rw [routedAfterClose_eq, C19L.rac_eq,
    C19L.aft_false_iff (fun o h => by cases o <;> first | rfl | cases h), isRt_eq]
  constructor
  · intro h pre post hl o ho
    have := h pre .tc post hl rfl o ho
    rwa [C19L.rtd, Bool.or_eq_false_iff] at this
  · intro h pre m post hl hm o ho
    have hm' : m = .tc := by cases m <;> first | rfl | cases hm
    subst hm'
    rw [C19L.rtd, Bool.or_eq_false_iff]
    exact h pre post hl o ho

theorem holdsStrict_iff (sc : Scenario) (obs : List Obs) :
    holdsStrict sc obs = true ↔
      holds sc obs = true ∧
      ∀ pre post, obs = pre ++ Obs.tc :: post →
        ∀ o ∈ post, Obs.isHp o = false ∧ isRt o = false := by
  unfold holdsStrict
  rw [Bool.and_eq_true, ← routedAfterClose_false_iff]
  simp

/-- allowed by `AppOK`: close first, record the routing afterwards -/
def cxApp : App := { onHp := fun s => [.close, .note (.rt 1 s.path)] }

theorem cxApp_ok : AppOK cxApp :=
  ⟨fun _ => by simp [cxApp, hpOp, isRtNote, quietOp, List.filter], fun _ => rfl, fun _ => rfl,
   fun _ => rfl, fun _ => rfl⟩

def cxEvents : List Event :=
  [.new, .feed (lit ['G','E','T',' ','/','a',' ','H','T','T','P','/','1','.','1','\r','\n','\r','\n'])]

example : (Scenario.run exEnv ⟨cxApp, cxEvents⟩).log
    = [.ev 0, .ev 1, .hp, .tc, .dc, .rt 1 [47, 97]] := by decide +kernel

theorem cx_holds : holds ⟨cxApp, cxEvents⟩ (Scenario.run exEnv ⟨cxApp, cxEvents⟩).log = true := by
  decide +kernel

theorem cx_not_holdsStrict :
    holdsStrict ⟨cxApp, cxEvents⟩ (Scenario.run exEnv ⟨cxApp, cxEvents⟩).log = false := by
  decide +kernel

theorem not_holdsStrict_run_AppOK :
    ¬ ∀ (env : Env) (app : App) (evs : List Event), AppOK app → evs.all evOK = true →
        holdsStrict ⟨app, evs⟩ (Scenario.run env ⟨app, evs⟩).log = true := by
  intro h
  have := h exEnv cxApp cxEvents cxApp_ok (by decide +kernel)
  rw [cx_not_holdsStrict] at this
  cases this

def scriptStrictOK (sc : Script) : Bool := scriptOK sc && (sc.onHp.drop 1).all quietOp

theorem Script.appOKStrict (sc : Script) (h : scriptStrictOK sc = true) : AppOKStrict sc.app := by
  simp only [scriptStrictOK, Bool.and_eq_true] at h
  exact ⟨Script.appOK sc h.1, fun _ => h.2⟩

example : AppOKStrict exScript.app := Script.appOKStrict _ (by decide +kernel)

theorem exApp_strict : AppOKStrict exApp := ⟨exApp_ok, fun _ => rfl⟩

example : holdsStrict ⟨exApp, exEvents⟩ (Scenario.run exEnv ⟨exApp, exEvents⟩).log = true := by
  decide +kernel

example : (Scenario.run exEnv ⟨exApp, exEvents⟩).log.any Obs.isTc = true := by decide +kernel

/-- what a library serving the second pipelined request on the connection would produce -/
def tamperedLog : List Obs :=
  (Scenario.run exEnv ⟨exApp, exEvents⟩).log ++ [.hp, .rt 1 [47, 98]]

example : routedAfterClose (Scenario.run exEnv ⟨exApp, exEvents⟩).log = false := by decide +kernel
example : routedAfterClose tamperedLog = true := by decide +kernel
example : holdsStrict ⟨exApp, exEvents⟩ tamperedLog = false := by decide +kernel
/-- `holds` counts `rt` but does not place it: only `routedAfterClose` objects to this history -/
example : routedAfterClose [.ev 0, .hp, .tc, .dc, .rt 1 [47, 97]] = true := by decide +kernel

end Qhttp.C19

/-! `holdsMarked` adds two clauses about the application's record `Obs.misc 50 _` (`mark` in the
  scenario language, Qhttp/Driver/Proto.lean).  They are facts about the library only when the
  record is truthful: `marksOK` (a reaction) and `evMarksOK` (idle-context calls) ask for a closing
  call somewhere before each record; the generators place it immediately before (`marksAdjacent`).
  "Somewhere before" suffices: a call on a Socket object that is gone records nothing, a closing
  call on a live one ends in `tcpClose`, the device then stays closed, `tcpWrite` needs an open
  device, and the device is closed exactly when one `tc` is in the history.  Without the
  hypothesis the statement is false (`mxApp`). -/

namespace Qhttp.C19
open Qhttp

def isMarkOp : ApiOp → Bool
  | .note o => isMark o
  | _ => false

def closesOp : ApiOp → Bool
  | .close => true
  | .err _ _ => true
  | .redir _ _ => true
  | .json _ _ => true
  | _ => false

/-- `closed`: a closing call was issued before the list started -/
def marksFrom (closed : Bool) : List ApiOp → Bool
  | [] => true
  | op :: rest => (!isMarkOp op || closed) && marksFrom (closed || closesOp op) rest

def marksOK (ops : List ApiOp) : Bool := marksFrom false ops

/-- other events in between do not matter -/
def evMarksFrom (closed : Bool) : List Event → Bool
  | [] => true
  | .api op :: rest => (!isMarkOp op || closed) && evMarksFrom (closed || closesOp op) rest
  | _ :: rest => evMarksFrom closed rest

def evMarksOK (evs : List Event) : Bool := evMarksFrom false evs

structure AppMarksOK (app : App) : Prop where
  hp  : ∀ s, marksOK (app.onHp s) = true
  rr  : ∀ s, marksOK (app.onRr s) = true
  rcf : ∀ s, marksOK (app.onRcf s) = true
  bw  : ∀ s, marksOK (app.onBw s) = true
  dc  : ∀ s, marksOK (app.onDc s) = true

/-- `prev`: the call just before the list was a closing call -/
def marksAdjFrom (prev : Bool) : List ApiOp → Bool
  | [] => true
  | op :: rest => (!isMarkOp op || prev) && marksAdjFrom (closesOp op) rest

def marksAdjacent (ops : List ApiOp) : Bool := marksAdjFrom false ops

def evMarksAdjFrom (prev : Bool) : List Event → Bool
  | [] => true
  | .api op :: rest => (!isMarkOp op || prev) && evMarksAdjFrom (closesOp op) rest
  | _ :: rest => evMarksAdjFrom false rest

def evMarksAdjacent (evs : List Event) : Bool := evMarksAdjFrom false evs

theorem marksAdjFrom_marksFrom (ops : List ApiOp) (prev closed : Bool)
    (hp : prev = true → closed = true) (h : marksAdjFrom prev ops = true) :
    marksFrom closed ops = true := by
  induction ops generalizing prev closed with
  | nil => rfl
  | cons op ops ih =>
    simp only [marksAdjFrom, marksFrom, Bool.and_eq_true] at h ⊢
    exact ⟨C19L.mark_allowed hp h.1, ih (closesOp op) _ (fun x => by rw [x, Bool.or_true]) h.2⟩

theorem marksAdjacent_marksOK (ops : List ApiOp) (h : marksAdjacent ops = true) :
    marksOK ops = true :=
  marksAdjFrom_marksFrom ops false false id h

theorem evMarksAdjFrom_evMarksFrom (evs : List Event) (prev closed : Bool)
    (hp : prev = true → closed = true) (h : evMarksAdjFrom prev evs = true) :
    evMarksFrom closed evs = true := by
  induction evs generalizing prev closed with
  | nil => rfl
  | cons e evs ih =>
    cases e with
    | api op =>
      simp only [evMarksAdjFrom, evMarksFrom, Bool.and_eq_true] at h ⊢
      exact ⟨C19L.mark_allowed hp h.1, ih (closesOp op) _ (fun x => by rw [x, Bool.or_true]) h.2⟩
    | _ =>
      simp only [evMarksAdjFrom, evMarksFrom] at h ⊢
      exact ih false closed (fun x => by cases x) h

theorem evMarksAdjacent_evMarksOK (evs : List Event) (h : evMarksAdjacent evs = true) :
    evMarksOK evs = true :=
  evMarksAdjFrom_evMarksFrom evs false false id h

theorem isMark_eq : isMark = C19L.isMark := by
  funext o; cases o <;> rfl

theorem wroteAfterAppClose_eq (l : List Obs) : wroteAfterAppClose l = C19L.wac l := by
  unfold wroteAfterAppClose C19L.wac
  rw [isMark_eq]

theorem isMarkOp_eq : isMarkOp = C19L.markOp := by
  funext op; cases op <;> simp [isMarkOp, C19L.markOp, isMark_eq]

theorem closesOp_eq : closesOp = C19L.closesOp := by
  funext op; cases op <;> rfl

theorem marksFrom_eq (c : Bool) (ops : List ApiOp) : marksFrom c ops = C19L.marksFrom c ops := by
  induction ops generalizing c with
  | nil => rfl
  | cons op ops ih => simp only [marksFrom, C19L.marksFrom, ih, isMarkOp_eq, closesOp_eq]

theorem qOp_nwOp {op : ApiOp} (h : C19L.qOp op = true) : C19L.nwOp op = true := by
  cases op <;> try rfl
  rename_i o
  simp only [C19L.qOp] at h
  simp [C19L.nwOp, (C19L.quiet_facts h).2.2.1]

theorem hOp_nwOp {op : ApiOp} (h : C19L.hOp op = true) : C19L.nwOp op = true := by
  rcases C19L.hOp_cases h with ⟨a, b, rfl⟩ | ⟨_, h⟩
  · rfl
  · exact qOp_nwOp h

theorem all_nwOp {p : ApiOp → Bool} (hp : ∀ {op}, p op = true → C19L.nwOp op = true)
    {ops : List ApiOp} (h : ops.all p = true) : ops.all C19L.nwOp = true := by
  rw [List.all_eq_true] at h ⊢
  exact fun op hop => hp (h op hop)

theorem okFrom_of {ops : List ApiOp} (h1 : ops.all C19L.nwOp = true) (h2 : marksOK ops = true) :
    C19L.okFrom false ops = true := by
  unfold marksOK at h2
  rw [marksFrom_eq] at h2
  simp [C19L.okFrom, h1, h2]

theorem AppMarksOK.toL {app : App} (h : AppOK app) (hm : AppMarksOK app) : C19L.AppM app where
  hp := fun s => okFrom_of (all_nwOp hOp_nwOp (h.toL.hp s).1) (hm.hp s)
  rr := fun s => okFrom_of (all_nwOp qOp_nwOp (h.toL.rr s)) (hm.rr s)
  rcf := fun s => okFrom_of (all_nwOp qOp_nwOp (h.toL.rcf s)) (hm.rcf s)
  bw := fun s => okFrom_of (all_nwOp qOp_nwOp (h.toL.bw s)) (hm.bw s)
  dc := fun s => okFrom_of (all_nwOp qOp_nwOp (h.toL.dc s)) (hm.dc s)

theorem evsFrom_of (evs : List Event) (c : Bool) (h1 : evs.all evOK = true)
    (h2 : evMarksFrom c evs = true) : C19L.evsFrom c evs = true := by
  induction evs generalizing c with
  | nil => rfl
  | cons e evs ih =>
    simp only [List.all_cons, Bool.and_eq_true] at h1
    cases e with
    | api op =>
      simp only [evMarksFrom, Bool.and_eq_true] at h2
      have hq : C19L.nwOp op = true := by
        have := h1.1
        simp only [evOK, quietOp_eq] at this
        exact qOp_nwOp this
      simp only [C19L.evsFrom, C19L.evOKM, C19L.evC, Bool.and_eq_true]
      rw [← isMarkOp_eq, ← closesOp_eq]
      exact ⟨⟨hq, h2.1⟩, ih _ h1.2 h2.2⟩
    | _ =>
      simp only [evMarksFrom] at h2
      simp only [C19L.evsFrom, C19L.evOKM, C19L.evC, Bool.true_and]
      exact ih _ h1.2 h2

theorem run_marked (env : Env) (app : App) (evs : List Event)
    (happ : AppOK app) (hevs : evs.all evOK = true)
    (hmk : AppMarksOK app) (hem : evMarksOK evs = true) :
    wroteAfterAppClose (Scenario.run env ⟨app, evs⟩).log = false ∧
    appCloseShuts (Scenario.run env ⟨app, evs⟩).log = true := by
  have hM := C19L.run_MS (env := env) (AppMarksOK.toL happ hmk) evs (evsFrom_of evs false hevs hem)
  have hevs' := hevs
  rw [evOK_eq] at hevs'
  have hK := C19L.run_KS (env := env) happ.toL evs hevs'
  simp only [Scenario.run]
  refine ⟨by rw [wroteAfterAppClose_eq]; exact hM.2, ?_⟩
  unfold appCloseShuts
  rw [isMark_eq]
  cases hm : (Sock.run env app evs).log.any C19L.isMark
  · rfl
  · have := C19L.KS_tc hK (hM.1 hm)
    simp [this]

/-- the whole driver predicate, on every run whose records are placed after closing calls -/
theorem holdsMarked_run (env : Env) (app : App) (evs : List Event)
    (happ : AppOKStrict app) (hevs : evs.all evOK = true)
    (hmk : AppMarksOK app) (hem : evMarksOK evs = true) :
    holdsMarked ⟨app, evs⟩ (Scenario.run env ⟨app, evs⟩).log = true := by
  unfold holdsMarked
  have h := run_marked env app evs happ.ok hevs hmk hem
  rw [holdsStrict_run env app evs happ hevs, h.1, h.2]
  rfl

/-- the form the generators use -/
theorem holdsMarked_run_adjacent (env : Env) (app : App) (evs : List Event)
    (happ : AppOKStrict app) (hevs : evs.all evOK = true)
    (hhp : ∀ s, marksAdjacent (app.onHp s) = true) (hrr : ∀ s, marksAdjacent (app.onRr s) = true)
    (hrcf : ∀ s, marksAdjacent (app.onRcf s) = true) (hbw : ∀ s, marksAdjacent (app.onBw s) = true)
    (hdc : ∀ s, marksAdjacent (app.onDc s) = true) (hem : evMarksAdjacent evs = true) :
    holdsMarked ⟨app, evs⟩ (Scenario.run env ⟨app, evs⟩).log = true :=
  holdsMarked_run env app evs happ hevs
    ⟨fun s => marksAdjacent_marksOK _ (hhp s), fun s => marksAdjacent_marksOK _ (hrr s),
     fun s => marksAdjacent_marksOK _ (hrcf s), fun s => marksAdjacent_marksOK _ (hbw s),
     fun s => marksAdjacent_marksOK _ (hdc s)⟩
    (evMarksAdjacent_evMarksOK evs hem)

theorem wroteAfterAppClose_false_iff (l : List Obs) :
    wroteAfterAppClose l = false ↔
      ∀ pre m post, l = pre ++ m :: post → isMark m = true → ∀ o ∈ post, Obs.isW o = false := by
  rw [wroteAfterAppClose_eq, C19L.wac_eq, isMark_eq]
  exact C19L.aft_false_iff (fun _ => C19L.mark_notW) l

theorem appCloseShuts_iff (obs : List Obs) :
    appCloseShuts obs = true ↔ (obs.any isMark = true → Obs.countP Obs.isTc obs = 1) := by
  unfold appCloseShuts
  cases obs.any isMark <;> simp

theorem holdsMarked_iff (sc : Scenario) (obs : List Obs) :
    holdsMarked sc obs = true ↔
      holdsStrict sc obs = true ∧
      (∀ pre m post, obs = pre ++ m :: post → isMark m = true → ∀ o ∈ post, Obs.isW o = false) ∧
      (obs.any isMark = true → Obs.countP Obs.isTc obs = 1) := by
  unfold holdsMarked
  rw [Bool.and_eq_true, Bool.and_eq_true, ← wroteAfterAppClose_false_iff, ← appCloseShuts_iff]
  simp [and_assoc]

/-- the property's wording: once the application has closed the HTTP socket (a record exists)
    and every written byte has been acknowledged, the client has observed the shutdown, once -/
theorem marked_shutdown (sc : Scenario) (obs : List Obs) (h : holds sc obs = true)
    (hs : appCloseShuts obs = true) (hm : obs.any isMark = true)
    (hp : pending sc.events obs 0 0 = 0) : Obs.countP Obs.isDc obs = 1 :=
  ((holds_iff sc obs).mp h).2.2.2.2.2 ((appCloseShuts_iff obs).mp hs hm) hp

theorem marked_shutdown_run (env : Env) (app : App) (evs : List Event)
    (happ : AppOK app) (hevs : evs.all evOK = true)
    (hmk : AppMarksOK app) (hem : evMarksOK evs = true)
    (hm : (Scenario.run env ⟨app, evs⟩).log.any isMark = true)
    (hp : pending evs (Scenario.run env ⟨app, evs⟩).log 0 0 = 0) :
    Obs.countP Obs.isDc (Scenario.run env ⟨app, evs⟩).log = 1 :=
  marked_shutdown ⟨app, evs⟩ _ (holds_run env app evs happ hevs)
    (run_marked env app evs happ hevs hmk hem).2 hm hp

def scriptMarksOK (sc : Script) : Bool :=
  marksOK sc.onHp && marksOK sc.onRr && marksOK sc.onRcf && marksOK sc.onBw && marksOK sc.onDc

theorem Script.appMarksOK (sc : Script) (h : scriptMarksOK sc = true) : AppMarksOK sc.app := by
  simp only [scriptMarksOK, Bool.and_eq_true] at h
  obtain ⟨⟨⟨⟨h1, h2⟩, h3⟩, h4⟩, h5⟩ := h
  exact ⟨fun _ => h1, fun _ => h2, fun _ => h3, fun _ => h4, fun _ => h5⟩

def mark : ApiOp := .note (.misc 50 [])

/-- `exApp`, recording each point at which it has closed the socket -/
def mkApp : App :=
  { onHp := fun s => [.note (.rt 1 s.path), .write (lit ['h','e','l','l','o']), .close, mark],
    onRr := fun _ => [.readAll],
    onBw := fun _ => [.avail],
    onDc := fun _ => [.write (lit ['h','e','l','l','o']), .close, mark] }

theorem mkApp_strict : AppOKStrict mkApp :=
  ⟨⟨fun _ => by simp [mkApp, mark, hpOp, isRtNote, quietOp, quietObs, List.filter],
    fun _ => rfl, fun _ => rfl, fun _ => rfl, fun _ => rfl⟩, fun _ => rfl⟩

theorem mkApp_marks : AppMarksOK mkApp :=
  ⟨fun _ => rfl, fun _ => rfl, fun _ => rfl, fun _ => rfl, fun _ => rfl⟩

def mkScript : Script :=
  { onHp := [.note (.rt 1 [47, 97]), .write (lit ['h','e','l','l','o']), .err 403 none, mark],
    onDc := [.close, mark, .write (lit ['x'])] }

example : AppOKStrict mkScript.app := Script.appOKStrict _ (by decide +kernel)
example : AppMarksOK mkScript.app := Script.appMarksOK _ (by decide +kernel)
example : marksAdjacent mkScript.onHp = true ∧ marksAdjacent mkScript.onDc = true := by decide +kernel

/-- `exEvents` with each idle-context closing call followed by the record -/
def mkEvents : List Event :=
  [.new, .feed (lit ['G','E','T',' ','/','a',' ','H','T','T','P','/','1','.','1','\r','\n','\r']), .feed (lit ['\n','G','E','T',' ','/','b',' ','H','T','T','P','/','1','.','1','\r','\n','\r','\n']),
   .api (.write (lit ['a','f','t','e','r'])), .api .wh, .api (.err 500 none), .api mark,
   .feed (lit ['G','E','T',' ','/','l','a','t','e',' ','H','T','T','P','/','1','.','1','\r','\n','\r','\n']), .ack 5, .api .close, .api mark,
   .peerClose, .ackAll]

example : mkEvents.all evOK = true := by decide +kernel
example : evMarksOK mkEvents = true := by decide +kernel
example : evMarksAdjacent mkEvents = true := by decide +kernel

example : holdsMarked ⟨mkApp, mkEvents⟩ (Scenario.run exEnv ⟨mkApp, mkEvents⟩).log = true :=
  holdsMarked_run exEnv mkApp mkEvents mkApp_strict (by decide +kernel) mkApp_marks (by decide +kernel)

example : holdsMarked ⟨mkApp, mkEvents⟩ (Scenario.run exEnv ⟨mkApp, mkEvents⟩).log = true := by
  decide +kernel

example :
    let l := (Scenario.run exEnv ⟨mkApp, mkEvents⟩).log
    Obs.countP isMark l = 4 ∧ Obs.countP Obs.isW l = 2 ∧ Obs.countP Obs.isTc l = 1 ∧
    Obs.countP Obs.isDc l = 1 ∧ Obs.countP Obs.isHp l = 1 ∧ pending mkEvents l 0 0 = 0 ∧
    wroteAfterAppClose l = false ∧ appCloseShuts l = true := by
  decide +kernel

/-- an idle connection closed from idle context; the last record is attempted after the Socket
    object is gone and leaves no trace -/
def idleEvents : List Event :=
  [.new, .api (.write (lit ['i','d','l','e'])), .api .close, .api mark,
   .api (.write (lit ['a','f','t','e','r'])), .ackAll, .turn, .api mark]

example : idleEvents.all evOK = true ∧ evMarksOK idleEvents = true := by decide +kernel

example : (Scenario.run exEnv ⟨{}, idleEvents⟩).log
    = [.ev 0, .ev 1, .w (lit ['H','T','T','P','/','1','.','0',' ','2','0','0',' ','O','K','\r','\n','\r','\n']), .w (lit ['i','d','l','e']),
       .ev 2, .tc, .ev 3, .misc 50 [], .ev 4, .ev 5, .dc, .ev 6, .del] := by decide +kernel

example : holdsMarked ⟨{}, idleEvents⟩ (Scenario.run exEnv ⟨{}, idleEvents⟩).log = true := by
  decide +kernel

/-- what a library that keeps the transport usable after `Socket::close` would produce -/
example : wroteAfterAppClose
    ((Scenario.run exEnv ⟨{}, idleEvents⟩).log ++ [.w (lit ['a','f','t','e','r'])]) = true := by
  decide +kernel

/-- the application's close did not shut the transport: only `appCloseShuts` objects -/
example : holdsStrict ⟨{}, [.new, .api .close, .api mark]⟩ [.ev 0, .ev 1, .ev 2, .misc 50 []] = true ∧
    appCloseShuts [.ev 0, .ev 1, .ev 2, .misc 50 []] = false ∧
    holdsMarked ⟨{}, [.new, .api .close, .api mark]⟩ [.ev 0, .ev 1, .ev 2, .misc 50 []] = false := by
  decide +kernel

/-- allowed by `AppOKStrict`: the record without any closing call, and a write after it -/
def mxApp : App := { onHp := fun _ => [mark, .write (lit ['x'])] }

theorem mxApp_strict : AppOKStrict mxApp :=
  ⟨⟨fun _ => by simp [mxApp, mark, hpOp, isRtNote, quietOp, quietObs, List.filter],
    fun _ => rfl, fun _ => rfl, fun _ => rfl, fun _ => rfl⟩, fun _ => rfl⟩

example : marksOK (mxApp.onHp {}) = false := by decide +kernel

theorem mx_holdsStrict :
    holdsStrict ⟨mxApp, cxEvents⟩ (Scenario.run exEnv ⟨mxApp, cxEvents⟩).log = true := by
  decide +kernel

theorem mx_clauses :
    wroteAfterAppClose (Scenario.run exEnv ⟨mxApp, cxEvents⟩).log = true ∧
    appCloseShuts (Scenario.run exEnv ⟨mxApp, cxEvents⟩).log = false := by
  decide +kernel

theorem not_holdsMarked_run_unmarked :
    ¬ ∀ (env : Env) (app : App) (evs : List Event), AppOKStrict app → evs.all evOK = true →
        holdsMarked ⟨app, evs⟩ (Scenario.run env ⟨app, evs⟩).log = true := by
  intro h
  have := h exEnv mxApp cxEvents mxApp_strict (by decide +kernel)
  unfold holdsMarked at this
  rw [mx_clauses.1] at this
  simp at this

end Qhttp.C19
