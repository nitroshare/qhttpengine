import Qhttp.Props.C01
import Qhttp.Lemmas.C02Run
import Qhttp.Lemmas.C02Close
import Qhttp.Lemmas.C02C01
import Qhttp.Lemmas.C02First
import Qhttp.Lemmas.BytesLemmas
/-
  C02 — the request body reaches the reader intact under every segmentation.
-/
namespace Qhttp.C02
open Qhttp

/-- the declared request: head accepted with `Content-Length: n ≥ 0`; `headLen` includes the four
    bytes of the blank line, `rest` is everything the client sent after it -/
structure Req where
  headLen : Nat
  n       : Nat
  rest    : Bytes
deriving Repr

def req (env : Env) (stream : Bytes) : Option Req :=
  match breakOn CRLF2 stream with
  | none => none
  | some (head, rest) =>
    match C01.expect env head with
    | none => none
    | some f => if f.total < 0 then none else some { headLen := head.length + 4, n := f.total.toNat, rest := rest }

def entitled (r : Req) : Bytes := r.rest.take r.n

def evBytes (evs : List Event) (k : Nat) : Nat :=
  match evs[k]? with
  | some (.feed b) => b.length
  | some (.prebuf b) => b.length
  | _ => 0

/-- walk the history keeping: bytes fed so far, whether `hp` was seen, the last `av`;
    returns false as soon as a clause fails -/
def walk (evs : List Event) (r : Req) : List Obs → (fed : Nat) → (hp : Bool) → (lastAv : Option Nat) → Bool
  | [], _, _, _ => true
  | o :: l, fed, hp, lastAv =>
    match o with
    | .ev k => walk evs r l (fed + evBytes evs k) hp none
    | .hp => walk evs r l fed true none
    | .av n => walk evs r l fed hp (some n)
    | .rd b =>
      -- nothing readable before headersParsed; bytesAvailable is exact for the read that follows
      (hp || b.isEmpty) && (match lastAv with | some n => b.length == n | none => true) &&
        walk evs r l fed hp none
    | .rcf => (fed ≥ r.headLen + r.n) && walk evs r l fed hp none
    | _ => walk evs r l fed hp none

/-- the connection was ended (by the application, a handler or the peer) during the history -/
def ended (sc : Scenario) (obs : List Obs) : Bool :=
  obs.any Obs.isTc || sc.events.any fun e => match e with | .peerClose => true | _ => false

/-- scenario shape: the Socket is created first, then the stream is fed in segments; the reader
    uses `read n`, `readAll` and `avail` (the latter always directly followed by `readAll`).
    Nothing is claimed (`true`) when the head is not acceptable or declares no length. -/
def holds (env : Env) (sc : Scenario) (obs : List Obs) : Bool :=
  match req env (Scenario.fed sc.events) with
  | none => true
  | some r =>
    (Obs.reads obs).isPrefixOf (entitled r) &&
    Obs.countP Obs.isHp obs ≤ 1 && Obs.countP Obs.isRcf obs ≤ 1 &&
    walk sc.events r obs 0 false none &&
    -- left to run with a reader that drains at the end: everything, and both notifications
    (if !ended sc obs && r.rest.length ≥ r.n &&
        (match sc.events.getLast? with | some (.api .readAll) => true | _ => false)
     then Obs.reads obs == entitled r && Obs.countP Obs.isHp obs == 1 && Obs.countP Obs.isRcf obs == 1
     else true) &&
    -- arrived bytes stay readable: a reader that drains at the end has everything that arrived of the body,
    -- however much of it that is
    (if !ended sc obs && (match sc.events.getLast? with | some (.api .readAll) => true | _ => false)
     then Obs.reads obs == entitled r && Obs.countP Obs.isHp obs == 1
     else true)

/-! ## Theorems

  The domain of the theorems, `ReaderApp` and `readerEvents` (Lemmas/C02Read.lean), `closingEvents`
  (Lemmas/C02Close.lean), is defined with the lemmas; a reader never writes or closes.  `Mid` holds
  whenever application code can run, `RInv` between two external events. -/

theorem walk_eq (evs : List Event) (r : Req) :
    ∀ l f h a, walk evs r l f h a = walkL evs r.headLen r.n l f h a := by
  intro l
  induction l with
  | nil => intro f h a; rfl
  | cons o l ih =>
    intro f h a
    -- `evBytes` and `evLen` are the same function, so each clause is the induction hypothesis
    cases o with
    | rd b => exact congrArg (_ && ·) (ih _ _ _)
    | rcf => exact congrArg (_ && ·) (ih _ _ _)
    | _ => exact ih _ _ _

theorem acc_of_expect {env : Env} {head : Bytes} {f : Snap} {N : Nat}
    (hf : C01.expect env head = some f) (hN : f.total = (N : Int)) : Acc env head N := by
  unfold C01.expect at hf
  split at hf
  · exact absurd hf (by simp)
  · rename_i rh hp
    split at hf
    · exact absurd hf (by simp)
    · rename_i p q hu
      simp only [Option.some.injEq] at hf
      subst hf
      simp only at hN
      refine ⟨rh, p, q, hp, hu, ?_, ?_⟩
      · by_cases hc : HeaderMap.contains Sock.CONTENT_LENGTH rh.headers = true
        · exact hc
        · simp [hc] at hN
      · by_cases hc : HeaderMap.contains Sock.CONTENT_LENGTH rh.headers = true
        · simp only [hc, if_true] at hN
          exact hN
        · simp [hc] at hN

theorem req_some {env : Env} {stream : Bytes} {r : Req} (h : req env stream = some r) :
    ∃ head, breakOn CRLF2 stream = some (head, r.rest) ∧ Acc env head r.n ∧ r.headLen = head.length + 4 := by
  unfold req at h
  split at h
  · exact absurd h (by simp)
  · rename_i head rest hb
    split at h
    · exact absurd h (by simp)
    · rename_i f hf
      split at h
      · exact absurd h (by simp)
      · rename_i hneg
        simp only [Option.some.injEq] at h
        subst h
        exact ⟨head, hb, acc_of_expect hf (by simp only; omega), rfl⟩

theorem okEvent_of_shape {evs : List Event} (h : readerEvents evs = true) : ∀ e ∈ evs, okEvent e = true := by
  unfold readerEvents at h
  split at h
  · rename_i rest
    intro e he
    rcases List.mem_cons.mp he with rfl | he
    · rfl
    · have := List.all_eq_true.mp h e he
      simp [okEvent, this]
  · exact absurd h (by simp)

theorem holds_of_inv {env : Env} {app : App} {evs : List Event} {r : Req} {head : Bytes}
    (hreq : req env (Scenario.fed evs) = some r)
    (hfin : breakOn CRLF2 (Scenario.fed evs) = some (head, r.rest)) (hhl : r.headLen = head.length + 4)
    (hR : RInv evs head r.n (Scenario.fed evs) (Sock.run env app evs))
    (hlast : ended ⟨app, evs⟩ (Sock.run env app evs).log = false → evs.getLast? = some (.api .readAll) →
      Obs.reads (Sock.run env app evs).log = entitled r ∧
      Obs.countP Obs.isHp (Sock.run env app evs).log = 1 ∧
      (r.n ≤ r.rest.length → Obs.countP Obs.isRcf (Sock.run env app evs).log = 1)) :
    holds env ⟨app, evs⟩ (Scenario.run env ⟨app, evs⟩).log = true := by
  obtain ⟨chp, crcf, cwalk, _⟩ := hR.counts
  have e1 : (Obs.reads (Sock.run env app evs).log).isPrefixOf (entitled r) = true :=
    List.isPrefixOf_iff_prefix.mpr (hR.reads_prefix hfin (List.prefix_refl _))
  have e2 : Obs.countP Obs.isHp (Sock.run env app evs).log ≤ 1 := by rw [chp]; split <;> omega
  have e3 : Obs.countP Obs.isRcf (Sock.run env app evs).log ≤ 1 := by rw [crcf]; split <;> omega
  have e4 : walk evs r (Sock.run env app evs).log 0 false none = true := by
    rw [walk_eq, hhl]; exact cwalk
  show holds env ⟨app, evs⟩ (Sock.run env app evs).log = true
  unfold holds
  rw [hreq]
  simp only [e1, e2, e3, e4, decide_true, Bool.and_self, Bool.true_and]
  cases he : ended ⟨app, evs⟩ (Sock.run env app evs).log with
  | true => simp
  | false =>
    simp only [Bool.not_false, Bool.true_and]
    split
    · rename_i hl
      obtain ⟨f1, f2, f3⟩ := hlast he hl
      by_cases hN : r.rest.length ≥ r.n
      · simp [f1, f2, f3 hN]
      · simp [hN, f1, f2]
    · simp

/-- **C02, main theorem.** For every environment, every reader application (reactions chosen as a
    function of the socket state) and every scenario `new :: (feed seg | turn | idle-context read)*`,
    i.e. every segmentation of every stream and every reader policy, the predicate holds on the run. -/
theorem holds_run (env : Env) (app : App) (happ : ReaderApp app) (evs : List Event)
    (hshape : readerEvents evs = true) :
    holds env ⟨app, evs⟩ (Scenario.run env ⟨app, evs⟩).log = true := by
  cases hreq : req env (Scenario.fed evs) with
  | none => unfold holds; simp only [hreq]
  | some r =>
    obtain ⟨head, hfin, acc, hhl⟩ := req_some hreq
    have hok := okEvent_of_shape hshape
    refine holds_of_inv hreq hfin hhl (run_inv env app happ acc r.rest hfin evs [] (by simp) hok)
      fun _ hl => ?_
    obtain ⟨pre, hpe⟩ := List.getLast?_eq_some_iff.mp hl
    have hRp : RInv evs head r.n (Scenario.fed pre) (Sock.run env app pre) :=
      run_inv env app happ acc r.rest hfin pre [.api .readAll] hpe
        (fun e he => hok e (by rw [hpe]; exact List.mem_append_left _ he))
    have hfp : Scenario.fed pre = Scenario.fed evs := by
      rw [hpe, fed_append, fed_single]; exact (List.append_nil _).symm
    rw [hfp] at hRp
    have := hRp.final_readAll env app hfin pre.length
    rw [← run_snoc, ← hpe] at this
    exact this

/-! ## The property in plain terms

  `Stream env head N rest evs`: reader shape, and the byte stream is an accepted head declaring `N`
  body bytes, the first blank line, and `rest`.  An earlier blank line would lie in
  `head ++ CRLF2.dropLast`, hence `first`.  Every statement is about every prefix `pre` of the event
  list: every point of every run under every segmentation. -/

structure Stream (env : Env) (head : Bytes) (N : Nat) (rest : Bytes) (evs : List Event) : Prop where
  shape : readerEvents evs = true
  fed : Scenario.fed evs = head ++ CRLF2 ++ rest
  /-- the blank line after `head` is the first one in the stream -/
  first : ¬ CRLF2 <:+: head ++ CRLF2.dropLast
  accepted : ∃ f, C01.expect env head = some f ∧ f.total = (N : Int)

section of_inv
variable {env : Env} {head rest fed fedF : Bytes} {N : Nat} {evs : List Event} {s : Sock}

theorem RInv.arrived_lt (hR : RInv evs head N fed s) (hF : fedF = head ++ CRLF2 ++ rest)
    (hpre : fed <+: fedF) (hrs : s.rs = .headers) : fed.length < head.length + 4 := by
  obtain ⟨a, hb, B, hm, _, hrel⟩ := hR
  have hnone := (hrel.1 hrs).2
  apply Nat.lt_of_not_le
  intro hle
  have h1 : head ++ CRLF2 <+: fedF := by rw [hF]; exact List.prefix_append _ _
  have h2 : head ++ CRLF2 <+: fed :=
    List.prefix_of_prefix_length_le h1 hpre (by simp [CRLF2_length]; omega)
  obtain ⟨t, ht⟩ := h2
  exact breakOn_none hnone ⟨head, t, ht⟩

theorem RInv.readable_exact (hR : RInv evs head N fed s) (hF : fedF = head ++ CRLF2 ++ rest)
    (hbrk : breakOn CRLF2 fedF = some (head, rest)) (hpre : fed <+: fedF) :
    Obs.reads s.log ++ (Sock.readAll s).2 = (fed.drop (head.length + 4)).take N := by
  by_cases hrs : s.rs = .headers
  · have hlt := hR.arrived_lt hF hpre hrs
    obtain ⟨a, hb, B, hm, _, _⟩ := hR
    obtain ⟨_, _, _, e4, e5, _⟩ := hm.hdr hrs
    rw [readAll_headers _ hrs e4, e5, List.drop_of_length_le (by omega)]; simp
  · obtain ⟨rest', t, e1, _, e3, _⟩ := hR.rest_eq hbrk hpre hrs
    obtain ⟨a, hb, B, hm, _, _⟩ := hR
    rw [readAll_data _ hm.ioOpen hrs, e1]
    have : (head ++ CRLF2 ++ rest').drop (head.length + 4) = rest' := by
      apply List.drop_left'; simp [CRLF2_length]
    rw [this, ← e3]; simp

theorem counts_iff {rs : RState} {c a n : Nat} (hH : rs = .headers → c < a)
    (hD : rs ≠ .headers → ∃ m, c = a + m ∧ (rs = .finished ↔ n ≤ m)) :
    (if rs = .headers then 0 else 1) ≤ 1 ∧ (if rs = .finished then 1 else 0) ≤ 1 ∧
    ((if rs = .headers then 0 else 1) = 1 ↔ a ≤ c) ∧
    ((if rs = .finished then 1 else 0) = 1 ↔ a + n ≤ c) := by
  by_cases h1 : rs = .headers
  · have := hH h1
    subst h1
    simp; omega
  · obtain ⟨m, rfl, hf⟩ := hD h1
    by_cases h2 : rs = .finished
    · have := hf.mp h2
      simp [h2]; omega
    · have : ¬ n ≤ m := fun hc => h2 (hf.mpr hc)
      simp [h1, h2]; omega

theorem RInv.notifications (hR : RInv evs head N fed s) (hF : fedF = head ++ CRLF2 ++ rest)
    (hbrk : breakOn CRLF2 fedF = some (head, rest)) (hpre : fed <+: fedF) :
    Obs.countP Obs.isHp s.log ≤ 1 ∧ Obs.countP Obs.isRcf s.log ≤ 1 ∧
    (Obs.countP Obs.isHp s.log = 1 ↔ head.length + 4 ≤ fed.length) ∧
    (Obs.countP Obs.isRcf s.log = 1 ↔ head.length + 4 + N ≤ fed.length) := by
  obtain ⟨chp, crcf, _, _⟩ := hR.counts
  rw [chp, crcf]
  refine counts_iff (fun hrs => hR.arrived_lt hF hpre hrs) (fun hrs => ?_)
  obtain ⟨rest', t, e1, _, _, e4⟩ := hR.rest_eq hbrk hpre hrs
  exact ⟨rest'.length, by rw [e1, length_stream], e4⟩

theorem RInv.walk_at {l : List Obs} (hR : RInv evs head N fed s) (hlog : s.log = l) :
    walkL evs (head.length + 4) N l 0 false none = true := by
  rw [← hlog]; exact hR.counts.2.2.1

end of_inv

section plain
variable {env : Env} {app : App} {head rest : Bytes} {N : Nat} {evs : List Event}

/-- `first` follows from `accepted` (an accepted head contains no blank line) -/
theorem Stream.of_accepted (shape : readerEvents evs = true) (fed : Scenario.fed evs = head ++ CRLF2 ++ rest)
    (accepted : ∃ f, C01.expect env head = some f ∧ f.total = (N : Int)) : Stream env head N rest evs :=
  ⟨shape, fed, first_of_accepted env head (by obtain ⟨f, hf, _⟩ := accepted; rw [hf]; rfl), accepted⟩

theorem Stream.brk (h : Stream env head N rest evs) :
    breakOn CRLF2 (Scenario.fed evs) = some (head, rest) := by
  rw [h.fed]; exact breakOn_of_not_infix rest (by decide) h.first

theorem Stream.inv (h : Stream env head N rest evs) (happ : ReaderApp app) (pre post : List Event)
    (hevs : evs = pre ++ post) :
    RInv evs head N (Scenario.fed pre) (Sock.run env app pre) ∧ Scenario.fed pre <+: Scenario.fed evs := by
  obtain ⟨f, hf, hN⟩ := h.accepted
  refine ⟨run_inv env app happ (acc_of_expect hf hN) rest h.brk pre post hevs
    (fun e he => okEvent_of_shape h.shape e (by rw [hevs]; simp [he])), ?_⟩
  rw [hevs, fed_append]; exact List.prefix_append _ _

/-- **nothing lost, duplicated, reordered, nothing beyond `N`; arrived bytes stay readable.**
    At every point between two events, what the reader has obtained so far followed by what
    `readAll()` would return now is exactly the first `min N arrived` bytes after the blank line. -/
theorem readable_exact (h : Stream env head N rest evs) (happ : ReaderApp app)
    (pre post : List Event) (hevs : evs = pre ++ post) :
    Obs.reads (Sock.run env app pre).log ++ (Sock.readAll (Sock.run env app pre)).2 =
      ((Scenario.fed pre).drop (head.length + 4)).take N := by
  obtain ⟨hR, hpre⟩ := h.inv happ pre post hevs
  exact hR.readable_exact h.fed h.brk hpre

theorem reads_prefix (h : Stream env head N rest evs) (happ : ReaderApp app)
    (pre post : List Event) (hevs : evs = pre ++ post) :
    Obs.reads (Sock.run env app pre).log <+: rest.take N := by
  obtain ⟨hR, hpre⟩ := h.inv happ pre post hevs
  exact hR.reads_prefix h.brk hpre

/-- **`bytesAvailable()` is exact**, state form -/
theorem avail_exact (h : Stream env head N rest evs) (happ : ReaderApp app)
    (pre post : List Event) (hevs : evs = pre ++ post) :
    Sock.bytesAvailable (Sock.run env app pre) = (Sock.readAll (Sock.run env app pre)).2.length :=
  (h.inv happ pre post hevs).1.avail_exact

/-- **`bytesAvailable()` is exact**, history form: covers calls made inside reactions -/
theorem avail_exact_log (h : Stream env head N rest evs) (happ : ReaderApp app)
    (l1 l2 : List Obs) (n : Nat) (b : Bytes)
    (hlog : (Sock.run env app evs).log = l1 ++ Obs.av n :: Obs.rd b :: l2) : b.length = n := by
  exact walkL_av_rd _ _ _ _ _ _ _ ((h.inv happ evs [] (by simp)).1.walk_at hlog)

theorem complete_arrived (h : Stream env head N rest evs) (happ : ReaderApp app)
    (pre : List Event) (hlast : evs = pre ++ [.api .readAll]) :
    Obs.reads (Sock.run env app evs).log = rest.take N := by
  obtain ⟨hRp, _⟩ := h.inv happ pre [.api .readAll] hlast
  have hfp : Scenario.fed pre = Scenario.fed evs := by
    rw [hlast, fed_append, fed_single]; exact (List.append_nil _).symm
  rw [hfp] at hRp
  rw [hlast, run_snoc]
  exact (hRp.final_readAll env app h.brk _).1

/-- **completeness.**  This is `complete_arrived`: the bound on `rest.length` is not needed. -/
theorem complete (h : Stream env head N rest evs) (happ : ReaderApp app) (hN : N ≤ rest.length)
    (pre : List Event) (hlast : evs = pre ++ [.api .readAll]) :
    Obs.reads (Sock.run env app evs).log = rest.take N :=
  complete_arrived h happ pre hlast

/-- **notifications**: at most once each, and exactly once iff the head with its blank line,
    respectively `N` body bytes more, have arrived -/
theorem notifications (h : Stream env head N rest evs) (happ : ReaderApp app)
    (pre post : List Event) (hevs : evs = pre ++ post) :
    Obs.countP Obs.isHp (Sock.run env app pre).log ≤ 1 ∧
    Obs.countP Obs.isRcf (Sock.run env app pre).log ≤ 1 ∧
    (Obs.countP Obs.isHp (Sock.run env app pre).log = 1 ↔ head.length + 4 ≤ (Scenario.fed pre).length) ∧
    (Obs.countP Obs.isRcf (Sock.run env app pre).log = 1 ↔
      head.length + 4 + N ≤ (Scenario.fed pre).length) := by
  obtain ⟨hR, hpre⟩ := h.inv happ pre post hevs
  exact hR.notifications h.fed h.brk hpre

/-- **notifications, order in the history**: covers reads made inside reactions -/
theorem hp_before_data (h : Stream env head N rest evs) (happ : ReaderApp app)
    (l1 l2 : List Obs) (b : Bytes) (hlog : (Sock.run env app evs).log = l1 ++ Obs.rd b :: l2)
    (hb : b ≠ []) : Obs.hp ∈ l1 := by
  exact walkL_rd_hp _ _ _ _ _ _ ((h.inv happ evs [] (by simp)).1.walk_at hlog) hb

end plain

/-! ## C01 at the socket level

  The application `@hp snap @end`, the socket created before any byte arrives, every stream and
  every way of cutting it into segments. -/

/-- `@hp snap @end new feed:seg₁ … feed:segₙ` -/
def snapScenario (segs : List Bytes) : Scenario := ⟨snapApp, .new :: segs.map .feed⟩

theorem snapScenario_inv (env : Env) (segs : List Bytes) :
    C1Inv env segs.flatten (Scenario.run env (snapScenario segs)) := by
  have := run_c1 env (.new :: segs.map .feed) (by simp [feedEvent])
  rw [fed_feeds] at this
  exact this

/-- every stream, every segmentation (no hypothesis on the head at all) -/
theorem C01_holds_run (env : Env) (segs : List Bytes) :
    C01.holds env (snapScenario segs) (Scenario.run env (snapScenario segs)).log = true := by
  obtain ⟨_, h⟩ := snapScenario_inv env segs
  unfold C01.holds
  have hf : Scenario.fed (snapScenario segs).events = segs.flatten := fed_feeds segs
  rw [hf]
  rcases h with ⟨h0, hn⟩ | ⟨_, head, rest, f, h1, h2, h3, h4⟩ | ⟨_, head, rest, h1, h2, h3⟩
  · simp [C01.headOf, hn, h0.hp]
  · simp [C01.headOf, h1, h2, h3, h4]
  · simp [C01.headOf, h1, h2, h3]

theorem C1Inv.of_brk {env : Env} {fed head rest : Bytes} {s : Sock} (h : C1Inv env fed s)
    (hb : breakOn CRLF2 fed = some (head, rest)) :
    (∀ f, C01.expect env head = some f →
      Obs.countP Obs.isHp s.log = 1 ∧ C01.firstSnap s.log = some f) ∧
    (C01.expect env head = none → Obs.countP Obs.isHp s.log = 0) := by
  rcases h.2 with ⟨_, hn⟩ | ⟨_, head', rest', f', h1, h2, h3, h4⟩ | ⟨_, head', rest', h1, h2, h3⟩
  · rw [hb] at hn; exact absurd hn (Option.some_ne_none _)
  · obtain ⟨rfl, rfl⟩ := Prod.mk.inj (Option.some.inj (hb.symm.trans h1))
    refine ⟨fun f hf => ?_, fun hf => ?_⟩
    · rw [h2] at hf; rw [← Option.some.inj hf]; exact ⟨h3, h4⟩
    · rw [h2] at hf; exact absurd hf (Option.some_ne_none _)
  · obtain ⟨rfl, rfl⟩ := Prod.mk.inj (Option.some.inj (hb.symm.trans h1))
    exact ⟨fun f hf => by rw [h2] at hf; exact absurd hf.symm (Option.some_ne_none _), fun _ => h3⟩

/-- accepted head.  No separation hypothesis: an accepted head contains no blank line
    (`first_of_accepted`). -/
theorem C01_holds_run_accepted (env : Env) (head rest : Bytes) (f : Snap) (segs : List Bytes)
    (hacc : C01.expect env head = some f)
    (hflat : segs.flatten = head ++ CRLF2 ++ rest) :
    C01.holds env (snapScenario segs) (Scenario.run env (snapScenario segs)).log = true ∧
    Obs.countP Obs.isHp (Scenario.run env (snapScenario segs)).log = 1 ∧
    C01.firstSnap (Scenario.run env (snapScenario segs)).log = some f := by
  have hb : breakOn CRLF2 segs.flatten = some (head, rest) := by
    rw [hflat]
    exact breakOn_of_not_infix rest (by decide) (first_of_accepted env head (by rw [hacc]; rfl))
  exact ⟨C01_holds_run env segs, ((snapScenario_inv env segs).of_brk hb).1 f hacc⟩

theorem C01_holds_run_rejected (env : Env) (head rest : Bytes) (segs : List Bytes)
    (hrej : C01.expect env head = none) (hfirst : ¬ CRLF2 <:+: head ++ CRLF2.dropLast)
    (hflat : segs.flatten = head ++ CRLF2 ++ rest) :
    C01.holds env (snapScenario segs) (Scenario.run env (snapScenario segs)).log = true ∧
    Obs.countP Obs.isHp (Scenario.run env (snapScenario segs)).log = 0 := by
  have hb : breakOn CRLF2 segs.flatten = some (head, rest) := by
    rw [hflat]; exact breakOn_of_not_infix rest (by decide) hfirst
  exact ⟨C01_holds_run env segs, ((snapScenario_inv env segs).of_brk hb).2 hrej⟩

theorem C01_holds_run_incomplete (env : Env) (segs : List Bytes) (hno : ¬ CRLF2 <:+: segs.flatten) :
    Obs.countP Obs.isHp (Scenario.run env (snapScenario segs)).log = 0 := by
  obtain ⟨_, h⟩ := snapScenario_inv env segs
  rcases h with ⟨h0, hn⟩ | ⟨_, head', rest', f', h1, h2, h3, h4⟩ | ⟨_, head', rest', h1, h2, h3⟩
  · exact h0.hp
  · exact absurd (breakOn_some_infix h1) hno
  · exact absurd (breakOn_some_infix h1) hno

/-! ### non-vacuity: a run with the blank line split between segments and a lazy reader -/

/-- a concrete environment for examples: every target is a valid URL with an empty query -/
def envEx : Env := { url := fun raw => some (raw, []), errPage := fun _ _ => [] }

/-- `POST /a HTTP/1.1\r\nContent-Length: 3\r\n\r` | `\nab` | `cX` : the blank line is split
    between two segments, the body between two segments, one trailing byte -/
def seg1 : Bytes := [80, 79, 83, 84, 32, 47, 97, 32, 72, 84, 84, 80, 47, 49, 46, 49, 13, 10, 67, 111, 110, 116, 101, 110, 116, 45, 76, 101, 110, 103, 116, 104, 58, 32, 51, 13, 10, 13]
def seg2 : Bytes := [10, 97, 98]
def seg3 : Bytes := [99, 88]

/-- lazy reader: one byte per `readyRead`, the rest from idle context one turn later -/
def lazyScript : Script := { onRr := [.read 1] }
def evsEx : List Event :=
  [.new, .feed seg1, .feed seg2, .turn, .feed seg3, .turn, .api .avail, .api .readAll]

/-! `holds` twice on purpose: by evaluation, and as an instance of `holds_run` (its hypotheses are met). -/
example : readerEvents evsEx = true := by decide
example : ReaderApp lazyScript.app := ReaderApp.of_script _ (by decide)
example : (req envEx (Scenario.fed evsEx)).map (fun r => (r.headLen, r.n, r.rest)) = some (39, 3, [97, 98, 99, 88]) := by decide +kernel
example : holds envEx ⟨lazyScript.app, evsEx⟩ (Scenario.run envEx ⟨lazyScript.app, evsEx⟩).log = true := by decide +kernel
example : Obs.reads (Scenario.run envEx ⟨lazyScript.app, evsEx⟩).log = [97, 98, 99] := by decide +kernel
example : holds envEx ⟨lazyScript.app, evsEx⟩ (Scenario.run envEx ⟨lazyScript.app, evsEx⟩).log = true :=
  holds_run envEx lazyScript.app (ReaderApp.of_script _ (by decide)) evsEx (by decide)

/-- `POST /a HTTP/1.1\r\nContent-Length: 3` -/
def headEx : Bytes := [80, 79, 83, 84, 32, 47, 97, 32, 72, 84, 84, 80, 47, 49, 46, 49, 13, 10, 67, 111, 110, 116, 101, 110, 116, 45, 76, 101, 110, 103, 116, 104, 58, 32, 51]

/-- the hypotheses of the plain-terms theorems are satisfiable (same scenario) -/
example : Stream envEx headEx 3 [97, 98, 99, 88] evsEx where
  shape := by decide
  fed := by decide +kernel
  first := by rw [← isInfixB_iff]; decide +kernel
  accepted := by
    have ht : (C01.expect envEx headEx).map (·.total) = some 3 := by decide +kernel
    cases h : C01.expect envEx headEx with
    | none => rw [h] at ht; exact absurd ht (by simp)
    | some f => rw [h] at ht; exact ⟨f, rfl, by simpa using ht⟩

example : C01.holds envEx (snapScenario [seg1, seg2, seg3]) (Scenario.run envEx (snapScenario [seg1, seg2, seg3])).log = true := by
  decide +kernel
example : (C01.expect envEx headEx).isSome = true ∧
    [seg1, seg2, seg3].flatten = headEx ++ CRLF2 ++ [97, 98, 99, 88] :=
  ⟨by decide +kernel, by decide +kernel⟩
example : Obs.countP Obs.isHp (Scenario.run envEx (snapScenario [seg1, seg2, seg3])).log = 1 := by decide +kernel
example : C01.expect envEx [66, 65, 68] = none ∧ ¬ CRLF2 <:+: [66, 65, 68] ++ CRLF2.dropLast ∧
    [[66, 65, 68, 13], [10, 13], [10, 120]].flatten = [66, 65, 68] ++ CRLF2 ++ [120] :=
  ⟨by decide +kernel, by rw [← isInfixB_iff]; decide +kernel, by decide +kernel⟩
example : Obs.countP Obs.isHp (Scenario.run envEx (snapScenario [[66, 65, 68, 13], [10, 13], [10, 120]])).log = 0 := by
  decide +kernel

/-! ## The client leaves

  Shape `closingEvents`: `new :: pre ++ peerClose :: post`.  The client leaves (the transport reports
  `readChannelFinished` and `disconnected`) before the head is complete, mid-body, at the end of
  the body or after it; then the event loop keeps turning and the application keeps reading.
  The reader's reaction to `disconnected` may read. -/

theorem ended_of_closing {app : App} {evs : List Event} (obs : List Obs) (h : closingEvents evs = true) :
    ended ⟨app, evs⟩ obs = true := by
  obtain ⟨pre, post, rfl, _, _⟩ := (closingEvents_iff evs).mp h
  simp [ended]

/-- **C02 when the client leaves, main theorem**: the predicate holds on every run
    `new :: (feed seg | turn | idle read)* ++ peerClose :: (turn | idle read)*` of every reader. -/
theorem holds_run_closing (env : Env) (app : App) (happ : ReaderApp app) (evs : List Event)
    (hshape : closingEvents evs = true) :
    holds env ⟨app, evs⟩ (Scenario.run env ⟨app, evs⟩).log = true := by
  cases hreq : req env (Scenario.fed evs) with
  | none => unfold holds; simp only [hreq]
  | some r =>
    obtain ⟨head, hfin, acc, hhl⟩ := req_some hreq
    obtain ⟨pre, post, hevs, hpre, hpost⟩ := (closingEvents_iff evs).mp hshape
    refine holds_of_inv hreq hfin hhl
      (closing_inv env app happ acc r.rest hfin pre post hevs hpre hpost evs [] (by simp)) fun he => ?_
    rw [ended_of_closing _ hshape] at he
    exact Bool.noConfusion he

/-! ### in plain terms

  `Closing` is `Stream` with the closing shape (`rest.length < N`: the client left mid-body), and
  the theorems below are the `Stream` theorems for it: both families are the `RInv.*` lemmas at a
  point of the run. -/

structure Closing (env : Env) (head : Bytes) (N : Nat) (rest : Bytes) (evs : List Event) : Prop where
  shape : closingEvents evs = true
  fed : Scenario.fed evs = head ++ CRLF2 ++ rest
  first : ¬ CRLF2 <:+: head ++ CRLF2.dropLast
  accepted : ∃ f, C01.expect env head = some f ∧ f.total = (N : Int)

section closing
variable {env : Env} {app : App} {head rest : Bytes} {N : Nat} {evs : List Event}

theorem Closing.of_accepted (shape : closingEvents evs = true) (fed : Scenario.fed evs = head ++ CRLF2 ++ rest)
    (accepted : ∃ f, C01.expect env head = some f ∧ f.total = (N : Int)) : Closing env head N rest evs :=
  ⟨shape, fed, first_of_accepted env head (by obtain ⟨f, hf, _⟩ := accepted; rw [hf]; rfl), accepted⟩

theorem Closing.brk (h : Closing env head N rest evs) :
    breakOn CRLF2 (Scenario.fed evs) = some (head, rest) := by
  rw [h.fed]; exact breakOn_of_not_infix rest (by decide) h.first

theorem Closing.inv (h : Closing env head N rest evs) (happ : ReaderApp app) (p q : List Event)
    (hevs : evs = p ++ q) :
    RInv evs head N (Scenario.fed p) (Sock.run env app p) ∧ Scenario.fed p <+: Scenario.fed evs := by
  obtain ⟨f, hf, hN⟩ := h.accepted
  obtain ⟨pre, post, hsh, hpre, hpost⟩ := (closingEvents_iff evs).mp h.shape
  refine ⟨closing_inv env app happ (acc_of_expect hf hN) rest h.brk pre post hsh hpre hpost p q hevs, ?_⟩
  rw [hevs, fed_append]; exact List.prefix_append _ _

/-- once the client has left, everything it sent has arrived -/
theorem Closing.fed_after (h : Closing env head N rest evs) (pre post1 post2 : List Event)
    (hevs : evs = .new :: pre ++ .peerClose :: (post1 ++ post2)) :
    Scenario.fed (.new :: pre ++ .peerClose :: post1) = head ++ CRLF2 ++ rest := by
  have hidle : ∀ e ∈ post1 ++ post2, idleEvent e = true := by
    have hc : closingEvents evs = true := h.shape
    rw [hevs] at hc
    exact closingTail_idle_after pre (post1 ++ post2) hc
  rw [← h.fed, hevs]
  have e1 : Event.new :: pre ++ .peerClose :: post1 = (Event.new :: pre) ++ (.peerClose :: post1) := rfl
  have e2 : Event.new :: pre ++ .peerClose :: (post1 ++ post2) = (Event.new :: pre) ++ (.peerClose :: (post1 ++ post2)) := rfl
  rw [e1, e2, fed_append, fed_append, fed_peerClose _ hidle,
    fed_peerClose post1 (fun e he => hidle e (by simp [he]))]

/-- **End-of-body is never announced early**: what had arrived before `readChannelFinished` (the
    bytes of the events whose markers precede it) includes all `N` body bytes. -/
theorem closing_rcf_after_body (h : Closing env head N rest evs) (happ : ReaderApp app)
    (l1 l2 : List Obs) (hlog : (Sock.run env app evs).log = l1 ++ Obs.rcf :: l2) :
    head.length + 4 + N ≤ arrivedAt evs l1 := by
  exact walkL_rcf _ _ _ _ _ ((h.inv happ evs [] (by simp)).1.walk_at hlog)

theorem closing_arrivedAt (h : Closing env head N rest evs) (happ : ReaderApp app)
    (p q : List Event) (hevs : evs = p ++ q) :
    arrivedAt evs (Sock.run env app p).log = (Scenario.fed p).length :=
  (h.inv happ p q hevs).1.arrivedAt_eq

theorem closing_notifications (h : Closing env head N rest evs) (happ : ReaderApp app)
    (p q : List Event) (hevs : evs = p ++ q) :
    Obs.countP Obs.isHp (Sock.run env app p).log ≤ 1 ∧
    Obs.countP Obs.isRcf (Sock.run env app p).log ≤ 1 ∧
    (Obs.countP Obs.isHp (Sock.run env app p).log = 1 ↔ head.length + 4 ≤ (Scenario.fed p).length) ∧
    (Obs.countP Obs.isRcf (Sock.run env app p).log = 1 ↔
      head.length + 4 + N ≤ (Scenario.fed p).length) := by
  obtain ⟨hR, hpre⟩ := h.inv happ p q hevs
  exact hR.notifications h.fed h.brk hpre

/-- **A client that leaves mid-body produces no end-of-body notification**: the transport's own
    `readChannelFinished` is not forwarded for a request with a declared length -/
theorem closing_no_rcf_midbody (h : Closing env head N rest evs) (happ : ReaderApp app)
    (hmid : rest.length < N) : Obs.rcf ∉ (Sock.run env app evs).log := by
  obtain ⟨_, h2, _, h4⟩ := closing_notifications h happ evs [] (List.append_nil evs).symm
  intro hm
  -- an occurrence makes the count exactly one, and that means all `N` bytes have arrived
  have hpos : 0 < Obs.countP Obs.isRcf (Sock.run env app evs).log :=
    List.length_pos_of_mem (List.mem_filter.mpr ⟨hm, rfl⟩)
  have := h4.mp (Nat.le_antisymm h2 hpos)
  rw [h.fed, length_stream] at this
  exact Nat.lt_irrefl _ (Nat.lt_of_lt_of_le (Nat.add_lt_add_left hmid _) this)

theorem closing_readable_exact (h : Closing env head N rest evs) (happ : ReaderApp app)
    (p q : List Event) (hevs : evs = p ++ q) :
    Obs.reads (Sock.run env app p).log ++ (Sock.readAll (Sock.run env app p)).2 =
      ((Scenario.fed p).drop (head.length + 4)).take N := by
  obtain ⟨hR, hpre⟩ := h.inv happ p q hevs
  exact hR.readable_exact h.fed h.brk hpre

theorem closing_reads_prefix (h : Closing env head N rest evs) (happ : ReaderApp app)
    (p q : List Event) (hevs : evs = p ++ q) :
    Obs.reads (Sock.run env app p).log <+: rest.take N := by
  obtain ⟨hR, hpre⟩ := h.inv happ p q hevs
  exact hR.reads_prefix h.brk hpre

/-- **Arrived bytes stay readable after the client has left.**  A reader never closes the Socket,
    so the proviso "until the application closes the connection" is met throughout. -/
theorem closing_retained (h : Closing env head N rest evs) (happ : ReaderApp app)
    (pre post1 post2 : List Event) (hevs : evs = .new :: pre ++ .peerClose :: (post1 ++ post2)) :
    Obs.reads (Sock.run env app (.new :: pre ++ .peerClose :: post1)).log ++
        (Sock.readAll (Sock.run env app (.new :: pre ++ .peerClose :: post1))).2 = rest.take N ∧
    Sock.bytesAvailable (Sock.run env app (.new :: pre ++ .peerClose :: post1)) =
        (Sock.readAll (Sock.run env app (.new :: pre ++ .peerClose :: post1))).2.length := by
  have hsplit : evs = (.new :: pre ++ .peerClose :: post1) ++ post2 := by rw [hevs]; simp
  refine ⟨?_, (h.inv happ _ post2 hsplit).1.avail_exact⟩
  rw [closing_readable_exact h happ _ post2 hsplit, h.fed_after pre post1 post2 hevs]
  have : (head ++ CRLF2 ++ rest).drop (head.length + 4) = rest := by
    apply List.drop_left'; simp [CRLF2_length]
  rw [this]

theorem closing_complete (h : Closing env head N rest evs) (happ : ReaderApp app)
    (pre post1 : List Event) (hevs : evs = .new :: pre ++ .peerClose :: (post1 ++ [.api .readAll])) :
    Obs.reads (Sock.run env app evs).log = rest.take N := by
  -- after the final `readAll` nothing is left to read
  obtain ⟨hRp, _⟩ := h.inv (app := app) happ (.new :: pre ++ .peerClose :: post1) [.api .readAll]
    (by rw [hevs]; simp)
  have hfp := h.fed_after pre post1 [.api .readAll] hevs
  rw [← h.fed] at hfp
  rw [hfp] at hRp
  have : evs = (.new :: pre ++ .peerClose :: post1) ++ [.api .readAll] := by rw [hevs]; simp
  rw [this, run_snoc]
  exact (hRp.final_readAll env app h.brk _).1

/-- history form: the reaction to `disconnected` included -/
theorem closing_avail_exact_log (h : Closing env head N rest evs) (happ : ReaderApp app)
    (l1 l2 : List Obs) (n : Nat) (b : Bytes)
    (hlog : (Sock.run env app evs).log = l1 ++ Obs.av n :: Obs.rd b :: l2) : b.length = n := by
  exact walkL_av_rd _ _ _ _ _ _ _ ((h.inv happ evs [] (by simp)).1.walk_at hlog)

theorem closing_hp_before_data (h : Closing env head N rest evs) (happ : ReaderApp app)
    (l1 l2 : List Obs) (b : Bytes) (hlog : (Sock.run env app evs).log = l1 ++ Obs.rd b :: l2)
    (hb : b ≠ []) : Obs.hp ∈ l1 := by
  exact walkL_rd_hp _ _ _ _ _ _ ((h.inv happ evs [] (by simp)).1.walk_at hlog) hb

end closing

/-! ### non-vacuity: declared length 5, three body bytes arrive, the client leaves -/

/-- `POST /a HTTP/1.1\r\nContent-Length: 5` -/
def headEx5 : Bytes := [80, 79, 83, 84, 32, 47, 97, 32, 72, 84, 84, 80, 47, 49, 46, 49, 13, 10, 67, 111, 110, 116, 101, 110, 116, 45, 76, 101, 110, 103, 116, 104, 58, 32, 53]

/-- head and `\r\n\r` | `\nab` | `c` | the client leaves | turn | `bytesAvailable` | `readAll` -/
def evsCl : List Event :=
  [.new, .feed (headEx5 ++ [13, 10, 13]), .feed [10, 97, 98], .turn, .feed [99], .peerClose, .turn,
   .api .avail, .api .readAll]

example : closingEvents evsCl = true := by decide
example : ReaderApp lazyScript.app := ReaderApp.of_script _ (by decide)
example : (req envEx (Scenario.fed evsCl)).map (fun r => (r.headLen, r.n, r.rest)) = some (39, 5, [97, 98, 99]) := by decide +kernel
example : holds envEx ⟨lazyScript.app, evsCl⟩ (Scenario.run envEx ⟨lazyScript.app, evsCl⟩).log = true := by decide +kernel
example : holds envEx ⟨lazyScript.app, evsCl⟩ (Scenario.run envEx ⟨lazyScript.app, evsCl⟩).log = true :=
  holds_run_closing envEx lazyScript.app (ReaderApp.of_script _ (by decide)) evsCl (by decide)
example : Obs.reads (Scenario.run envEx ⟨lazyScript.app, evsCl⟩).log = [97, 98, 99] := by decide +kernel
example : Obs.countP Obs.isHp (Scenario.run envEx ⟨lazyScript.app, evsCl⟩).log = 1 ∧
    Obs.countP Obs.isRcf (Scenario.run envEx ⟨lazyScript.app, evsCl⟩).log = 0 ∧
    Obs.countP Obs.isDc (Scenario.run envEx ⟨lazyScript.app, evsCl⟩).log = 1 := by decide +kernel

/-- the hypotheses of the plain-terms theorems are satisfiable (same scenario) -/
theorem closingEx : Closing envEx headEx5 5 [97, 98, 99] evsCl where
  shape := by decide
  fed := by decide +kernel
  first := by rw [← isInfixB_iff]; decide +kernel
  accepted := by
    have ht : (C01.expect envEx headEx5).map (·.total) = some 5 := by decide +kernel
    cases h : C01.expect envEx headEx5 with
    | none => rw [h] at ht; exact absurd ht (by simp)
    | some f => rw [h] at ht; exact ⟨f, rfl, by simpa using ht⟩

example : evsCl = .new :: [.feed (headEx5 ++ [13, 10, 13]), .feed [10, 97, 98], .turn, .feed [99]] ++
    .peerClose :: ([.turn, .api .avail] ++ [.api .readAll]) := rfl
example : Obs.rcf ∉ (Sock.run envEx lazyScript.app evsCl).log :=
  closing_no_rcf_midbody closingEx (ReaderApp.of_script _ (by decide)) (by decide)
example : Obs.reads (Sock.run envEx lazyScript.app evsCl).log = [97, 98, 99] :=
  closing_complete closingEx (ReaderApp.of_script _ (by decide))
    [.feed (headEx5 ++ [13, 10, 13]), .feed [10, 97, 98], .turn, .feed [99]] [.turn, .api .avail] rfl

/-- the whole body (`abcde`) before the client leaves: the hypothesis of `closing_rcf_after_body` can be met -/
def evsClFull : List Event :=
  [.new, .feed (headEx5 ++ [13, 10, 13, 10, 97, 98]), .feed [99, 100, 101], .peerClose, .api .readAll]

example : closingEvents evsClFull = true := by decide
example : ∃ l1 l2, (Sock.run envEx lazyScript.app evsClFull).log = l1 ++ Obs.rcf :: l2 ∧
    arrivedAt evsClFull l1 = 39 + 5 := by
  refine ⟨((Sock.run envEx lazyScript.app evsClFull).log.takeWhile (fun o => !Obs.isRcf o)),
    ((Sock.run envEx lazyScript.app evsClFull).log.dropWhile (fun o => !Obs.isRcf o)).tail, ?_, ?_⟩
  · decide +kernel
  · decide +kernel

end Qhttp.C02
