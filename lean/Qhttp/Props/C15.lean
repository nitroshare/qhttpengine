import Qhttp.Model.SlotHandler
import Qhttp.Model.Http
import Qhttp.Props.C02
import Qhttp.Lemmas.C15Run
/-
  C15 — the slot handler invokes the right slot once, and only with the full body.
-/
namespace Qhttp.C15
open Qhttp SlotHandler

/-- the slot invocations in a history: (registration index, `bytesAvailable()` at that moment) -/
def slots (obs : List Obs) : List (Nat × Nat) :=
  obs.filterMap fun o => match o with | .slot i a => some (i, a) | _ => none

/-- the status code of the response on the wire, as the strict reader `Http.parse` finds it -/
def statusOf (wire : Bytes) : Option Nat :=
  match Http.parse wire with
  | some m => (Http.statusLine m.start).map (·.code)
  | none => none

/-- `path` is the decoded request path without its leading slash; `r` describes the request
    (C02.req: declared length and what was sent after the blank line), `none` = no declared body.
    The slot registered under exactly that path (last registration wins) is the only one ever
    invoked, at most once; unknown path: 404; unusable registration: 500; a registration asking
    for the whole body is invoked only when that many bytes are readable, and exactly once when
    the whole body was delivered. -/
def holds (regs : List Reg) (path : QStr) (accepted : Bool) (r : Option C02.Req) (obs : List Obs) : Bool :=
  if !accepted then slots obs == [] else
  match lookup regs path with
  | none => slots obs == [] && statusOf (Obs.wire obs) == some 404
  | some m =>
    let complete := match r with | none => true | some rq => decide (rq.rest.length ≥ rq.n)
    -- an unusable registration is detected when the slot would be invoked
    if !m.good then slots obs == [] && (if !m.readAll || complete then statusOf (Obs.wire obs) == some 500 else true) else
    (slots obs).length ≤ 1 && (slots obs).all (fun e => e.1 == m.idx) &&
    (match r with
     | none => slots obs == [(m.idx, 0)] || (slots obs).length == 1
     | some rq =>
       (if m.readAll then (slots obs).all (fun e => e.2 ≥ rq.n) else true) &&
       (if !m.readAll || rq.rest.length ≥ rq.n then (slots obs).length == 1 else true))

/-- no later registration carries the name: `QMap::insert` replaces -/
theorem lookup_exact {regs : List Reg} {path : QStr} {m : Reg} (h : lookup regs path = some m) :
    m.name = path ∧ ∃ pre post, regs = pre ++ m :: post ∧ ∀ r ∈ post, r.name ≠ path := by
  unfold lookup at h
  obtain ⟨hp, as, bs, he, hn⟩ := List.find?_eq_some_iff_append.mp h
  refine ⟨by simpa using hp, bs.reverse, as.reverse, ?_, ?_⟩
  · have := congrArg List.reverse he
    simpa using this
  · intro r hr
    have := hn r (by simpa using hr)
    simpa using this

theorem lookup_none_iff {regs : List Reg} {path : QStr} :
    lookup regs path = none ↔ ∀ r ∈ regs, r.name ≠ path := by
  unfold lookup
  simp

theorem lookup_last (pre post : List Reg) (m : Reg) (h : ∀ r ∈ post, r.name ≠ m.name) :
    lookup (pre ++ m :: post) m.name = some m := by
  unfold lookup
  rw [List.find?_eq_some_iff_append]
  refine ⟨by simp, post.reverse, pre.reverse, by simp, ?_⟩
  intro r hr
  have := h r (by simpa using hr)
  simpa using this
theorem unknown_404 {regs : List Reg} {path : QStr} (h : lookup regs path = none) (s : Sock) :
    onHp regs path s = [.err 404 none] ∧ onRcf regs path s = [] := by
  unfold onHp onRcf; rw [h]; exact ⟨rfl, rfl⟩

theorem bad_500 (m : Reg) (s : Sock) (h : m.good = false) : invoke m s = [.err 500 none] := by
  unfold invoke; rw [h]; rfl

theorem good_invoke (m : Reg) (s : Sock) (h : m.good = true) :
    invoke m s = [.note (.slot m.idx (Sock.bytesAvailable s))] := by
  unfold invoke; rw [h]; rfl

theorem onHp_cases (regs : List Reg) (path : QStr) (s : Sock) :
    (lookup regs path = none ∧ onHp regs path s = [.err 404 none]) ∨
    (∃ m, lookup regs path = some m ∧ (onHp regs path s = invoke m s ∨ onHp regs path s = [])) := by
  unfold onHp
  cases h : lookup regs path with
  | none => exact Or.inl ⟨rfl, rfl⟩
  | some m =>
    right; refine ⟨m, rfl, ?_⟩
    simp only; split
    · exact Or.inl rfl
    · exact Or.inr rfl

theorem onRcf_cases (regs : List Reg) (path : QStr) (s : Sock) :
    onRcf regs path s = [] ∨ (∃ m, lookup regs path = some m ∧ onRcf regs path s = invoke m s) := by
  unfold onRcf
  cases h : lookup regs path with
  | none => exact Or.inl rfl
  | some m =>
    simp only; split
    · exact Or.inr ⟨m, rfl, rfl⟩
    · exact Or.inl rfl

theorem invoke_slot {m : Reg} {s : Sock} {i a : Nat} (h : ApiOp.note (.slot i a) ∈ invoke m s) :
    i = m.idx ∧ a = Sock.bytesAvailable s ∧ m.good = true := by
  unfold invoke at h
  split at h
  · rename_i hg
    simp at h
    exact ⟨h.1, h.2, hg⟩
  · simp at h

/-- a slot observation names the usable entry registered (last) under exactly the requested path -/
theorem never_other_slot {regs : List Reg} {path : QStr} {s : Sock} {i a : Nat}
    (h : ApiOp.note (.slot i a) ∈ onHp regs path s ∨ ApiOp.note (.slot i a) ∈ onRcf regs path s) :
    ∃ m, lookup regs path = some m ∧ i = m.idx ∧ m.name = path ∧ m.good = true ∧
      a = Sock.bytesAvailable s := by
  rcases h with h | h
  · rcases onHp_cases regs path s with ⟨_, e⟩ | ⟨m, hm, e | e⟩
    · rw [e] at h; simp at h
    · rw [e] at h
      obtain ⟨h1, h2, h3⟩ := invoke_slot h
      exact ⟨m, hm, h1, (lookup_exact hm).1, h3, h2⟩
    · rw [e] at h; simp at h
  · rcases onRcf_cases regs path s with e | ⟨m, hm, e⟩
    · rw [e] at h; simp at h
    · rw [e] at h
      obtain ⟨h1, h2, h3⟩ := invoke_slot h
      exact ⟨m, hm, h1, (lookup_exact hm).1, h3, h2⟩

/-! names "a", "ab" (a prefix), "" and a re-registration of "a" -/
def regsEx : List Reg :=
  [⟨[97], 0, true, true⟩, ⟨[97, 98], 1, true, false⟩, ⟨[], 2, false, true⟩, ⟨[97], 3, true, false⟩]

example : (lookup regsEx [97]).map (·.idx) = some 3 := by decide
example : (lookup regsEx [97, 98]).map (·.idx) = some 1 := by decide
example : (lookup regsEx []).map (·.idx) = some 2 := by decide
example : lookup regsEx [97, 98, 99] = none := by decide
example : lookup regsEx [98] = none := by decide

/-! Runs of the socket model with the slot application; proofs in `Lemmas/C15*.lean`.  The scenario
  shape is `C15L.slotEvents`: `new (feed seg | turn)* [peerClose turn*]`. -/

open C15L

theorem slots_eq (l : List Obs) : slots l = slotsL l := rfl

theorem statusOf_errWire (env : Env) {c : Int} (hc : 0 ≤ c) : statusOf (C09L.errWire env c) = some c.natAbs := by
  unfold statusOf
  rw [C09L.parse_errWire env hc]
  show (Http.statusLine (C09L.errStart c)).map (·.code) = _
  rw [C09L.statusLine_errStart hc]
  rfl

theorem statusOf_errWire_404 (env : Env) : statusOf (C09L.errWire env 404) = some 404 :=
  statusOf_errWire env (by decide)

theorem statusOf_errWire_500 (env : Env) : statusOf (C09L.errWire env 500) = some 500 :=
  statusOf_errWire env (by decide)

/-- how the driver computes `accepted` from the stream -/
def acceptedOf (env : Env) (stream : Bytes) : Bool :=
  match C01.headOf stream with | some h => (C01.expect env h).isSome | none => false

theorem acceptedOf_none {env : Env} {stream : Bytes} (h : breakOn CRLF2 stream = none) :
    acceptedOf env stream = false := by
  simp [acceptedOf, C01.headOf, h]

theorem acceptedOf_some {env : Env} {stream head rest : Bytes} (h : breakOn CRLF2 stream = some (head, rest)) :
    acceptedOf env stream = (C01.expect env head).isSome := by
  simp [acceptedOf, C01.headOf, h]

theorem req_of {env : Env} {stream head rest : Bytes} {f : Snap}
    (h : breakOn CRLF2 stream = some (head, rest)) (he : C01.expect env head = some f) :
    C02.req env stream =
      if f.total < 0 then none else some { headLen := head.length + 4, n := f.total.toNat, rest := rest } := by
  simp [C02.req, h, he]

/-- **C15, main theorem.** For every environment, registry, path and scenario of the shape — every
    stream, accepted or not, with or without a declared body, complete or truncated, under every
    segmentation — `holds` is true of the model's run, `accepted` and `r` computed as the driver does. -/
theorem holds_run (env : Env) (regs : List Reg) (path : QStr) (evs : List Event)
    (hshape : slotEvents evs = true) :
    holds regs path (acceptedOf env (Scenario.fed evs)) (C02.req env (Scenario.fed evs))
      (Scenario.run env ⟨app regs path, evs⟩).log = true := by
  have v := run_verdict env regs path evs hshape
  show holds regs path _ _ (Sock.run env (app regs path) evs).log = true
  generalize Sock.run env (app regs path) evs = s at v
  unfold Verdict at v
  unfold holds
  cases hb : breakOn CRLF2 (Scenario.fed evs) with
  | none =>
    rw [hb] at v
    rw [acceptedOf_none hb]
    simp [slots_eq, v]
  | some hr =>
    obtain ⟨head, rest⟩ := hr
    rw [acceptedOf_some hb]
    cases he : C01.expect env head with
    | none =>
      simp only [hb, he] at v
      simp [slots_eq, v]
    | some f =>
      rw [req_of hb he]
      cases hl : lookup regs path with
      | none =>
        simp only [hb, he, hl] at v
        simp [slots_eq, v.1, v.2, statusOf_errWire_404]
      | some m =>
        simp only [hb, he, hl] at v
        rcases v with ⟨hs, ⟨hg, hw⟩ | ⟨hra, hlt⟩⟩ | ⟨hg, a, hs, ha, _⟩
        · simp [slots_eq, hs, hw, statusOf_errWire_500, hg]
        · have hneg : ¬ f.total < 0 := by omega
          simp only [slots_eq, hs, hra, hneg, if_false]
          cases m.good <;> simp <;> omega
        · simp only [slots_eq, hs, hg]
          by_cases hneg : f.total < 0
          · simp [hneg]
          · simp only [hneg, if_false]
            cases hra : m.readAll with
            | false => simp
            | true =>
              have := ha hra
              simp
              omega

/-- the same statement with `accepted` spelled exactly as in `Driver/Main.lean` -/
theorem holds_run' (env : Env) (regs : List Reg) (path : QStr) (evs : List Event)
    (hshape : slotEvents evs = true) :
    holds regs path
      (match C01.headOf (Scenario.fed evs) with | some h => (C01.expect env h).isSome | none => false)
      (C02.req env (Scenario.fed evs)) (Scenario.run env ⟨app regs path, evs⟩).log = true :=
  holds_run env regs path evs hshape

section plain
variable (env : Env) (regs : List Reg) (path : QStr) (evs : List Event)

/-- **once, and only with the full body.**  The head is accepted (`f.total` = the declared length
    or `-1`), `rest` is what was sent after the blank line, the path is registered (last) to a usable
    slot `m`.  Then: at most one slot observation, naming `m`, with at least the declared number of
    readable bytes if `m` asked for the whole body; exactly one, directly after `headersParsed`, if
    it did not; exactly one if it did and the declared body was delivered. -/
theorem once_full (hshape : slotEvents evs = true) (head rest : Bytes) (f : Snap) (m : Reg)
    (hb : breakOn CRLF2 (Scenario.fed evs) = some (head, rest))
    (he : C01.expect env head = some f) (hl : lookup regs path = some m) (hg : m.good = true) :
    (slots (Scenario.run env ⟨app regs path, evs⟩).log = [] ∨
      ∃ a, slots (Scenario.run env ⟨app regs path, evs⟩).log = [(m.idx, a)] ∧
        (m.readAll = true → f.total ≤ (a : Int))) ∧
    (m.readAll = false → ∃ a l1 l2, slots (Scenario.run env ⟨app regs path, evs⟩).log = [(m.idx, a)] ∧
        (Scenario.run env ⟨app regs path, evs⟩).log = l1 ++ Obs.hp :: Obs.slot m.idx a :: l2) ∧
    (m.readAll = true → f.total ≤ (rest.length : Int) →
      ∃ a, slots (Scenario.run env ⟨app regs path, evs⟩).log = [(m.idx, a)]) := by
  have v := run_verdict env regs path evs hshape
  rw [show Scenario.run env ⟨app regs path, evs⟩ = Sock.run env (app regs path) evs from rfl]
  generalize Sock.run env (app regs path) evs = s at v
  simp only [Verdict, hb, he, hl] at v
  rcases v with ⟨hs, ⟨hg', _⟩ | ⟨hra, hlt⟩⟩ | ⟨_, a, hs, ha, hc⟩
  · rw [hg] at hg'; exact absurd hg' (by simp)
  · exact ⟨Or.inl hs, fun hr => by rw [hra] at hr; exact absurd hr (by simp), fun _ hle => by omega⟩
  · exact ⟨Or.inr ⟨a, hs, ha⟩, fun hr => by obtain ⟨l1, l2, e⟩ := hc hr; exact ⟨a, l1, l2, hs, e⟩,
      fun _ _ => ⟨a, hs⟩⟩

theorem unknown_404_run (hshape : slotEvents evs = true) (head rest : Bytes) (f : Snap)
    (hb : breakOn CRLF2 (Scenario.fed evs) = some (head, rest))
    (he : C01.expect env head = some f) (hl : lookup regs path = none) :
    slots (Scenario.run env ⟨app regs path, evs⟩).log = [] ∧
    statusOf (Obs.wire (Scenario.run env ⟨app regs path, evs⟩).log) = some 404 := by
  have v := run_verdict env regs path evs hshape
  rw [show Scenario.run env ⟨app regs path, evs⟩ = Sock.run env (app regs path) evs from rfl]
  generalize Sock.run env (app regs path) evs = s at v
  simp only [Verdict, hb, he, hl] at v
  exact ⟨v.1, by rw [v.2]; exact statusOf_errWire_404 env⟩

/-- the 500 is sent when the slot would have been invoked: at once, or when the declared body is complete -/
theorem bad_500_run (hshape : slotEvents evs = true) (head rest : Bytes) (f : Snap) (m : Reg)
    (hb : breakOn CRLF2 (Scenario.fed evs) = some (head, rest))
    (he : C01.expect env head = some f) (hl : lookup regs path = some m) (hg : m.good = false) :
    slots (Scenario.run env ⟨app regs path, evs⟩).log = [] ∧
    (m.readAll = false ∨ f.total ≤ (rest.length : Int) →
      statusOf (Obs.wire (Scenario.run env ⟨app regs path, evs⟩).log) = some 500) := by
  have v := run_verdict env regs path evs hshape
  rw [show Scenario.run env ⟨app regs path, evs⟩ = Sock.run env (app regs path) evs from rfl]
  generalize Sock.run env (app regs path) evs = s at v
  simp only [Verdict, hb, he, hl] at v
  rcases v with ⟨hs, ⟨_, hw⟩ | ⟨hra, hlt⟩⟩ | ⟨hg', _⟩
  · exact ⟨hs, fun _ => by rw [hw]; exact statusOf_errWire_500 env⟩
  · refine ⟨hs, fun hor => ?_⟩
    rcases hor with hr | hle
    · rw [hra] at hr; exact absurd hr (by simp)
    · omega
  · rw [hg] at hg'; exact absurd hg' (by simp)

theorem not_accepted_run (hshape : slotEvents evs = true)
    (hna : ∀ head rest, breakOn CRLF2 (Scenario.fed evs) = some (head, rest) → C01.expect env head = none) :
    slots (Scenario.run env ⟨app regs path, evs⟩).log = [] := by
  have v := run_verdict env regs path evs hshape
  rw [show Scenario.run env ⟨app regs path, evs⟩ = Sock.run env (app regs path) evs from rfl]
  generalize Sock.run env (app regs path) evs = s at v
  unfold Verdict at v
  cases hb : breakOn CRLF2 (Scenario.fed evs) with
  | none => rw [hb] at v; exact v
  | some hr =>
    obtain ⟨head, rest⟩ := hr
    simp only [hb, hna head rest hb] at v
    exact v

end plain

def regsAll : List Reg := [⟨[97], 0, true, true⟩]
def regsNow : List Reg := [⟨[97], 0, true, false⟩]
def regsBad : List Reg := [⟨[97], 0, false, true⟩]

/-- `POST /a HTTP/1.1\r\nContent-Length: 3\r\n\r` | `\nab` | `cX` | turn: the blank line and the
    3-byte body are both split between segments, one byte follows the body -/
def evsSplit : List Event := [.new, .feed C02.seg1, .feed C02.seg2, .feed C02.seg3, .turn]
/-- the head with its blank line | `abc` | the peer closes | turn -/
def evsHeadFirst : List Event := [.new, .turn, .feed (C02.seg1 ++ [10]), .feed [97, 98, 99], .peerClose, .turn]
/-- the body is never completed -/
def evsShort : List Event := [.new, .feed (C02.seg1 ++ [10, 97]), .turn, .feed [98], .peerClose, .turn]

def slotOrEv : Obs → Bool | .slot _ _ => true | .ev _ => true | .hp => true | .rcf => true | _ => false

example : slotEvents evsSplit = true ∧ slotEvents evsHeadFirst = true ∧ slotEvents evsShort = true := by decide
example : acceptedOf C02.envEx (Scenario.fed evsSplit) = true := by decide +kernel
example : (C02.req C02.envEx (Scenario.fed evsSplit)).map (fun r => (r.n, r.rest)) = some (3, [97, 98, 99, 88]) := by
  decide +kernel

/-- invoked once, with 3 readable bytes, at `readChannelFinished` while the third segment is processed -/
example : (Scenario.run C02.envEx ⟨app regsAll [97], evsSplit⟩).log.filter slotOrEv =
    [.ev 0, .ev 1, .ev 2, .hp, .ev 3, .rcf, .slot 0 3, .ev 4] := by decide +kernel
/-- a slot that does not wait is invoked at routing time with what is readable then -/
example : (Scenario.run C02.envEx ⟨app regsNow [97], evsHeadFirst⟩).log.filter slotOrEv =
    [.ev 0, .ev 1, .ev 2, .hp, .slot 0 0, .ev 3, .rcf, .ev 4, .ev 5] := by decide +kernel
example : (Scenario.run C02.envEx ⟨app regsNow [97], evsSplit⟩).log.filter slotOrEv =
    [.ev 0, .ev 1, .ev 2, .hp, .slot 0 2, .ev 3, .rcf, .ev 4] := by decide +kernel
example : slots (Scenario.run C02.envEx ⟨app regsAll [97], evsShort⟩).log = [] := by decide +kernel
/-- the prefix name `"ab"` and the re-registration: path `"a"` runs slot 3, never 0 or 1 -/
example : slots (Scenario.run C02.envEx ⟨app regsEx [97], evsSplit⟩).log = [(3, 2)] := by decide +kernel
example : statusOf (Obs.wire (Scenario.run C02.envEx ⟨app regsEx [98], evsSplit⟩).log) = some 404 := by
  decide +kernel
example : statusOf (Obs.wire (Scenario.run C02.envEx ⟨app regsBad [97], evsSplit⟩).log) = some 500 ∧
    Obs.wire (Scenario.run C02.envEx ⟨app regsBad [97], evsShort⟩).log = [] := by decide +kernel

example : holds regsAll [97] (acceptedOf C02.envEx (Scenario.fed evsSplit)) (C02.req C02.envEx (Scenario.fed evsSplit))
    (Scenario.run C02.envEx ⟨app regsAll [97], evsSplit⟩).log = true := by decide +kernel
/-- not trivially true: another slot owns the path; premature, repeated or missing invocation -/
example : holds regsEx [97] true (C02.req C02.envEx (Scenario.fed evsSplit))
    (Scenario.run C02.envEx ⟨app regsAll [97], evsSplit⟩).log = false := by decide +kernel
example : holds regsAll [97] true (C02.req C02.envEx (Scenario.fed evsSplit)) [.hp, .slot 0 2, .rcf] = false := by
  decide +kernel
example : holds regsAll [97] true (C02.req C02.envEx (Scenario.fed evsSplit)) [.hp, .rcf, .slot 0 3, .slot 0 3] = false := by
  decide +kernel
example : holds regsAll [97] true (C02.req C02.envEx (Scenario.fed evsSplit)) [.hp, .rcf] = false := by
  decide +kernel
end Qhttp.C15
