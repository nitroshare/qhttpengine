import Qhttp.Model.Socket
import Qhttp.Lemmas.BytesLemmas
import Qhttp.Lemmas.BytesNum
import Qhttp.Lemmas.C01Parser
/-
  C01 — request head accepted iff well-formed, parsed fields exact.
  `expect` says what the application must be shown for a head, `holds` is the predicate on runs.
  The theorems of this file characterise `expect` (grammar `render`/`wellFormedB`, exact fields,
  declared length); that every run of the Socket satisfies `holds` is `C02.C01_holds_run`
  (Props/C02).  The examples at the end use the toy oracle `envT` and the byte literals `str`.
-/
namespace Qhttp.C01
open Qhttp

/-- what the application must be shown for a request head (bytes before the first blank line):
    `none` = the head is not acceptable -/
def expect (env : Env) (head : Bytes) : Option Snap :=
  match Parser.parseRequestHeaders head with
  | none => none
  | some rh =>
    match env.url rh.rawPath with
    | none => none
    | some (p, q) =>
      some { parsed := true, method := rh.method, rawPath := rh.rawPath, path := p,
             query := q.foldl (fun m e => Sock.qmInsert e.1 e.2 m) [],
             headers := rh.headers,
             total := if HeaderMap.contains Sock.CONTENT_LENGTH rh.headers
                      then toLongLong (HeaderMap.value Sock.CONTENT_LENGTH rh.headers) else -1 }

def headOf (stream : Bytes) : Option Bytes := (breakOn CRLF2 stream).map (·.1)

def firstSnap : List Obs → Option Snap
  | [] => none
  | .snap s :: _ => some s
  | _ :: l => firstSnap l

/-- scenario shape: `@hp snap @end`, the Socket created before any byte arrives.
    The application is told "headers parsed" iff the head is acceptable, and then sees exactly
    the expected fields. -/
def holds (env : Env) (sc : Scenario) (obs : List Obs) : Bool :=
  match headOf (Scenario.fed sc.events) with
  | none => Obs.countP Obs.isHp obs == 0
  | some head =>
    match expect env head with
    | none => Obs.countP Obs.isHp obs == 0
    | some f => Obs.countP Obs.isHp obs == 1 && firstSnap obs == some f


/-! All statements are about arbitrary byte strings and an arbitrary `env` (`env.url` is the `QUrl`
  oracle: nothing is assumed about it). -/

open Parser

/-- the grammar side: `METHOD SP target SP version (CRLF line)*` -/
def render (m t v : Bytes) (hs : List Bytes) : Bytes :=
  m ++ [SP] ++ t ++ [SP] ++ v ++ hs.flatMap (fun l => CRLF ++ l)

/-- side conditions of the grammar, as one executable predicate.  A line such as `: v` or `  : v`
    is not a header line (`Parser.HdrLine`) and makes the head unacceptable. -/
def wellFormedB (env : Env) (m t v : Bytes) (hs : List Bytes) : Bool :=
  (methodCode m).isSome && (v == HTTP10 || v == HTTP11) && !t.contains SP && !isInfixB CRLF t &&
  (env.url t).isSome && hs.all (fun l => hdrLineB l && !isInfixB CRLF l)

theorem wellFormedB_iff (env : Env) (m t v : Bytes) (hs : List Bytes) :
    wellFormedB env m t v hs = true ↔
      methodCode m ≠ none ∧ (v = HTTP10 ∨ v = HTTP11) ∧ SP ∉ t ∧ ¬ CRLF <:+: t ∧
      (env.url t).isSome ∧ (∀ l ∈ hs, HdrLine l ∧ ¬ CRLF <:+: l) := by
  have hi : ∀ xs : Bytes, (!isInfixB CRLF xs) = true ↔ ¬ CRLF <:+: xs := fun xs => by
    rw [← isInfixB_iff]; simp
  simp only [wellFormedB, Bool.and_eq_true, Bool.or_eq_true, beq_iff_eq, hi, List.all_eq_true,
    hdrLineB_iff, Bool.not_eq_true', ← Option.isSome_iff_ne_none]
  constructor
  · rintro ⟨⟨⟨⟨⟨h1, h2⟩, h3⟩, h4⟩, h5⟩, h6⟩
    refine ⟨h1, h2, ?_, h4, h5, h6⟩
    intro c
    have := List.contains_iff_mem.2 c
    rw [h3] at this; cases this
  · rintro ⟨h1, h2, h3, h4, h5, h6⟩
    refine ⟨⟨⟨⟨⟨h1, h2⟩, ?_⟩, h4⟩, h5⟩, h6⟩
    cases hc : t.contains SP with
    | false => rfl
    | true => exact absurd (List.contains_iff_mem.1 hc) h3

theorem render_eq_joinWith (m t v : Bytes) (hs : List Bytes) :
    render m t v hs = joinWith CRLF ((m ++ [SP] ++ t ++ [SP] ++ v) :: hs) := by
  rw [joinWith_cons_eq_flatMap]; rfl

/-- exact characterisation of the parser model, independent of the URL oracle -/
theorem parse_eq_some_iff (head : Bytes) (rh : Parser.ReqHead) :
    Parser.parseRequestHeaders head = some rh ↔
      ∃ m v hs, methodCode m = some rh.method ∧ (v = HTTP10 ∨ v = HTTP11) ∧
        SP ∉ rh.rawPath ∧ ¬ CRLF <:+: rh.rawPath ∧ (∀ l ∈ hs, HdrLine l ∧ ¬ CRLF <:+: l) ∧
        rh.headers = hs.foldl insertLine [] ∧ head = render m rh.rawPath v hs := by
  rw [Parser.parseRequestHeaders_eq_some_iff]
  constructor
  · rintro ⟨p0, p2, hp, hv, hc⟩
    obtain ⟨hs, _, h1, hf, hl, hpl, rfl⟩ := (Parser.parseHeaders_eq_some_iff _ _ _ _ _ _).1 hp
    rw [Parser.parseHeaderList_eq] at hpl
    split at hpl
    · rename_i hcol
      have hhd := (Option.some.inj hpl).symm
      refine ⟨p0, p2, hs, hc, hv, h1, ?_, fun l hl' => ⟨(hdrLineB_iff l).1 (hcol l hl'), hl l hl'⟩, hhd,
        (render_eq_joinWith _ _ _ _).symm⟩
      · intro c
        apply hf
        obtain ⟨s, t, e⟩ := c
        exact ⟨p0 ++ [SP] ++ s, t ++ [SP] ++ p2, by rw [← e]; simp [List.append_assoc]⟩
    · cases hpl
  · rintro ⟨m, v, hs, hc, hv, h1, h2, hl, hh, rfl⟩
    have hm : methodCode m ≠ none := by rw [hc]; simp
    refine ⟨m, v, ?_, hv, hc⟩
    rw [Parser.parseHeaders_eq_some_iff]
    refine ⟨hs, (Parser.method_no_SP_CR hm).1, h1, Parser.requestLine_no_CRLF hm hv h2,
      fun l hl' => (hl l hl').2, ?_, render_eq_joinWith _ _ _ _⟩
    rw [Parser.parseHeaderList_eq, if_pos (fun l hl' => (hdrLineB_iff l).2 (hl l hl').1), hh]

theorem expect_eq_some_iff (env : Env) (head : Bytes) (s : Snap) :
    expect env head = some s ↔
      ∃ rh p q, Parser.parseRequestHeaders head = some rh ∧ env.url rh.rawPath = some (p, q) ∧
        s = { parsed := true, method := rh.method, rawPath := rh.rawPath, path := p,
              query := q.foldl (fun m e => Sock.qmInsert e.1 e.2 m) [],
              headers := rh.headers,
              total := if HeaderMap.contains Sock.CONTENT_LENGTH rh.headers
                       then toLongLong (HeaderMap.value Sock.CONTENT_LENGTH rh.headers)
                       else -1 } := by
  unfold expect
  constructor
  · intro h
    split at h
    · cases h
    · rename_i rh hrh
      split at h
      · cases h
      · rename_i p q hu
        cases h
        exact ⟨rh, p, q, hrh, hu, rfl⟩
  · rintro ⟨rh, p, q, hrh, hu, rfl⟩
    rw [hrh]
    simp only [hu]

/-- **C01, acceptance.**  A request head is accepted iff it is
    `METHOD SP target SP HTTP/1.0|HTTP/1.1 (CRLF line)*` with one of the eight method tokens,
    a target without space and without CRLF that the URL oracle accepts, and every line of the
    form `name: value` — `Parser.HdrLine`: `name ++ ":" ++ value` with a colon-free name that is not
    blank — (and no CRLF, i.e. the lines are exactly the CRLF-separated pieces).
    `→` is "nothing else is ever accepted".  The target may be empty iff the oracle accepts the
    empty string, the version must be the exact 8 bytes (a trailing CR or space is rejected). -/
theorem accept_iff (env : Env) (head : Bytes) :
    (expect env head).isSome ↔
      ∃ m t v hs, methodCode m ≠ none ∧ (v = HTTP10 ∨ v = HTTP11) ∧ SP ∉ t ∧ ¬ CRLF <:+: t ∧
        (env.url t).isSome ∧ (∀ l ∈ hs, HdrLine l ∧ ¬ CRLF <:+: l) ∧ head = render m t v hs := by
  constructor
  · intro h
    obtain ⟨s, hs⟩ := Option.isSome_iff_exists.1 h
    obtain ⟨rh, p, q, hrh, hu, _⟩ := (expect_eq_some_iff _ _ _).1 hs
    obtain ⟨m, v, hs, hc, hv, h1, h2, hl, _, e⟩ := (parse_eq_some_iff _ _).1 hrh
    exact ⟨m, rh.rawPath, v, hs, by rw [hc]; simp, hv, h1, h2, by rw [hu]; rfl, hl, e⟩
  · rintro ⟨m, t, v, hs, hm, hv, h1, h2, hu, hl, rfl⟩
    obtain ⟨c, hc⟩ := Option.isSome_iff_exists.1 (Option.isSome_iff_ne_none.2 hm)
    obtain ⟨⟨p, q⟩, hpq⟩ := Option.isSome_iff_exists.1 hu
    have hp : Parser.parseRequestHeaders (render m t v hs) =
        some { method := c, rawPath := t, headers := hs.foldl insertLine [] } :=
      (parse_eq_some_iff _ _).2 ⟨m, v, hs, hc, hv, h1, h2, hl, rfl, rfl⟩
    apply Option.isSome_iff_exists.2
    exact ⟨_, (expect_eq_some_iff _ _ _).2 ⟨_, p, q, hp, hpq, rfl⟩⟩

theorem accept_iff' (env : Env) (head : Bytes) :
    (expect env head).isSome ↔
      ∃ m t v hs, wellFormedB env m t v hs = true ∧ head = render m t v hs := by
  rw [accept_iff]
  constructor
  · rintro ⟨m, t, v, hs, h1, h2, h3, h4, h5, h6, e⟩
    exact ⟨m, t, v, hs, (wellFormedB_iff _ _ _ _ _).2 ⟨h1, h2, h3, h4, h5, h6⟩, e⟩
  · rintro ⟨m, t, v, hs, h, e⟩
    obtain ⟨h1, h2, h3, h4, h5, h6⟩ := (wellFormedB_iff _ _ _ _ _).1 h
    exact ⟨m, t, v, hs, h1, h2, h3, h4, h5, h6, e⟩

/-- the decomposition of an accepted head is unique (the grammar is unambiguous) -/
theorem render_unique {m t v : Bytes} {hs : List Bytes} {m' t' v' : Bytes} {hs' : List Bytes}
    (hm : methodCode m ≠ none) (hv : v = HTTP10 ∨ v = HTTP11) (h1 : SP ∉ t)
    (h2 : ¬ CRLF <:+: t) (hl : ∀ l ∈ hs, ¬ CRLF <:+: l)
    (hm' : methodCode m' ≠ none) (hv' : v' = HTTP10 ∨ v' = HTTP11) (h1' : SP ∉ t')
    (h2' : ¬ CRLF <:+: t') (hl' : ∀ l ∈ hs', ¬ CRLF <:+: l)
    (e : render m t v hs = render m' t' v' hs') : m = m' ∧ t = t' ∧ v = v' ∧ hs = hs' := by
  rw [render_eq_joinWith, render_eq_joinWith] at e
  have s1 := split_CRLF_joinWith ((m ++ [SP] ++ t ++ [SP] ++ v) :: hs) (by simp) (by
    intro p hp
    rcases List.mem_cons.1 hp with rfl | hp
    · exact Parser.requestLine_no_CRLF hm hv h2
    · exact hl p hp)
  have s2 := split_CRLF_joinWith ((m' ++ [SP] ++ t' ++ [SP] ++ v') :: hs') (by simp) (by
    intro p hp
    rcases List.mem_cons.1 hp with rfl | hp
    · exact Parser.requestLine_no_CRLF hm' hv' h2'
    · exact hl' p hp)
  rw [e, s2] at s1
  simp only [List.cons.injEq] at s1
  obtain ⟨ef, eh⟩ := s1
  have a1 := (Parser.split_SP2_eq_iff _ m t v).2 ⟨(Parser.method_no_SP_CR hm).1, h1, rfl⟩
  have a2 := (Parser.split_SP2_eq_iff _ m' t' v').2 ⟨(Parser.method_no_SP_CR hm').1, h1', rfl⟩
  rw [← ef, a2] at a1
  simp only [List.cons.injEq, and_true] at a1
  exact ⟨a1.1.symm, a1.2.1.symm, a1.2.2.symm, eh.symm⟩

theorem first_colon_unique {n x n' x' : Bytes} (hn : COLON ∉ n) (hn' : COLON ∉ n')
    (e : n ++ [COLON] ++ x = n' ++ [COLON] ++ x') : n = n' ∧ x = x' := by
  have a := breakOn_singleton x hn
  have b := breakOn_singleton x' hn'
  rw [e, b] at a
  simp only [Option.some.injEq, Prod.mk.injEq] at a
  exact ⟨a.1.symm, a.2.symm⟩

theorem not_hdrLine_of_blank {n x : Bytes} (hn : COLON ∉ n) (hb : Blank n) :
    ¬ HdrLine (n ++ [COLON] ++ x) := by
  rintro ⟨n', x', e, hn', hc⟩
  obtain ⟨rfl, _⟩ := first_colon_unique hn hn' e
  exact (not_blank_iff n).2 hc hb

/-- **C01, blank header names are refused.**  A head that is otherwise a rendering of the grammar
    (`METHOD SP target SP version (CRLF line)*`, method token, version, target without space, no
    CRLF inside the pieces — no assumption on the other lines) but has ONE line whose name part,
    i.e. what stands before its first colon, is empty or white space only (`: v`, ` \t: v`), is
    not accepted, whatever the URL oracle says. -/
theorem blank_name_rejected (env : Env) (m t v : Bytes) (hs : List Bytes)
    (hm : methodCode m ≠ none) (hv : v = HTTP10 ∨ v = HTTP11) (h1 : SP ∉ t) (h2 : ¬ CRLF <:+: t)
    (hl : ∀ l ∈ hs, ¬ CRLF <:+: l)
    (n x : Bytes) (hmem : n ++ [COLON] ++ x ∈ hs) (hn : COLON ∉ n) (hb : Blank n) :
    expect env (render m t v hs) = none := by
  cases he : expect env (render m t v hs) with
  | none => rfl
  | some s =>
    exfalso
    have hsome : (expect env (render m t v hs)).isSome := by rw [he]; rfl
    obtain ⟨m', t', v', hs', hm', hv', h1', h2', _, hl', e⟩ := (accept_iff env _).1 hsome
    obtain ⟨_, _, _, rfl⟩ := render_unique hm hv h1 h2 hl hm' hv' h1' h2' (fun l h => (hl' l h).2) e
    exact not_hdrLine_of_blank hn hb (hl' _ hmem).1

/-- the accepted method tokens are exactly the eight upper-case literals … -/
theorem method_tokens (m : Bytes) :
    methodCode m ≠ none ↔
      m = Parser.OPTIONS ∨ m = Parser.GET ∨ m = Parser.HEAD ∨ m = Parser.POST ∨
      m = Parser.PUT ∨ m = Parser.DELETE ∨ m = Parser.TRACE ∨ m = Parser.CONNECT :=
  Parser.methodCode_ne_none_iff m

/-- … and their codes are the eight distinct powers of two of `Socket::Method` -/
theorem method_codes :
    methodCode Parser.OPTIONS = some 1 ∧ methodCode Parser.GET = some 2 ∧
    methodCode Parser.HEAD = some 4 ∧ methodCode Parser.POST = some 8 ∧
    methodCode Parser.PUT = some 16 ∧ methodCode Parser.DELETE = some 32 ∧
    methodCode Parser.TRACE = some 64 ∧ methodCode Parser.CONNECT = some 128 := by decide +kernel

/-- **C01, exact fields.**  On a well-formed head the application is shown: the code of the
    method token, the raw target, the path and the query items the URL oracle returned (items
    inserted with `QMultiMap::insert` in order), and for every name `k` the header values
    whose (trimmed) name equals `k` case-insensitively, trimmed, duplicates kept, most recent
    first. -/
theorem fields_exact (env : Env) (m t v : Bytes) (hs : List Bytes)
    (hm : methodCode m ≠ none) (hv : v = HTTP10 ∨ v = HTTP11) (h1 : SP ∉ t)
    (h2 : ¬ CRLF <:+: t) (hu : (env.url t).isSome) (hl : ∀ l ∈ hs, HdrLine l ∧ ¬ CRLF <:+: l) :
    ∃ s c p q, expect env (render m t v hs) = some s ∧ methodCode m = some c ∧
      env.url t = some (p, q) ∧
      s.parsed = true ∧ s.method = c ∧ s.rawPath = t ∧ s.path = p ∧
      s.query = q.foldl (fun acc e => Sock.qmInsert e.1 e.2 acc) [] ∧
      ∀ k, HeaderMap.values k s.headers =
        hs.reverse.filterMap (fun l =>
          match breakOn [COLON] l with
          | some (n, x) => if lower (trim n) = lower k then some (trim x) else none
          | none => none) := by
  obtain ⟨c, hc⟩ := Option.isSome_iff_exists.1 (Option.isSome_iff_ne_none.2 hm)
  obtain ⟨⟨p, q⟩, hpq⟩ := Option.isSome_iff_exists.1 hu
  have hp : Parser.parseRequestHeaders (render m t v hs) =
      some { method := c, rawPath := t, headers := hs.foldl insertLine [] } :=
    (parse_eq_some_iff _ _).2 ⟨m, v, hs, hc, hv, h1, h2, hl, rfl, rfl⟩
  refine ⟨_, c, p, q, (expect_eq_some_iff _ _ _).2 ⟨_, p, q, hp, hpq, rfl⟩, hc, hpq,
    rfl, rfl, rfl, rfl, rfl, fun k => ?_⟩
  simp only
  rw [Parser.values_foldl_insertLine, HeaderMap.values_nil, List.append_nil]
  rfl

/-- **C01, declared length.**  `contentLength()` is `toLongLong` of the most recent
    `Content-Length` value (name compared case-insensitively), and −1 when there is none.
    ("`total = -1` iff there is no such header" is false in one direction:
    `Content-Length: -1` also gives −1, see the example below.) -/
theorem content_length (env : Env) (head : Bytes) (s : Snap) (h : expect env head = some s) :
    s.total = match HeaderMap.values Sock.CONTENT_LENGTH s.headers with
              | [] => -1
              | x :: _ => toLongLong x := by
  obtain ⟨rh, p, q, _, _, rfl⟩ := (expect_eq_some_iff _ _ _).1 h
  exact HeaderMap.contains_value_eq _ _ _ _

theorem content_length_absent (env : Env) (head : Bytes) (s : Snap) (h : expect env head = some s)
    (hn : HeaderMap.values Sock.CONTENT_LENGTH s.headers = []) : s.total = -1 := by
  rw [content_length env head s h, hn]

theorem content_length_numeral (env : Env) (head : Bytes) (s : Snap)
    (h : expect env head = some s) (n : Nat) (hn : n < 2 ^ 63) (p q : Bytes)
    (hp : ∀ c ∈ p, isSp c = true) (hq : ∀ c ∈ q, isSp c = true) (rest : List Bytes)
    (hv : HeaderMap.values Sock.CONTENT_LENGTH s.headers = (p ++ natDigits n ++ q) :: rest) :
    s.total = (n : Int) := by
  rw [content_length env head s h, hv]
  exact toLongLong_natDigits_padded n hn p q hp hq

theorem content_length_lines (env : Env) (m t v : Bytes) (hs : List Bytes) (s : Snap)
    (hm : methodCode m ≠ none) (hv : v = HTTP10 ∨ v = HTTP11) (h1 : SP ∉ t)
    (h2 : ¬ CRLF <:+: t) (hl : ∀ l ∈ hs, HdrLine l ∧ ¬ CRLF <:+: l)
    (h : expect env (render m t v hs) = some s) :
    s.total = match hs.reverse.filterMap (lineValue Sock.CONTENT_LENGTH) with
              | [] => -1
              | x :: _ => toLongLong x := by
  have hu : (env.url t).isSome := by
    obtain ⟨rh, p, q, hrh, hu, _⟩ := (expect_eq_some_iff _ _ _).1 h
    obtain ⟨m', v', hs', hc, hv', h1', h2', hl', _, e⟩ := (parse_eq_some_iff _ _).1 hrh
    have := render_unique hm hv h1 h2 (fun l hl0 => (hl l hl0).2)
      (by rw [hc]; simp) hv' h1' h2' (fun l hl0 => (hl' l hl0).2) e
    rw [this.2.1, hu]; rfl
  obtain ⟨s', c, p, q, hs', _, _, _, _, _, _, _, hvals⟩ :=
    fields_exact env m t v hs hm hv h1 h2 hu hl
  rw [h] at hs'
  cases hs'
  rw [content_length env _ s h, hvals]
  rfl

/-! ### non-vacuity: concrete heads, evaluated by the kernel
  (`decide +kernel`: plain `decide` evaluates with the elaborator's `whnf`, which takes minutes
  on 100-byte inputs) -/

def str (x : String) : Bytes := x.toList.map b

/-- The kernel unfolds a string literal to `String.ofList` of its characters in one step, whereas
    `String.toList` decodes the UTF-8 bytes into an array, which is quadratic in the kernel.
    The examples rewrite their one long literal with this equation before they evaluate. -/
theorem str_ofList (l : List Char) : str (String.ofList l) = l.map b := by
  rw [str, String.toList_ofList]

/-- a toy URL oracle for the examples: target starts with '/', path up to '?', then `k=v&…` -/
def envT : Env where
  url := fun t =>
    if t.head? ≠ some 47 then none else
    match breakOn [63] t with
    | none => some (t, [])
    | some (p, q) =>
      some (p, (splitChar 38 q).map (fun kv =>
        match breakOn [61] kv with
        | some (k, x) => (k, x)
        | none => (kv, [])))
  errPage := fun _ _ => []

def sampleHead : Bytes :=
  str "POST /a/b?z=1&k=2 HTTP/1.1\r\nHost: example\r\ncontent-length:  12 \r\nX-Tag:one\r\nCONTENT-LENGTH :\t7 \r\nx-tag:   two  words "

def sampleLines : List Bytes :=
  [str "Host: example", str "content-length:  12 ", str "X-Tag:one", str "CONTENT-LENGTH :\t7 ",
   str "x-tag:   two  words "]

example : sampleHead = render Parser.POST (str "/a/b?z=1&k=2") HTTP11 sampleLines := by
  rw [show sampleHead = _ from str_ofList _]; decide +kernel
example : wellFormedB envT Parser.POST (str "/a/b?z=1&k=2") HTTP11 sampleLines = true := by decide +kernel

/-- mixed-case duplicate headers are kept, most recent first, values are trimmed, the last
    `Content-Length` wins -/
example :
    expect envT sampleHead =
      some { parsed := true, method := 8, rawPath := str "/a/b?z=1&k=2", path := str "/a/b",
             query := [(str "k", str "2"), (str "z", str "1")],
             headers := [(str "CONTENT-LENGTH", str "7"), (str "content-length", str "12"),
                         (str "Host", str "example"),
                         (str "x-tag", str "two  words"), (str "X-Tag", str "one")],
             total := 7 } := by
  rw [show sampleHead = _ from str_ofList _]; decide +kernel

example : (expect envT sampleHead).map (fun s => HeaderMap.values (str "X-TAG") s.headers) =
    some [str "two  words", str "one"] := by
  rw [show sampleHead = _ from str_ofList _]; decide +kernel

example : expect envT (str "GET / HTTP/1.2\r\nHost: x") = none := by rw [str_ofList]; decide +kernel
example : expect envT (str "get / HTTP/1.1\r\nHost: x") = none := by rw [str_ofList]; decide +kernel
example : expect envT (str "GET / HTTP/1.1\r\nHost x") = none := by rw [str_ofList]; decide +kernel
/-- a header line with an empty or blank name is not of the form `name: value`
    (`blank_name_rejected`) -/
example : expect envT (str "GET / HTTP/1.1\r\n: v") = none := by rw [str_ofList]; decide +kernel
example : expect envT (str "GET / HTTP/1.1\r\nHost: x\r\n \t : v\r\nA: b") = none := by
  rw [str_ofList]; decide +kernel
example : hdrLineB (str ": v") = false ∧ hdrLineB (str " \t : v") = false ∧ hdrLineB (str "::") = false ∧
    hdrLineB (str " a :") = true ∧ hdrLineB (str "a") = false := by decide +kernel
/-- the hypotheses of `blank_name_rejected` on the second of them -/
example : methodCode Parser.GET ≠ none ∧ SP ∉ str "/" ∧ ¬ CRLF <:+: str "/" ∧
    (∀ l ∈ [str "Host: x", str " \t : v", str "A: b"], ¬ CRLF <:+: l) ∧
    str " \t " ++ [COLON] ++ str " v" ∈ [str "Host: x", str " \t : v", str "A: b"] ∧
    COLON ∉ str " \t " ∧ Blank (str " \t ") ∧
    str "GET / HTTP/1.1\r\nHost: x\r\n \t : v\r\nA: b" =
      render Parser.GET (str "/") HTTP11 [str "Host: x", str " \t : v", str "A: b"] := by
  decide +kernel
example : expect envT (str "GET / x HTTP/1.1\r\nHost: x") = none := by
  rw [str_ofList]; decide +kernel
example : expect envT (str "GET / HTTP/1.1\r") = none := by rw [str_ofList]; decide +kernel
example : expect envT (str "GET / HTTP/1.1\r\n") = none := by rw [str_ofList]; decide +kernel
example : expect envT (str "GET  / HTTP/1.1") = none := by rw [str_ofList]; decide +kernel
example : expect envT (str "GET relative HTTP/1.1") = none := by rw [str_ofList]; decide +kernel
example : (expect envT (str "GET / HTTP/1.0")).isSome = true := by rw [str_ofList]; decide +kernel

/-- `Content-Length: -1` is reported as −1 although the header is present (why
    `content_length` is not an "iff"); a non-numeral is reported as 0 -/
example : (expect envT (str "GET / HTTP/1.1\r\nContent-Length: -1")).map (·.total) = some (-1) := by
  rw [str_ofList]; decide +kernel
example : (expect envT (str "GET / HTTP/1.1\r\nContent-Length: 1x")).map (·.total) = some 0 := by
  rw [str_ofList]; decide +kernel
example : (expect envT (str "GET / HTTP/1.1\r\nHost: x")).map (·.total) = some (-1) := by
  rw [str_ofList]; decide +kernel

/-- `holds` on concrete runs of the model: an accepted head is announced once with the expected
    fields, a rejected one never -/
def sampleApp : App := (Script.app { onHp := [.snap] })
example : holds envT { app := sampleApp, events := [.new, .feed (sampleHead ++ CRLF2)] }
    (Scenario.run envT { app := sampleApp, events := [.new, .feed (sampleHead ++ CRLF2)] }).log
    = true := by
  rw [show sampleHead = _ from str_ofList _]; decide +kernel
example : holds envT { app := sampleApp, events := [.new, .feed (str "GET / HTTP/1.2\r\n\r\n")] }
    (Scenario.run envT { app := sampleApp,
                         events := [.new, .feed (str "GET / HTTP/1.2\r\n\r\n")] }).log
    = true := by
  rw [str_ofList]; decide +kernel

end Qhttp.C01
