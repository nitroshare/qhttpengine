import Qhttp.Model.Proxy
import Qhttp.Model.Fs
import Qhttp.Model.Http
import Qhttp.Props.C02
import Qhttp.Lemmas.ProxyTarget
import Qhttp.Lemmas.ProxyHead
import Qhttp.Lemmas.ProxyHolds
import Qhttp.Lemmas.ProxyNoLen
import Qhttp.Lemmas.ProxyBad
import Qhttp.Lemmas.ProxyUp
/-
  C12 — the proxy forwards the client's request upstream unaltered in meaning.
-/
namespace Qhttp.C12
open Qhttp Proxy

def upstreamBytes (obs : List Obs) : Bytes :=
  obs.flatMap fun o => match o with | .misc 20 b => b | _ => []

def clientStream (evs : List PEv) : Bytes :=
  evs.flatMap fun e => match e with | .sock (.feed b) => b | .sock (.prebuf b) => b | _ => []

def nTurns (evs : List PEv) : Nat := (evs.filter fun e => match e with | .turn => true | _ => false).length

/-- after the last client segment at least two turns, nobody closes, and the upstream answer, as
    far as sent, is not one the proxy turns into a 502 (`Proxy.upHeadOk`: a complete response head
    that `Parser::parseResponseHeaders` refuses makes `writeError` close the client's socket, and
    with it the request): then the whole body is owed.  In the model one turn suffices
    (`turnTail_of_settled`); the second is margin for traces of the real proxy over loopback,
    where `turn` is a bounded wait (`pump`, harness/fam_proxy.cpp). -/
def settled (evs : List PEv) : Bool :=
  let tail := (evs.reverse.takeWhile fun e => match e with | .sock (.feed _) => false | _ => true)
  (tail.filter fun e => match e with | .turn => true | _ => false).length ≥ 2 &&
  !(evs.any fun e => match e with | .sock .peerClose => true | .upClose => true | _ => false) &&
  upHeadOk evs

def vals (n : Bytes) (hs : List (Bytes × Bytes)) : List Bytes :=
  Http.sortBytes ((hs.filter fun h => lower h.1 == lower n).map (·.2))

/-- one client request; the upstream server accepts the connection and may answer at any time.
    With `c.refuse` nothing is asked.  Head incomplete or rejected: nothing may reach the upstream
    server.  Otherwise what it received, once anything has, is one well-formed HTTP/1.1 request
    followed by the client's body bytes in order; clause by clause below. -/
def holds (env : Env) (c : Cfg) (evs : List PEv) (obs : List Obs) : Bool :=
  if c.refuse then true else
  let stream := clientStream evs
  match C01.headOf stream with
  | none => upstreamBytes obs == []
  | some head =>
    match C01.expect env head with
    | none => upstreamBytes obs == []
    | some f =>
      let u := upstreamBytes obs
      if u.isEmpty then !settled evs else
      match Http.parse u with
      | none => false
      | some m =>
        let entitled : Bytes :=
          match C02.req env stream with
          | some r => C02.entitled r
          | none => (stream.drop (head.length + 4))
        (match splitF [SP] (m.start.length + 1) none m.start with
         | [meth, target, ver] =>
           meth == methodToString f.method && ver == lit ['H','T','T','P','/','1','.','1'] &&
           !containsByte CR target && !containsByte LF target &&
           (let (p, q) := match breakOn [63] target with | some (a, b) => (a, 63 :: b) | none => (target, [])
            Fs.pctDecode p == 47 :: c.path &&
            -- the query denotes what the client sent and is free of SP, CR, LF
            !containsByte SP q && Fs.pctDecode q == Fs.pctDecode (rawQuery f.rawPath))
         | _ => false) &&
        -- every client header with its values (the two proxy headers below)
        f.headers.all (fun e => lower e.1 == lower XFF || lower e.1 == lower XRI ||
                                vals e.1 m.headers == vals e.1 f.headers) &&
        -- X-Forwarded-For: the combined list ends with the client address and keeps the client's entries
        (let combined := (m.headers.filter fun h => lower h.1 == lower XFF).flatMap
                           (fun h => splitF [44, 32] (h.2.length + 1) none h.2)
         combined.getLast? == some c.peerIP &&
         (f.headers.filter fun e => lower e.1 == lower XFF).all fun e =>
            (splitF [44, 32] (e.2.length + 1) none e.2).all fun v => combined.contains v) &&
        (if HeaderMap.contains XRI f.headers then vals XRI m.headers == vals XRI f.headers
         else vals XRI m.headers == [c.peerIP]) &&
        -- the body: in order, nothing else, complete once everything is delivered
        m.body.isPrefixOf entitled && (if settled evs then m.body == entitled else true)

/-! ## Theorems

  Helper lemmas: `Qhttp/Lemmas/Proxy*.lean` (namespace `Qhttp.ProxyL`).  Nothing is assumed of the
  client's header lines: for every head the parser accepts `HdrW` of the header map is a theorem
  (`hdrW_parsed`) — `Parser::parseHeaderList` refuses blank names (such a head is answered 400,
  nothing goes upstream) and lines are cut at CR LF.  The query is re-encoded (`upstreamQuery`),
  not copied: a lone LF or CR passes `Parser::parseHeaders` and `QUrl` and must not reach the
  upstream request line (`lone_LF_is_escaped`). -/

open ProxyL

/-- '%' itself is always escaped in the path part, so decoding inverts encoding there -/
theorem pathKeep_escapes_percent : pathKeep 37 = false := pathKeep_37

/-- `QUrl::fromPercentEncoding ∘ QUrl::toPercentEncoding = id` for every keep-set without '%' -/
theorem decode_encode (keep : UInt8 → Bool) (h : keep 37 = false) (p : Bytes) :
    Fs.pctDecode (pctEncode keep p) = p := pctDecode_pctEncode keep h p

/-- for every keep-set that keeps '%' and the hex digits (the query's), also for a '%' followed by
    a byte that gets escaped -/
theorem decode_reencode (keep : UInt8 → Bool) (h37 : keep 37 = true)
    (hk : ∀ n, n < 256 → (Fs.hexv (UInt8.ofNat n)).isSome = true → keep (UInt8.ofNat n) = true)
    (x : Bytes) : Fs.pctDecode (pctEncode keep x) = Fs.pctDecode x :=
  pctDecode_pctEncode_commute keep h37 hk x

theorem encoder_alphabet (keep : UInt8 → Bool) (p : Bytes) :
    ∀ x ∈ pctEncode keep p, keep x = true ∨ x = 37 ∨ isUpHex x = true := fun _ hx => mem_pctEncode hx

theorem path_part_clean (p : Bytes) :
    SP ∉ (47 :: pctEncode pathKeep p) ∧ CR ∉ (47 :: pctEncode pathKeep p) ∧
    LF ∉ (47 :: pctEncode pathKeep p) ∧ (63 : UInt8) ∉ (47 :: pctEncode pathKeep p) :=
  ⟨not_mem_encPath p (by decide) (by decide) (by decide) (by decide),
   not_mem_encPath p (by decide) (by decide) (by decide) (by decide),
   not_mem_encPath p (by decide) (by decide) (by decide) (by decide),
   not_mem_encPath p (by decide) (by decide) (by decide) (by decide)⟩

/-- the target for every routed path `p` and raw client target `r`: no SP, CR, LF; cut at its first
    '?' it is the encoded path, which decodes to "/" ++ p, and the encoded query, which decodes to
    what the client's raw query decodes to -/
theorem target_clean (p r : Bytes) :
    SP ∉ (47 :: pctEncode pathKeep p ++ upstreamQuery r) ∧
    CR ∉ (47 :: pctEncode pathKeep p ++ upstreamQuery r) ∧
    LF ∉ (47 :: pctEncode pathKeep p ++ upstreamQuery r) ∧
    (match breakOn [63] (47 :: pctEncode pathKeep p ++ upstreamQuery r) with
      | some (a, q) => (a, 63 :: q)
      | none => (47 :: pctEncode pathKeep p ++ upstreamQuery r, [])) =
        (47 :: pctEncode pathKeep p, upstreamQuery r) ∧
    Fs.pctDecode (47 :: pctEncode pathKeep p) = 47 :: p ∧
    SP ∉ upstreamQuery r ∧
    Fs.pctDecode (upstreamQuery r) = Fs.pctDecode (rawQuery r) := by
  obtain ⟨a, b, c⟩ := ProxyL.target_clean p r
  exact ⟨a, b, c, breakOn_target p r, pctDecode_encPath p, SP_not_mem_query r, pctDecode_upstreamQuery r⟩

theorem query_as_sent (r : Bytes) :
    ((63 : UInt8) ∉ r ∧ rawQuery r = []) ∨
    ∃ a q, r = a ++ [63] ++ q ∧ (63 : UInt8) ∉ a ∧ rawQuery r = 63 :: q := rawQuery_cases r

def entryOkB (e : Bytes × Bytes) : Bool :=
  !e.1.isEmpty && !containsByte COLON e.1 && !containsByte CR e.1 && !containsByte CR e.2

theorem entryOkB_iff (e : Bytes × Bytes) : entryOkB e = true ↔ Http.EntryOk e := by
  obtain ⟨k, v⟩ := e
  simp only [entryOkB, Http.EntryOk, Bool.and_eq_true, Bool.not_eq_true', Http.containsByte_eq_false,
    List.isEmpty_eq_false_iff]
  constructor
  · rintro ⟨⟨⟨a, b⟩, c⟩, d⟩; exact ⟨a, b, c, d⟩
  · rintro ⟨a, b, c, d⟩; exact ⟨⟨⟨a, b⟩, c⟩, d⟩

def hdrWfB (h : HeaderMap) : Bool := h.all entryOkB

theorem hdrWfB_iff (h : HeaderMap) : hdrWfB h = true ↔ C03L.HdrWf h := by
  simp only [hdrWfB, List.all_eq_true, entryOkB_iff]; rfl

theorem head_shape (c : Cfg) (s : Sock) :
    upstreamHead c s =
      (methodToString s.method ++ [SP] ++ (47 :: pctEncode pathKeep c.path ++ upstreamQuery s.rawPath) ++
        lit [' ','H','T','T','P','/','1','.','1']) ++ CRLF ++
      Sock.headerLines (fwdHeaders c s.reqHeaders) ++ CRLF := upstreamHead_eq c s

/-- **the upstream head is one well-formed HTTP/1.1 request head**: the strict reader reads back the
    request line (which splits at SP into method token, target, "HTTP/1.1"), the forwarded header
    map and the body.  The eight codes are all `Parser.methodCode` produces (`method_token`). -/
theorem head_wellformed (c : Cfg) (s : Sock) (body : Bytes)
    (hm : s.method ∈ eightCodes) (HdrWf : C03L.HdrWf s.reqHeaders) (hp : CR ∉ c.peerIP) :
    ∃ m, Http.parse (upstreamHead c s ++ body) = some m ∧
      m.headers = fwdHeaders c s.reqHeaders ∧ m.body = body ∧
      splitF [SP] (m.start.length + 1) none m.start =
        [methodToString s.method, 47 :: pctEncode pathKeep c.path ++ upstreamQuery s.rawPath,
         lit ['H','T','T','P','/','1','.','1']] ∧
      Parser.methodCode (methodToString s.method) = some s.method :=
  ⟨_, ProxyL.head_wellformed c s body hm HdrWf hp, rfl, rfl, startLine_split c s hm,
    (methodToString_clean _ hm).2.2⟩

theorem method_token {tok : Bytes} {code : Nat} (h : Parser.methodCode tok = some code) :
    methodToString code = tok ∧ code ∈ eightCodes :=
  ⟨methodToString_of_code h, code_mem_eightCodes h⟩

/-- from any lines, no side condition -/
theorem names_guaranteed {hs : List Bytes} {m : HeaderMap}
    (h : Parser.parseHeaderList hs [] = some m) : ∀ e ∈ m, e.1 ≠ [] ∧ COLON ∉ e.1 :=
  nameOk_of_parseHeaderList h (fun e he => by cases he)

theorem hdrWf_of_lines {hs : List Bytes} {m : HeaderMap}
    (h : Parser.parseHeaderList hs [] = some m) (hl : ∀ l ∈ hs, CR ∉ l) : C03L.HdrWf m :=
  wf_of_parseHeaderList h hl

theorem hdrWf_of_parsed {head : Bytes} {rh : Parser.ReqHead}
    (h : Parser.parseRequestHeaders head = some rh) (hcr : ∀ e ∈ rh.headers, CrFree e) :
    C03L.HdrWf rh.headers := wf_of_parseRequestHeaders h hcr

/-- `head_wellformed` under the weaker `HdrW` (a lone CR is an ordinary byte) -/
theorem head_wellformed_general (c : Cfg) (s : Sock) (body : Bytes)
    (hm : s.method ∈ eightCodes) (hw : HdrW s.reqHeaders) (hp : CR ∉ c.peerIP) :
    ∃ m, Http.parse (upstreamHead c s ++ body) = some m ∧
      m.headers = fwdHeaders c s.reqHeaders ∧ m.body = body ∧
      splitF [SP] (m.start.length + 1) none m.start =
        [methodToString s.method, 47 :: pctEncode pathKeep c.path ++ upstreamQuery s.rawPath,
         lit ['H','T','T','P','/','1','.','1']] ∧
      Parser.methodCode (methodToString s.method) = some s.method :=
  ⟨_, ProxyL.head_wellformed_w c s body hm hw hp, rfl, rfl, startLine_split c s hm,
    (methodToString_clean _ hm).2.2⟩

theorem hdrW_parsed {head : Bytes} {rh : Parser.ReqHead}
    (h : Parser.parseRequestHeaders head = some rh) : HdrW rh.headers :=
  hdrW_of_parseRequestHeaders h

/-- for every head the parser accepts; the only hypothesis is on the configuration.  The
    request-line conjuncts of `head_wellformed_general` hold as well and are left out. -/
theorem head_wellformed_parsed (c : Cfg) (head : Bytes) (rh : Parser.ReqHead) (body : Bytes)
    (h : Parser.parseRequestHeaders head = some rh) (hp : CR ∉ c.peerIP) :
    ∃ m, Http.parse (upstreamHead c (reqSock rh) ++ body) = some m ∧
      m.headers = fwdHeaders c rh.headers ∧ m.body = body :=
  have hm : rh.method ∈ eightCodes := by
    obtain ⟨_, _, _, _, hm⟩ := (Parser.parseRequestHeaders_eq_some_iff head [] rh).mp h
    exact code_mem_eightCodes hm
  ⟨_, ProxyL.head_wellformed_w c (reqSock rh) body hm (hdrW_of_parseRequestHeaders h) hp, rfl, rfl⟩

theorem headers_forwarded (c : Cfg) (h : HeaderMap) (k : Bytes)
    (h1 : lower k ≠ lower XFF) (h2 : lower k ≠ lower XRI) :
    HeaderMap.values k (fwdHeaders c h) = HeaderMap.values k h := by
  apply ProxyL.headers_forwarded
  · cases hk : HeaderMap.keyEq XFF k
    · rfl
    · exact absurd (HeaderMap.keyEq_iff.mp hk).symm h1
  · cases hk : HeaderMap.keyEq XRI k
    · rfl
    · exact absurd (HeaderMap.keyEq_iff.mp hk).symm h2

/-- `values` lists the most recent first, hence the `reverse` -/
theorem xff_ends_with_peer (c : Cfg) (h : HeaderMap) :
    HeaderMap.values XFF (fwdHeaders c h) =
      [((HeaderMap.values XFF h).reverse.flatMap fun v => v ++ [44, 32]) ++ c.peerIP] :=
  ProxyL.xff_ends_with_peer c h

theorem xri (c : Cfg) (h : HeaderMap) :
    HeaderMap.values XRI (fwdHeaders c h) =
      if HeaderMap.contains XRI h then HeaderMap.values XRI h else [c.peerIP] := ProxyL.xri c h

/-! ### non-vacuity, and the inputs that showed the two defects (empty header name, lone LF) -/

section examples

def exSock : Sock :=
  { method := 8, rawPath := lit ['/','p','/','x','%','2','0','y','?','q','=','1',' ','&','u','=','%','\n','?','b'],
    reqHeaders := [(lit ['H','o','s','t'], lit ['h']),
                   (lit ['X','-','F','o','r','w','a','r','d','e','d','-','F','o','r'], lit ['8','.','8','.','8','.','8']),
                   (lit ['x','-','f','o','r','w','a','r','d','e','d','-','f','o','r'], lit ['9','.','9','.','9','.','9'])] }

/-- a routed path with space, CR, LF, '?', '%' and a non-ASCII byte -/
def exCfg : Cfg := { path := [120, 32, 121, 13, 10, 63, 37, 195, 169] }

example : exSock.method ∈ eightCodes ∧ hdrWfB exSock.reqHeaders = true ∧ CR ∉ exCfg.peerIP := by decide +kernel

example : (47 :: pctEncode pathKeep exCfg.path) =
    lit ['/','x','%','2','0','y','%','0','D','%','0','A','%','3','F','%','2','5','%','C','3','%','A','9'] := by
  decide +kernel

example : upstreamQuery exSock.rawPath =
    lit ['?','q','=','1','%','2','0','&','u','=','%','%','0','A','?','b'] := by decide +kernel

example : HeaderMap.values XFF (fwdHeaders exCfg exSock.reqHeaders) =
    [lit ['9','.','9','.','9','.','9',',',' ','8','.','8','.','8','.','8',',',' ','1','0','.','1','.','2','.','3']] := by
  decide +kernel

example : (Http.parse (upstreamHead exCfg exSock ++ [1, 2, 3])).map (·.body) = some [1, 2, 3] := by
  decide +kernel

/-- accepted by `Parser.parseRequestHeaders` (and by `QUrl`); the LF is escaped in the upstream target -/
theorem lone_LF_is_escaped :
    let first : Bytes := lit ['G','E','T',' ','/','a','?','x','\n','I','n','j','e','c','t','e','d',':','y',' ','H','T','T','P','/','1','.','1']
    let raw : Bytes := lit ['/','a','?','x','\n','I','n','j','e','c','t','e','d',':','y']
    (Parser.parseRequestHeaders first).map (·.rawPath) = some raw ∧ LF ∈ rawQuery raw ∧
    upstreamQuery raw = lit ['?','x','%','0','A','I','n','j','e','c','t','e','d',':','y'] := by
  decide +kernel

def crFreeB (h : HeaderMap) : Bool := h.all fun e => !containsByte CR e.1 && !containsByte CR e.2

theorem crFreeB_iff (h : HeaderMap) : crFreeB h = true ↔ ∀ e ∈ h, CrFree e := by
  simp only [crFreeB, List.all_eq_true, Bool.and_eq_true, Bool.not_eq_true',
    Http.containsByte_eq_false]
  rfl

/-- forwarded as `": v"` such a line would be refused by any HTTP reader; the parser refuses the
    head: empty name, blank name, and after good lines -/
theorem empty_name_rejected :
    Parser.parseRequestHeaders (lit ['G','E','T',' ','/','a',' ','H','T','T','P','/','1','.','1','\r','\n',':',' ','v']) = none ∧
    Parser.parseRequestHeaders (lit ['G','E','T',' ','/','a',' ','H','T','T','P','/','1','.','1','\r','\n',' ','\t',':','v']) = none ∧
    Parser.parseRequestHeaders (lit ['G','E','T',' ','/','a',' ','H','T','T','P','/','1','.','1','\r','\n','A',':','b','\r','\n',':',' ','v']) = none := by
  decide +kernel

theorem blank_name_refused (pre post : List Bytes) (n x : Bytes) (m0 : HeaderMap)
    (hn : COLON ∉ n) (hb : Parser.Blank n) :
    Parser.parseHeaderList (pre ++ (n ++ [COLON] ++ x) :: post) m0 = none := by
  rw [Parser.parseHeaderList_eq, if_neg]
  intro h
  have := h (n ++ [COLON] ++ x) (by simp)
  rw [Parser.hdrLineB_iff] at this
  obtain ⟨n', x', e, hn', hc⟩ := this
  have a := breakOn_singleton x hn
  have b := breakOn_singleton x' hn'
  rw [e, b] at a
  simp only [Option.some.injEq, Prod.mk.injEq] at a
  rw [a.1] at hc
  exact (Parser.not_blank_iff n).2 hc hb

end examples

/-! ### the relay invariant and the executable predicate on whole runs

  `holds_run`, `holds_run_all` and `body_in_order` rest on `ProxyL.run_final_up` (`ProxyUp.lean`: the
  upstream server answers at any time).  The theorems about a silent upstream server
  (`relayShape0`; `ProxyL.run_final`, `run_final_gen`, `run_bad`, `holds_of_final0`,
  `ends_with_turn`) are its special case, stated for their own sake. -/

/-- `new`, then client segments, turns and writes of the upstream server in any order: it may answer
    before the client has finished (`100 Continue`, early final response, streaming), in any number
    of pieces, with a head the proxy relays or refuses; nobody closes -/
def relayShape : List PEv → Bool
  | .sock .new :: rest =>
    rest.all fun e => match e with | .sock (.feed _) => true | .turn => true | .up _ => true | _ => false
  | _ => false

/-- the shape in which the upstream server only listens -/
def relayShape0 : List PEv → Bool
  | .sock .new :: rest => rest.all fun e => match e with | .sock (.feed _) => true | .turn => true | _ => false
  | _ => false

theorem relayShape_of_relayShape0 {evs : List PEv} (h : relayShape0 evs = true) : relayShape evs = true := by
  unfold relayShape0 at h
  unfold relayShape
  split at h
  · rename_i rest
    simp only [List.all_eq_true] at h ⊢
    intro e he
    have := h e he
    revert this
    cases e with
    | sock ev => cases ev <;> simp
    | turn => simp
    | up b => simp
    | upClose => simp
  · cases h

theorem relayPEvU_of_shape {evs : List PEv} (h : relayShape evs = true) : ∀ e ∈ evs, relayPEvU e = true := by
  unfold relayShape at h
  split at h
  · rename_i rest
    intro e he
    rcases List.mem_cons.mp he with rfl | he
    · rfl
    · have := List.all_eq_true.mp h e he
      revert this
      cases e with
      | sock ev => cases ev <;> simp [relayPEvU, relayPEv]
      | turn => simp [relayPEvU, relayPEv]
      | up b => simp [relayPEvU]
      | upClose => simp
  · cases h

theorem relayPEv_of_shape {evs : List PEv} (h : relayShape0 evs = true) : ∀ e ∈ evs, relayPEv e = true := by
  unfold relayShape0 at h
  split at h
  · rename_i rest
    intro e he
    rcases List.mem_cons.mp he with rfl | he
    · rfl
    · have := List.all_eq_true.mp h e he
      revert this
      cases e with
      | sock ev => cases ev <;> simp [relayPEv]
      | turn => simp [relayPEv]
      | up b => simp
      | upClose => simp
  · cases h

theorem shape_cases {evs : List PEv} (h : relayShape evs = true) :
    ∃ rest, evs = .sock .new :: rest ∧
      rest.all (fun e => match e with | .sock (.feed _) => true | .turn => true | .up _ => true | _ => false) = true := by
  unfold relayShape at h
  split at h
  · exact ⟨_, rfl, h⟩
  · cases h

theorem clientStream_eq (evs : List PEv) : clientStream evs = fedP evs := by
  unfold clientStream fedP Scenario.fed
  rw [List.flatMap_map]
  congr 1
  funext e
  cases e with
  | sock ev => cases ev <;> rfl
  | turn => rfl
  | up b => rfl
  | upClose => rfl

theorem exists_first {α} (p q : α → Bool) : ∀ (r : List α), ((r.takeWhile q).filter p).length ≥ 1 →
    ∃ a x b, r = a ++ x :: b ∧ p x = true ∧ ∀ y ∈ a, q y = true ∧ p y = false := by
  intro r
  induction r with
  | nil => intro h; simp at h
  | cons y r ih =>
    intro h
    rw [List.takeWhile_cons] at h
    cases hq : q y with
    | false => rw [hq] at h; simp at h
    | true =>
      rw [hq] at h
      simp only [if_true, List.filter_cons] at h
      cases hp : p y with
      | true => exact ⟨[], y, r, rfl, hp, fun _ h' => by cases h'⟩
      | false =>
        rw [hp] at h
        simp only [Bool.false_eq_true, if_false] at h
        obtain ⟨a, x, b, e, px, ha⟩ := ih h
        refine ⟨y :: a, x, b, by rw [e]; rfl, px, fun z hz => ?_⟩
        rcases List.mem_cons.mp hz with rfl | hz
        · exact ⟨hq, hp⟩
        · exact ha z hz

theorem settled_upHeadOk {evs : List PEv} (h : settled evs = true) : upHeadOk evs = true := by
  unfold settled at h
  simp only [Bool.and_eq_true] at h
  exact h.2

/-- a turn has run after the last client segment; after the last turn only the upstream server writes -/
theorem turnTail_of_settled {evs : List PEv} (hs : relayShape evs = true) (h : settled evs = true) :
    TurnTail evs := by
  unfold settled at h
  simp only [Bool.and_eq_true, decide_eq_true_eq] at h
  have h1 : ((evs.reverse.takeWhile fun e => match e with | .sock (.feed _) => false | _ => true).filter
      fun e => match e with | .turn => true | _ => false).length ≥ 1 := by
    have := h.1.1
    omega
  obtain ⟨a, x, b, e, px, ha⟩ := exists_first _ _ _ h1
  have hevs : evs = b.reverse ++ x :: a.reverse := by
    have := congrArg List.reverse e
    simpa using this
  have hx : x = PEv.turn := by
    cases x with
    | turn => rfl
    | sock ev => simp at px
    | up b => simp at px
    | upClose => simp at px
  subst hx
  refine ⟨b.reverse, a.reverse, hevs, fun y hy => ?_⟩
  obtain ⟨q1, q2⟩ := ha y (List.mem_reverse.mp hy)
  obtain ⟨rest, heq, hall⟩ := shape_cases hs
  have hyr : y ∈ rest := by
    rw [heq] at hevs
    cases hb : b.reverse with
    | nil => rw [hb] at hevs; simp at hevs
    | cons z bs =>
      rw [hb] at hevs
      simp only [List.cons_append, List.cons.injEq] at hevs
      rw [hevs.2]; simp [hy]
  have := List.all_eq_true.mp hall y hyr
  revert this q1 q2
  cases y with
  | sock ev => cases ev <;> simp
  | turn => simp
  | up b => intro _ _ _; exact ⟨b, rfl⟩
  | upClose => simp

theorem turnTail_shape0 {evs : List PEv} (hs : relayShape0 evs = true) (h : TurnTail evs) :
    ∃ pre, evs = pre ++ [PEv.turn] := by
  obtain ⟨pre, post, hpe, hall⟩ := h
  cases post with
  | nil => exact ⟨pre, hpe⟩
  | cons y post =>
    obtain ⟨b, rfl⟩ := hall y (by simp)
    have := relayPEv_of_shape hs (.up b) (by rw [hpe]; simp)
    simp [relayPEv] at this

theorem ends_with_turn {evs : List PEv} (hs : relayShape0 evs = true) (h : settled evs = true) :
    ∃ pre, evs = pre ++ [PEv.turn] :=
  turnTail_shape0 hs (turnTail_of_settled (relayShape_of_relayShape0 hs) h)

theorem req_parsed {env : Env} {stream : Bytes} {r : C02.Req} (h : C02.req env stream = some r) :
    ∃ head rh f, breakOn CRLF2 stream = some (head, r.rest) ∧ C01.expect env head = some f ∧
      Parsed env head r.n rh ∧ f.method = rh.method ∧ f.rawPath = rh.rawPath ∧ f.headers = rh.headers := by
  unfold C02.req at h
  split at h
  · cases h
  · rename_i head rest hb
    split at h
    · cases h
    · rename_i f hf
      split at h
      · cases h
      · rename_i hneg
        simp only [Option.some.injEq] at h
        subst h
        have hf0 := hf
        unfold C01.expect at hf
        split at hf
        · cases hf
        · rename_i rh hp
          split at hf
          · cases hf
          · rename_i p q hu
            simp only [Option.some.injEq] at hf
            subst hf
            simp only at hneg
            refine ⟨head, rh, _, hb, hf0, ⟨hp, ⟨p, q, hu⟩, ?_, ?_⟩, rfl, rfl, rfl⟩
            · by_cases hc : HeaderMap.contains Sock.CONTENT_LENGTH rh.headers = true
              · exact hc
              · simp [hc] at hneg
            · by_cases hc : HeaderMap.contains Sock.CONTENT_LENGTH rh.headers = true
              · simp only [hc, if_true] at hneg ⊢
                show toLongLong (HeaderMap.value Sock.CONTENT_LENGTH rh.headers) = _
                omega
              · simp [hc] at hneg

theorem method_mem_of_parse {head : Bytes} {rh : Parser.ReqHead}
    (h : Parser.parseRequestHeaders head [] = some rh) : rh.method ∈ eightCodes := by
  obtain ⟨p0, p2, _, _, hm⟩ := (Parser.parseRequestHeaders_eq_some_iff head [] rh).mp h
  exact code_mem_eightCodes hm

theorem holds_of_clauses' (env : Env) (c : Cfg) (evs : List PEv) (obs : List Obs)
    (head : Bytes) (f : Snap) (m : Http.Msg) (meth tgt ver : Bytes) (ent : Bytes)
    (hc : c.refuse = false)
    (h1 : C01.headOf (clientStream evs) = some head) (h2 : C01.expect env head = some f)
    (h3 : (upstreamBytes obs).isEmpty = false) (h4 : Http.parse (upstreamBytes obs) = some m)
    (ro : Option C02.Req) (hreq : C02.req env (clientStream evs) = ro)
    (hent : (match ro with
             | some r => C02.entitled r
             | none => (clientStream evs).drop (head.length + 4)) = ent)
    (h5 : splitF [SP] (m.start.length + 1) none m.start = [meth, tgt, ver])
    (ha : (meth == methodToString f.method && ver == lit ['H','T','T','P','/','1','.','1'] &&
           !containsByte CR tgt && !containsByte LF tgt &&
           (let (p, q) := match breakOn [63] tgt with | some (a, b) => (a, 63 :: b) | none => (tgt, [])
            Fs.pctDecode p == 47 :: c.path &&
            !containsByte SP q && Fs.pctDecode q == Fs.pctDecode (rawQuery f.rawPath))) = true)
    (hb : f.headers.all (fun e => lower e.1 == lower XFF || lower e.1 == lower XRI ||
                                vals e.1 m.headers == vals e.1 f.headers) = true)
    (hx : (let combined := (m.headers.filter fun h => lower h.1 == lower XFF).flatMap
                           (fun h => splitF [44, 32] (h.2.length + 1) none h.2)
           combined.getLast? == some c.peerIP &&
           (f.headers.filter fun e => lower e.1 == lower XFF).all fun e =>
              (splitF [44, 32] (e.2.length + 1) none e.2).all fun v => combined.contains v) = true)
    (hr : (if HeaderMap.contains XRI f.headers then vals XRI m.headers == vals XRI f.headers
           else vals XRI m.headers == [c.peerIP]) = true)
    (hbody : (m.body.isPrefixOf ent && (if settled evs then m.body == ent else true)) = true) :
    holds env c evs obs = true := by
  unfold holds
  simp only [hc, Bool.false_eq_true, if_false, h1, h2, h3, h4, h5, hreq]
  cases ro with
  | none =>
    simp only [] at hent
    subst hent
    simp only [Bool.and_eq_true] at ha hb hx hr hbody ⊢
    exact ⟨⟨⟨⟨⟨ha, hb⟩, hx⟩, hr⟩, hbody.1⟩, hbody.2⟩
  | some r =>
    simp only [] at hent
    subst hent
    simp only [Bool.and_eq_true] at ha hb hx hr hbody ⊢
    exact ⟨⟨⟨⟨⟨ha, hb⟩, hx⟩, hr⟩, hbody.1⟩, hbody.2⟩

theorem holds_of_clauses (env : Env) (c : Cfg) (evs : List PEv) (obs : List Obs)
    (head : Bytes) (f : Snap) (m : Http.Msg) (meth tgt ver : Bytes) (ent : Bytes)
    (hc : c.refuse = false)
    (h1 : C01.headOf (clientStream evs) = some head) (h2 : C01.expect env head = some f)
    (h3 : (upstreamBytes obs).isEmpty = false) (h4 : Http.parse (upstreamBytes obs) = some m)
    (r : C02.Req) (hreq : C02.req env (clientStream evs) = some r) (hent : C02.entitled r = ent)
    (h5 : splitF [SP] (m.start.length + 1) none m.start = [meth, tgt, ver])
    (ha : (meth == methodToString f.method && ver == lit ['H','T','T','P','/','1','.','1'] &&
           !containsByte CR tgt && !containsByte LF tgt &&
           (let (p, q) := match breakOn [63] tgt with | some (a, b) => (a, 63 :: b) | none => (tgt, [])
            Fs.pctDecode p == 47 :: c.path &&
            !containsByte SP q && Fs.pctDecode q == Fs.pctDecode (rawQuery f.rawPath))) = true)
    (hb : f.headers.all (fun e => lower e.1 == lower XFF || lower e.1 == lower XRI ||
                                vals e.1 m.headers == vals e.1 f.headers) = true)
    (hx : (let combined := (m.headers.filter fun h => lower h.1 == lower XFF).flatMap
                           (fun h => splitF [44, 32] (h.2.length + 1) none h.2)
           combined.getLast? == some c.peerIP &&
           (f.headers.filter fun e => lower e.1 == lower XFF).all fun e =>
              (splitF [44, 32] (e.2.length + 1) none e.2).all fun v => combined.contains v) = true)
    (hr : (if HeaderMap.contains XRI f.headers then vals XRI m.headers == vals XRI f.headers
           else vals XRI m.headers == [c.peerIP]) = true)
    (hbody : (m.body.isPrefixOf ent && (if settled evs then m.body == ent else true)) = true) :
    holds env c evs obs = true :=
  holds_of_clauses' env c evs obs head f m meth tgt ver ent hc h1 h2 h3 h4 (some r) hreq hent h5 ha hb hx hr hbody

theorem holds_of_final (env : Env) (c : Cfg) (evs : List PEv) (obs : List Obs)
    (hshape : relayShape evs = true) (hc : c.refuse = false)
    (head : Bytes) (f : Snap) (rh : Parser.ReqHead)
    (hhead : C01.headOf (clientStream evs) = some head) (hexp : C01.expect env head = some f)
    (f1 : f.method = rh.method) (f2 : f.rawPath = rh.rawPath) (f3 : f.headers = rh.headers)
    (hm : rh.method ∈ eightCodes) (hwf : HdrW rh.headers)
    (hcr : CR ∉ c.peerIP) (hcomma : (44 : UInt8) ∉ c.peerIP)
    (ro : Option C02.Req) (hreq : C02.req env (clientStream evs) = ro) (ent : Bytes)
    (hent : (match ro with
             | some r => C02.entitled r
             | none => (clientStream evs).drop (head.length + 4)) = ent)
    (hfinal : (upBytes obs = [] ∧ ¬ TurnTail evs) ∨
      ∃ d, upBytes obs = upstreamHead c (reqSock rh) ++ d ∧ d <+: ent ∧
        (TurnTail evs → upHeadOk evs = true → d = ent)) :
    holds env c evs obs = true := by
  rcases hfinal with ⟨hu, hnt⟩ | ⟨d, hu, hpre, hfull⟩
  · have hu' : upstreamBytes obs = [] := hu
    have hns : settled evs = false := by
      cases hs : settled evs with
      | false => rfl
      | true => exact absurd (turnTail_of_settled hshape hs) hnt
    unfold holds
    simp [hc, hhead, hexp, hu', hns]
  · have hu' : upstreamBytes obs = upstreamHead c (reqSock rh) ++ d := hu
    have hparse := ProxyL.head_wellformed_w c (reqSock rh) d hm hwf hcr
    rw [← hu'] at hparse
    have hne : (upstreamBytes obs).isEmpty = false := by
      rw [hu']
      cases hh : upstreamHead c (reqSock rh) with
      | nil => exact absurd hh (upstreamHead_ne_nil c _)
      | cons x xs => rfl
    refine holds_of_clauses' env c evs _ head f _ _ _ _ ent hc hhead hexp hne hparse ro hreq hent
      (startLine_split c (reqSock rh) hm) ?_ ?_ ?_ ?_ ?_
    · have hct := clause_target c rh.rawPath
      have e1 : (methodToString (reqSock rh).method == methodToString f.method) = true := by
        rw [f1]; simp [reqSock]
      have e2 : (Parser.HTTP11 == lit ['H','T','T','P','/','1','.','1']) = true := by decide
      simp only [Bool.and_eq_true] at hct ⊢
      rw [f2]
      exact ⟨⟨⟨⟨e1, e2⟩, hct.1.1⟩, hct.1.2⟩, hct.2⟩
    · have := clause_headers c rh.headers
      rw [f3]; exact this
    · have := clause_xff c rh.headers hcomma
      rw [f3]; exact this
    · have := clause_xri c rh.headers
      rw [f3]; exact this
    · show (d.isPrefixOf ent && (if settled evs then d == ent else true)) = true
      rw [Bool.and_eq_true]
      refine ⟨List.isPrefixOf_iff_prefix.mpr hpre, ?_⟩
      split
      · rename_i hs
        rw [hfull (turnTail_of_settled hshape hs) (settled_upHeadOk hs)]; simp
      · rfl

theorem holds_of_final0 (env : Env) (c : Cfg) (evs : List PEv) (obs : List Obs)
    (hshape : relayShape0 evs = true) (hc : c.refuse = false)
    (head : Bytes) (f : Snap) (rh : Parser.ReqHead)
    (hhead : C01.headOf (clientStream evs) = some head) (hexp : C01.expect env head = some f)
    (f1 : f.method = rh.method) (f2 : f.rawPath = rh.rawPath) (f3 : f.headers = rh.headers)
    (hm : rh.method ∈ eightCodes) (hwf : HdrW rh.headers)
    (hcr : CR ∉ c.peerIP) (hcomma : (44 : UInt8) ∉ c.peerIP)
    (ro : Option C02.Req) (hreq : C02.req env (clientStream evs) = ro) (ent : Bytes)
    (hent : (match ro with
             | some r => C02.entitled r
             | none => (clientStream evs).drop (head.length + 4)) = ent)
    (hfinal : (upBytes obs = [] ∧ ¬ ∃ pre, evs = pre ++ [PEv.turn]) ∨
      ∃ d, upBytes obs = upstreamHead c (reqSock rh) ++ d ∧ d <+: ent ∧
        ((∃ pre, evs = pre ++ [PEv.turn]) → d = ent)) :
    holds env c evs obs = true := by
  refine holds_of_final env c evs obs (relayShape_of_relayShape0 hshape) hc head f rh hhead hexp f1 f2 f3 hm hwf
    hcr hcomma ro hreq ent hent ?_
  rcases hfinal with ⟨hu, hnt⟩ | ⟨d, hu, hpre, hfull⟩
  · exact Or.inl ⟨hu, fun h => hnt (turnTail_shape0 hshape h)⟩
  · exact Or.inr ⟨d, hu, hpre, fun h _ => hfull (turnTail_shape0 hshape h)⟩

/-- **C12, main theorem.** For every environment (`QUrl` oracle, error pages), configuration (routed
    path: any bytes; with `refuse` the predicate asks nothing) and event list
    `new (feed seg | turn | up bytes)*` — every segmentation of the client's stream, every position
    of the turn at which the upstream connection completes, every timing and chunking of the
    upstream answer, relayed or turned into a 502 — whose stream is an accepted request with a
    declared body length (`C02.req`), the predicate the driver evaluates on traces of the real proxy
    holds on the model's run.  In particular (`settled`) the upstream server ends up with the whole
    body unless its answer was a head `Parser::parseResponseHeaders` refuses.
    Hypothesis: a peer address text without CR and ',' (`holds` splits X-Forwarded-For at ", " and
    wants the address last).  A negative declared length other than -1 is excluded in
    `holds_run_all` because the property is false for it: the socket treats the request as finished
    and drops later body bytes (`new feed:<… Content-Length: -5 …> turn feed:616263 turn turn`;
    model = library, `holds` false on both). -/
theorem holds_run (env : Env) (c : Cfg) (evs : List PEv) (hshape : relayShape evs = true)
    (r : C02.Req) (hreq : C02.req env (clientStream evs) = some r)
    (hcr : CR ∉ c.peerIP) (hcomma : (44 : UInt8) ∉ c.peerIP) :
    holds env c evs (Proxy.run env c evs).sock.log = true := by
  by_cases hc : c.refuse = true
  · unfold holds; simp [hc]
  have hc' : c.refuse = false := by simpa using hc
  obtain ⟨head, rh, f, hfin, hexp, hp, f1, f2, f3⟩ := req_parsed hreq
  have hfin' : breakOn CRLF2 (fedP evs) = some (head, r.rest) := by rw [← clientStream_eq]; exact hfin
  have hhead : C01.headOf (clientStream evs) = some head := by unfold C01.headOf; rw [hfin]; rfl
  have hI := sockI_len env (evs.map proj) hp (fedP evs) r.rest hfin'
  have hU := sockU_len (evs.map proj) head r.n rh
  have hfinal := run_final_up hI hU c hc' (relayPEvU_of_shape hshape)
  exact holds_of_final env c evs _ hshape hc' head f rh hhead hexp f1 f2 f3
    (method_mem_of_parse hp.parse) (hdrW_of_parseRequestHeaders hp.parse)
    hcr hcomma (some r) hreq (r.rest.take r.n) rfl hfinal

/-- **the relay invariant** at every point of every such run, wherever the connecting turn falls and
    whatever the upstream server has answered: what reached the upstream server after the head,
    then what is in flight, then what is buffered, is what the socket has handed out
    (`Obs.reads`), a prefix of the entitled body.  Before routing nothing is relayed; the
    connection is never given up. -/
theorem body_in_order (env : Env) (c : Cfg) (hc : c.refuse = false) (evs : List PEv)
    (hshape : relayShape evs = true) (r : C02.Req) (hreq : C02.req env (clientStream evs) = some r)
    (pre post : List PEv) (hevs : evs = pre ++ post) :
    ∃ head rh, C01.headOf (clientStream evs) = some head ∧ Parser.parseRequestHeaders head = some rh ∧
      (Proxy.run env c pre).conn ≠ .closed ∧
      ((Proxy.run env c pre).conn = .none →
        upstreamBytes (Proxy.run env c pre).sock.log = [] ∧ (Proxy.run env c pre).buf = [] ∧
        (Proxy.run env c pre).toUp = [] ∧ Obs.reads (Proxy.run env c pre).sock.log = []) ∧
      ((Proxy.run env c pre).conn = .connecting →
        upstreamBytes (Proxy.run env c pre).sock.log = [] ∧ (Proxy.run env c pre).toUp = [] ∧
        (Proxy.run env c pre).buf = Obs.reads (Proxy.run env c pre).sock.log) ∧
      ((Proxy.run env c pre).conn = .connected →
        (Proxy.run env c pre).buf = [] ∧
        ∃ d, upstreamBytes (Proxy.run env c pre).sock.log =
               upstreamHead c { method := rh.method, rawPath := rh.rawPath, reqHeaders := rh.headers } ++ d ∧
             d ++ (Proxy.run env c pre).toUp = Obs.reads (Proxy.run env c pre).sock.log) ∧
      Obs.reads (Proxy.run env c pre).sock.log <+: C02.entitled r := by
  obtain ⟨head, rh, f, hfin, hexp, hp, _, _, _⟩ := req_parsed hreq
  have hfin' : breakOn CRLF2 (fedP evs) = some (head, r.rest) := by rw [← clientStream_eq]; exact hfin
  have hhead : C01.headOf (clientStream evs) = some head := by unfold C01.headOf; rw [hfin]; rfl
  have hI := sockI_len env (evs.map proj) hp (fedP evs) r.rest hfin'
  have hU := sockU_len (evs.map proj) head r.n rh
  have hPU := prun_up hI hU c hc pre post hevs
    (fun e he => relayPEvU_of_shape hshape e (by rw [hevs]; simp [he]))
  have hpre : fedP pre <+: fedP evs := by rw [hevs, fedP_append]; exact List.prefix_append _ _
  rcases hPU with ha | hd
  · obtain ⟨hR, hP, _, _, _⟩ := ha
    refine ⟨head, rh, hhead, hp.parse, hP.notClosed, fun h => ?_, fun h => ?_, fun h => ?_, hI.readsPre hR hpre⟩
    · obtain ⟨a, b, _, d⟩ := hP.none_ h
      exact ⟨d, a, b, rinv_reads_nil hR.1 (hP.connNone.mp h)⟩
    · obtain ⟨a, _, b2, b3⟩ := hP.connecting h
      exact ⟨b2, a, b3⟩
    · obtain ⟨a, _, d, e1, e2⟩ := hP.connected h
      exact ⟨a, d, e1, e2⟩
  · refine ⟨head, rh, hhead, hp.parse, by rw [hd.conn]; simp, fun h => ?_, fun h => ?_,
      fun _ => ⟨hd.buf, hd.up⟩, hd.pre⟩
    · rw [hd.conn] at h; cases h
    · rw [hd.conn] at h; cases h

theorem expect_parsedN {env : Env} {head : Bytes} {f : Snap} (h : C01.expect env head = some f)
    (ht : f.total = -1) :
    ∃ rh, ParsedN env head rh ∧ f.method = rh.method ∧ f.rawPath = rh.rawPath ∧ f.headers = rh.headers := by
  unfold C01.expect at h
  split at h
  · cases h
  · rename_i rh hp
    split at h
    · cases h
    · rename_i p q hu
      simp only [Option.some.injEq] at h
      subst h
      exact ⟨rh, ⟨hp, ⟨p, q, hu⟩, ht⟩, rfl, rfl, rfl⟩

theorem req_none_of_neg {env : Env} {stream head rest : Bytes} {f : Snap}
    (hb : breakOn CRLF2 stream = some (head, rest)) (h : C01.expect env head = some f) (ht : f.total < 0) :
    C02.req env stream = none := by
  unfold C02.req
  simp only [hb, h, ht, if_true]

theorem req_some_of_nonneg {env : Env} {stream head rest : Bytes} {f : Snap}
    (hb : breakOn CRLF2 stream = some (head, rest)) (h : C01.expect env head = some f) (ht : 0 ≤ f.total) :
    ∃ r, C02.req env stream = some r := by
  unfold C02.req
  simp only [hb, h, if_neg (by omega : ¬ f.total < 0)]
  exact ⟨_, rfl⟩

/-- **C12, all streams.** Whatever the client's byte stream is — head never complete, rejected,
    accepted with or without a declared length — the predicate holds on the model's run, provided
    an accepted head declares no negative length other than -1 (see `holds_run`) and the peer
    address has no CR and no ','.  Heads with an empty or blank header name fall under "rejected". -/
theorem holds_run_all (env : Env) (c : Cfg) (evs : List PEv) (hshape : relayShape evs = true)
    (hclean : ∀ head f, C01.headOf (clientStream evs) = some head → C01.expect env head = some f →
      -1 ≤ f.total)
    (hcr : CR ∉ c.peerIP) (hcomma : (44 : UInt8) ∉ c.peerIP) :
    holds env c evs (Proxy.run env c evs).sock.log = true := by
  by_cases hc : c.refuse = true
  · unfold holds; simp [hc]
  have hc' : c.refuse = false := by simpa using hc
  have hok := relayPEvU_of_shape hshape
  cases hbk : breakOn CRLF2 (clientStream evs) with
  | none =>
    -- the head never completes
    have hbad : BadStream env (fedP evs) := by
      intro head rest h; rw [← clientStream_eq, hbk] at h; cases h
    have hu : upstreamBytes (Proxy.run env c evs).sock.log = [] := run_bad_up env c evs hbad hok
    unfold holds
    simp [hc', C01.headOf, hbk, hu]
  | some pr =>
    obtain ⟨head, restF⟩ := pr
    have hhead : C01.headOf (clientStream evs) = some head := by unfold C01.headOf; rw [hbk]; rfl
    have hfin' : breakOn CRLF2 (fedP evs) = some (head, restF) := by rw [← clientStream_eq]; exact hbk
    cases hexp : C01.expect env head with
    | none =>
      have hbad : BadStream env (fedP evs) := by
        intro head' rest h
        rw [hfin'] at h
        simp only [Option.some.injEq, Prod.mk.injEq] at h
        rw [← h.1]; exact hexp
      have hu : upstreamBytes (Proxy.run env c evs).sock.log = [] := run_bad_up env c evs hbad hok
      unfold holds
      simp [hc', hhead, hexp, hu]
    | some f =>
      have htot := hclean head f hhead hexp
      by_cases hneg : f.total < 0
      · -- no declared length
        have ht : f.total = -1 := by omega
        obtain ⟨rh, hp, f1, f2, f3⟩ := expect_parsedN hexp ht
        have hreq := req_none_of_neg hbk hexp hneg
        have hI := sockI_nolen env (evs.map proj) hp (fedP evs) restF hfin'
        have hfinal := run_final_up hI (sockU_nolen (evs.map proj) head rh) c hc' hok
        have hdrop : (clientStream evs).drop (head.length + 4) = restF := by
          rw [Qhttp.breakOn_some hbk]
          apply List.drop_left'
          simp [C02.CRLF2_length]
        exact holds_of_final env c evs _ hshape hc' head f rh hhead hexp f1 f2 f3
          (method_mem_of_parse hp.parse) (hdrW_of_parseRequestHeaders hp.parse)
          hcr hcomma none hreq restF hdrop hfinal
      · obtain ⟨r, hreq⟩ := req_some_of_nonneg hbk hexp (by omega)
        exact holds_run env c evs hshape r hreq hcr hcomma

/-! ### non-vacuity: a POST whose head, blank line and 3-byte body are cut across three segments, the
    connection completing after the first body byte -/

section run_examples

def envEx : Env := { url := fun raw => some (raw, []), errPage := fun _ _ => [] }
/-- `POST /a?q HTTP/1.1 CRLF Content-Length: 3 CRLF CR` -/
def seg1 : Bytes := [80, 79, 83, 84, 32, 47, 97, 63, 113, 32, 72, 84, 84, 80, 47, 49, 46, 49, 13, 10, 67, 111, 110,
  116, 101, 110, 116, 45, 76, 101, 110, 103, 116, 104, 58, 32, 51, 13, 10, 13]
def evsEx : List PEv :=
  [.sock .new, .sock (.feed seg1), .turn, .sock (.feed [10, 97]), .turn, .sock (.feed [98, 99, 88]), .turn, .turn]

example : relayShape evsEx = true := by decide +kernel
example : (C02.req envEx (clientStream evsEx)).isSome = true := by decide +kernel
example : settled evsEx = true := by decide +kernel
example : CR ∉ ({} : Cfg).peerIP ∧ (44 : UInt8) ∉ ({} : Cfg).peerIP := by decide +kernel
example : holds envEx {} evsEx (Proxy.run envEx {} evsEx).sock.log = true := by decide +kernel
/-- not for a trivial reason: the upstream server received the head and `abc` -/
example : (Http.parse (upstreamBytes (Proxy.run envEx {} evsEx).sock.log)).map (·.body) = some [97, 98, 99] := by
  decide +kernel

example : relayShape0 evsEx = true ∧ relayShape evsEx = true := by decide +kernel

/-! the upstream server answers early: `100 Continue` arrives after the first body byte; the rest
    of the body comes afterwards and is owed (the answer is one the proxy relays) -/
def up100 : Bytes := lit ['H','T','T','P','/','1','.','1',' ','1','0','0',' ','C','o','n','t','i','n','u','e','\r','\n','\r','\n']
def evsEarly : List PEv :=
  [.sock .new, .sock (.feed seg1), .turn, .sock (.feed [10, 97]), .turn, .up up100, .turn,
   .sock (.feed [98, 99, 88]), .turn, .turn]

example : relayShape evsEarly = true ∧ relayShape0 evsEarly = false := by decide +kernel
example : (C02.req envEx (clientStream evsEarly)).isSome = true := by decide +kernel
example : upstreamSent evsEarly = up100 ∧ upHeadOk evsEarly = true := by decide +kernel
example : settled evsEarly = true := by decide +kernel
example : (∀ e ∈ evsEarly, relayPEvU e = true) ∧ TurnTail evsEarly :=
  ⟨relayPEvU_of_shape (by decide), turnTail_of_settled (by decide) (by decide +kernel)⟩
/-- completeness clause on; the response head was relayed BEFORE the last body bytes arrived -/
example : holds envEx {} evsEarly (Proxy.run envEx {} evsEarly).sock.log = true := by decide +kernel
example : (Http.parse (upstreamBytes (Proxy.run envEx {} evsEarly).sock.log)).map (·.body) = some [97, 98, 99] ∧
    (Proxy.run envEx {} evsEarly).headersParsed = true ∧
    (Obs.wire (Proxy.run envEx {} evsEarly).sock.log).take 12 =
      lit ['H','T','T','P','/','1','.','0',' ','1','0','0'] := by
  decide +kernel
/-- had the proxy consumed what the client sends after the upstream server began to answer, the
    upstream server would have `a` only: the predicate is false on such a trace -/
example :
    let obs := (Proxy.run envEx {} evsEarly).sock.log.map fun o =>
      match o with | .misc 20 b => if b == [98, 99] then Obs.misc 20 [] else o | _ => o
    holds envEx {} evsEarly obs = false := by
  decide +kernel

/-! an early answer the proxy refuses (`garbage CRLF CRLF`): 502, the client's socket is closed, the
    rest of the body is not owed (`settled` false), what went upstream is a proper prefix -/
def upBad : Bytes := lit ['g','a','r','b','a','g','e','\r','\n','\r','\n']
def evsRefused : List PEv :=
  [.sock .new, .sock (.feed seg1), .turn, .sock (.feed [10, 97]), .turn, .up upBad, .turn,
   .sock (.feed [98, 99, 88]), .turn, .turn]
example : relayShape evsRefused = true ∧ upHeadOk evsRefused = false ∧ settled evsRefused = false := by
  decide +kernel
example : holds envEx {} evsRefused (Proxy.run envEx {} evsRefused).sock.log = true ∧
    (Http.parse (upstreamBytes (Proxy.run envEx {} evsRefused).sock.log)).map (·.body) = some [97] ∧
    (Obs.wire (Proxy.run envEx {} evsRefused).sock.log).take 12 =
      lit ['H','T','T','P','/','1','.','0',' ','5','0','2'] := by
  decide +kernel
/-- a payload written before the connection exists is never sent: it does not count -/
example : upstreamSent [.sock .new, .up upBad, .sock (.feed (seg1 ++ [10])), .up upBad, .turn, .up up100] = up100 := by
  decide +kernel

/-- no declared length: everything after the blank line is the body -/
def evsNoLen : List PEv :=
  [.sock .new, .sock (.feed [80, 85, 84, 32, 47, 32, 72, 84, 84, 80, 47, 49, 46, 49, 13, 10, 13, 10, 97]),
   .turn, .sock (.feed [98, 99]), .turn]
example : relayShape evsNoLen = true := by decide +kernel
example : holds envEx {} evsNoLen (Proxy.run envEx {} evsNoLen).sock.log = true := by decide +kernel
example : (Http.parse (upstreamBytes (Proxy.run envEx {} evsNoLen).sock.log)).map (·.body) = some [97, 98, 99] := by
  decide +kernel
/-- outside `HdrWf`: a lone CR in a header name and value (`X<CR>Y: a<CR>b`); accepted, forwarded,
    and the strict reader finds the entry unchanged -/
def evsLoneCR : List PEv :=
  [.sock .new, .sock (.feed (lit ['G','E','T',' ','/','a',' ','H','T','T','P','/','1','.','1','\r','\n','X','\r','Y',':',' ','a','\r','b','\r','\n','\r','\n'])),
   .turn, .turn]
example : relayShape evsLoneCR = true ∧
    (C01.headOf (clientStream evsLoneCR)).bind (fun h => (C01.expect envEx h).map fun f => crFreeB f.headers)
      = some false ∧
    holds envEx {} evsLoneCR (Proxy.run envEx {} evsLoneCR).sock.log = true ∧
    (Http.parse (upstreamBytes (Proxy.run envEx {} evsLoneCR).sock.log)).map
        (fun m => HeaderMap.values (lit ['x','\r','y']) m.headers) = some [lit ['a','\r','b']] := by
  decide +kernel
/-- an empty header name (`GET /a HTTP/1.1 CRLF : v CRLF CRLF`): rejected, nothing upstream, 400 -/
def evsEmptyName : List PEv :=
  [.sock .new, .sock (.feed (lit ['G','E','T',' ','/','a',' ','H','T','T','P','/','1','.','1','\r','\n',':',' ','v','\r','\n','\r','\n'])),
   .turn, .turn]
example : relayShape evsEmptyName = true ∧
    holds envEx {} evsEmptyName (Proxy.run envEx {} evsEmptyName).sock.log = true ∧
    upstreamBytes (Proxy.run envEx {} evsEmptyName).sock.log = [] ∧
    (Obs.wire (Proxy.run envEx {} evsEmptyName).sock.log).take 12 =
      lit ['H','T','T','P','/','1','.','0',' ','4','0','0'] := by decide +kernel
/-- a rejected head (`BAD CRLF CRLF`): nothing reaches the upstream server -/
def evsBad : List PEv := [.sock .new, .sock (.feed [66, 65, 68, 13, 10, 13, 10]), .turn, .turn]
example : holds envEx {} evsBad (Proxy.run envEx {} evsBad).sock.log = true ∧
    upstreamBytes (Proxy.run envEx {} evsBad).sock.log = [] := by decide +kernel

end run_examples

end Qhttp.C12
