import Qhttp.Model.Http
import Qhttp.Lemmas.C03Wire
/-
  C03 — every response on the wire is exactly the status, headers and body that were set.
-/
namespace Qhttp.C03
open Qhttp

/-- the abstract response an API history denotes -/
structure Spec where
  code    : Int := 200
  reason  : Bytes := statusReason 200
  values  : List (Bytes × List Bytes) := []     -- case-folded name ↦ values in the order set
  started : Bool := false                       -- the head has been emitted
  closed  : Bool := false
  body    : Bytes := []
deriving Repr, Inhabited

def setVals (n : Bytes) (f : List Bytes → List Bytes) : List (Bytes × List Bytes) → List (Bytes × List Bytes)
  | [] => [(lower n, f [])]
  | (k, vs) :: m => if k == lower n then (k, f vs) :: m else (k, vs) :: setVals n f m

def Spec.status (s : Spec) (c : Int) (r : Option Bytes) : Spec :=
  { s with code := c, reason := match r with | some x => x | none => statusReason c }

/-- one API call on the abstract response; `page` is the error-page body for (code, reason) -/
def Spec.step (page : Int → Bytes → Bytes) (s : Spec) (op : ApiOp) : Spec :=
  if s.closed then s else
  match op with
  | .status c r => if s.started then s else s.status c r
  | .hdr n v true => if s.started then s else { s with values := setVals n (fun _ => [v]) s.values }
  | .hdr n v false => if s.started then s else { s with values := setVals n (fun vs => vs ++ [v]) s.values }
  | .hdrs m => if s.started then s else
      { s with values := m.foldl (fun acc e => setVals e.1 (fun vs => vs ++ [e.2]) acc) [] }
  | .wh => { s with started := true }
  | .write b => { s with started := true, body := s.body ++ b }
  | .err c r =>
    if s.started then { s with closed := true } else
    let s := s.status c r
    let body := page s.code s.reason
    { s with values := setVals Sock.CONTENT_TYPE (fun _ => [Sock.TEXT_HTML])
                        (setVals Sock.CONTENT_LENGTH (fun _ => [natDigits body.length]) s.values),
             started := true, closed := true, body := body }
  | .redir p perm =>
    if s.started then { s with closed := true } else
    let s := s.status (if perm then 301 else 302) none
    { s with values := setVals (lit ['L','o','c','a','t','i','o','n']) (fun _ => [p]) s.values,
             started := true, closed := true }
  | .json b c =>
    if s.started then { s with closed := true } else
    let s := s.status c none
    { s with values := setVals Sock.CONTENT_TYPE (fun _ => [Sock.APP_JSON])
                        (setVals Sock.CONTENT_LENGTH (fun _ => [natDigits b.length]) s.values),
             started := true, closed := true, body := b }
  | .close => { s with closed := true }
  | _ => s

def hasCRLF (x : Bytes) : Bool := containsByte CR x || containsByte LF x

/-- documented preconditions of the response API (outside them nothing is claimed).
    `trim n == n`: readers of a header block trim names, so another name would not come back -/
def wfOps : List ApiOp → (started : Bool) → Bool
  | [], _ => true
  | op :: ops, started =>
    match op with
    | .status c r => c ≥ 0 && (match r with | some x => !hasCRLF x | none => true) && wfOps ops started
    | .hdr n v _ => !n.isEmpty && !containsByte COLON n && !hasCRLF n && !hasCRLF v &&
                    (trim n == n) && wfOps ops started
    | .hdrs m =>
      m.all (fun e => !e.1.isEmpty && !containsByte COLON e.1 && !hasCRLF e.1 && !hasCRLF e.2 && trim e.1 == e.1) &&
      wfOps ops started
    | .wh => !started && wfOps ops true
    | .write _ => wfOps ops true
    | .err c r => !started && c ≥ 0 && (match r with | some x => !hasCRLF x | none => true) && wfOps ops true
    | .redir p _ => !started && !hasCRLF p && wfOps ops true
    | .json _ c => !started && c ≥ 0 && wfOps ops true
    | _ => wfOps ops started

def apiOps (sc : Scenario) : List ApiOp :=
  sc.events.filterMap fun e => match e with | .api o => some o | _ => none

def splitVals (vs : List Bytes) : List Bytes :=
  Http.sortBytes (vs.flatMap fun v => splitF [44, 32] (v.length + 1) none v)

/-- scenario shape: `new`, then API calls from idle context interleaved with acknowledgements. -/
def holds (env : Env) (sc : Scenario) (obs : List Obs) : Bool :=
  let ops := apiOps sc
  if !wfOps ops false then true else
  let spec := ops.foldl (Spec.step env.errPage) {}
  let wire := Obs.wire obs
  -- nothing after the library closed the transport
  Obs.countP Obs.isW (obs.dropWhile (fun o => !Obs.isTc o)) == 0 &&
  -- the convenience calls and close() shut the connection
  (if spec.closed then Obs.countP Obs.isTc obs == 1 else Obs.countP Obs.isTc obs == 0) &&
  (if !spec.started then wire.isEmpty else
   match Http.parse wire with
   | none => false
   | some m =>
     (match Http.statusLine m.start with
      | some st => (st.code : Int) == spec.code && st.reason == spec.reason
      | none => false) &&
     m.body == spec.body &&
     -- the same names, and under each name the same multiset of values
     (Http.names m.headers).all (fun n => (spec.values.any fun e => e.1 == n && !e.2.isEmpty)) &&
     spec.values.all (fun e => e.2.isEmpty ||
        Http.sortBytes (Http.valuesOf e.1 m.headers) == splitVals e.2))

open Qhttp.HB Qhttp.Http Qhttp.C03L Qhttp.HeaderMap Qhttp.Sock

theorem Spec.step_closed (page : Int → Bytes → Bytes) {sp : Spec} (h : sp.closed = true) (op : ApiOp) :
    Spec.step page sp op = sp := by
  unfold Spec.step; rw [if_pos h]

def effReason (c : Int) (r : Option Bytes) : Bytes :=
  match r with | some x => x | none => statusReason c

theorem Spec.step_open (page : Int → Bytes → Bytes) {sp : Spec} (h : sp.closed = false) (op : ApiOp) :
    Spec.step page sp op =
      match op with
      | .status c r => if sp.started then sp else sp.status c r
      | .hdr n v true => if sp.started then sp else { sp with values := setVals n (fun _ => [v]) sp.values }
      | .hdr n v false => if sp.started then sp else { sp with values := setVals n (fun vs => vs ++ [v]) sp.values }
      | .hdrs m => if sp.started then sp else
          { sp with values := m.foldl (fun acc e => setVals e.1 (fun vs => vs ++ [e.2]) acc) [] }
      | .wh => { sp with started := true }
      | .write b => { sp with started := true, body := sp.body ++ b }
      | .err c r =>
        if sp.started then { sp with closed := true } else
        { sp with code := c, reason := effReason c r,
                  values := setVals Sock.CONTENT_TYPE (fun _ => [Sock.TEXT_HTML])
                    (setVals Sock.CONTENT_LENGTH (fun _ => [natDigits (page c (effReason c r)).length]) sp.values),
                  started := true, closed := true, body := page c (effReason c r) }
      | .redir p perm =>
        if sp.started then { sp with closed := true } else
        { sp with code := (if perm then 301 else 302), reason := statusReason (if perm then 301 else 302),
                  values := setVals (lit ['L','o','c','a','t','i','o','n']) (fun _ => [p]) sp.values,
                  started := true, closed := true }
      | .json b c =>
        if sp.started then { sp with closed := true } else
        { sp with code := c, reason := statusReason c,
                  values := setVals Sock.CONTENT_TYPE (fun _ => [Sock.APP_JSON])
                    (setVals Sock.CONTENT_LENGTH (fun _ => [natDigits b.length]) sp.values),
                  started := true, closed := true, body := b }
      | .close => { sp with closed := true }
      | _ => sp := by
  unfold Spec.step
  rw [if_neg (by rw [h]; exact Bool.false_ne_true)]
  cases op <;> rfl

def look (k : Bytes) : List (Bytes × List Bytes) → List Bytes
  | [] => []
  | (k', vs) :: m => if k' == k then vs else look k m

theorem look_setVals (n : Bytes) (f : List Bytes → List Bytes) (k : Bytes) (vals : List (Bytes × List Bytes)) :
    look k (setVals n f vals) = if k = lower n then f (look (lower n) vals) else look k vals := by
  induction vals with
  | nil =>
    simp only [setVals, look]
    by_cases h : k = lower n
    · simp [h]
    · have : ¬ lower n = k := fun e => h e.symm
      simp [h, this]
  | cons a vals ih =>
    obtain ⟨k', vs⟩ := a
    simp only [setVals]
    by_cases h1 : k' = lower n
    · subst h1
      by_cases h : k = lower n
      · subst h; simp [look]
      · have : ¬ lower n = k := fun e => h e.symm
        simp [look, h, this]
    · by_cases h : k = lower n
      · subst h; simp [look, h1, ih]
      · simp only [beq_iff_eq, h1, if_false, look, ih, h]

/-- keys are case-folded and distinct, every entry holds at least one value -/
def KeysOk (vals : List (Bytes × List Bytes)) : Prop :=
  (vals.map (·.1)).Nodup ∧ ∀ e ∈ vals, lower e.1 = e.1 ∧ e.2 ≠ []

theorem keys_setVals (n : Bytes) (f : List Bytes → List Bytes) (vals : List (Bytes × List Bytes)) {k : Bytes}
    (h : k ∈ (setVals n f vals).map (·.1)) : k = lower n ∨ k ∈ vals.map (·.1) := by
  induction vals with
  | nil => exact Or.inl (List.mem_singleton.mp h)
  | cons a vals ih =>
    rw [setVals] at h
    split at h
    · rename_i hk
      rcases List.mem_cons.mp h with h | h
      · exact Or.inl (h.trans (beq_iff_eq.mp hk))
      · exact Or.inr (List.mem_cons_of_mem _ h)
    · rcases List.mem_cons.mp h with h | h
      · exact Or.inr (h ▸ List.mem_cons_self)
      · exact (ih h).imp_right (List.mem_cons_of_mem _)

theorem keysOk_setVals (n : Bytes) {f : List Bytes → List Bytes} (hf : ∀ vs, f vs ≠ [])
    {vals : List (Bytes × List Bytes)} (h : KeysOk vals) : KeysOk (setVals n f vals) := by
  induction vals with
  | nil =>
    exact ⟨List.nodup_cons.mpr ⟨List.not_mem_nil, List.nodup_nil⟩,
      fun e he => by rw [List.mem_singleton.mp he]; exact ⟨lower_idem n, hf []⟩⟩
  | cons a vals ih =>
    obtain ⟨hd, he⟩ := h
    rw [List.map_cons, List.nodup_cons] at hd
    have hv : KeysOk vals := ⟨hd.2, fun e h => he e (List.mem_cons_of_mem _ h)⟩
    rw [setVals]
    split
    · -- the entry under `lower n` is overwritten: same keys
      rename_i hk
      refine ⟨by rw [List.map_cons, List.nodup_cons]; exact hd, fun e h => ?_⟩
      rcases List.mem_cons.mp h with h | h
      · rw [h]; exact ⟨(he a List.mem_cons_self).1, hf _⟩
      · exact he e (List.mem_cons_of_mem _ h)
    · -- the head is kept; its key differs from `lower n` and so stays new
      rename_i hk
      obtain ⟨i1, i2⟩ := ih hv
      refine ⟨by
        rw [List.map_cons, List.nodup_cons]
        exact ⟨fun h => (keys_setVals n f vals h).elim (fun e => hk (beq_iff_eq.mpr e)) hd.1, i1⟩, fun e h => ?_⟩
      rcases List.mem_cons.mp h with h | h
      · rw [h]; exact he a List.mem_cons_self
      · exact i2 e h

theorem look_of_mem {vals : List (Bytes × List Bytes)} (h : (vals.map (·.1)).Nodup) {e : Bytes × List Bytes}
    (he : e ∈ vals) : look e.1 vals = e.2 := by
  induction vals with
  | nil => simp at he
  | cons a vals ih =>
    obtain ⟨k', vs⟩ := a
    simp only [List.map_cons, List.nodup_cons] at h
    rcases List.mem_cons.mp he with he | he
    · subst he; simp [look]
    · have : ¬ k' = e.1 := by
        intro e'; apply h.1; rw [e']; exact List.mem_map.mpr ⟨e, he, rfl⟩
      simp only [look, beq_iff_eq, this, if_false]
      exact ih h.2 he

theorem mem_of_look_ne_nil {k : Bytes} {vals : List (Bytes × List Bytes)} (h : look k vals ≠ []) :
    ∃ e ∈ vals, e.1 = k ∧ e.2 = look k vals := by
  induction vals with
  | nil => simp [look] at h
  | cons a vals ih =>
    obtain ⟨k', vs⟩ := a
    by_cases h1 : k' = k
    · subst h1; exact ⟨(k', vs), by simp, rfl, by simp [look]⟩
    · simp only [look, beq_iff_eq, h1, if_false] at h ⊢
      obtain ⟨e, he, h2, h3⟩ := ih h
      exact ⟨e, by simp [he], h2, h3⟩

theorem splitVals_eq (l : List Bytes) : splitVals l = sortBytes (svals l) := rfl

/-- under every name the map carries, as a multiset of comma-separated values, the values of the table -/
structure HdrRel (m : HeaderMap) (vals : List (Bytes × List Bytes)) : Prop where
  sorted : Sorted m
  wf : HdrWf m
  keys : KeysOk vals
  perm : ∀ n, (vs n m).Perm (svals (look (lower n) vals))

theorem hdrRel_nil : HdrRel [] [] :=
  ⟨List.Pairwise.nil, fun _ h => by simp at h, ⟨by simp, fun _ h => by simp at h⟩,
   fun n => by simp [vs, svals, look, HeaderMap.values]⟩

theorem hdrRel_replace {m : HeaderMap} {vals : List (Bytes × List Bytes)} (h : HdrRel m vals) {n v : Bytes}
    (he : EntryOk (n, v)) : HdrRel (hset n v true m) (setVals n (fun _ => [v]) vals) := by
  refine ⟨sorted_hset h.sorted, wf_hset h.wf he, keysOk_setVals n (by simp) h.keys, ?_⟩
  intro n'
  refine (vs_hset_replace n v n' m).trans ?_
  rw [look_setVals]
  by_cases hk : lower n = lower n'
  · rw [if_pos (HeaderMap.keyEq_iff.mpr hk), if_pos hk.symm]; simp [svals]
  · rw [if_neg (fun e => hk (HeaderMap.keyEq_iff.mp e)), if_neg (fun e => hk e.symm)]; exact h.perm n'

theorem hdrRel_append {m : HeaderMap} {vals : List (Bytes × List Bytes)} (h : HdrRel m vals) {n v : Bytes}
    (he : EntryOk (n, v)) : HdrRel (hset n v false m) (setVals n (fun vs => vs ++ [v]) vals) := by
  refine ⟨sorted_hset h.sorted, wf_hset h.wf he, keysOk_setVals n (by simp) h.keys, ?_⟩
  intro n'
  refine (vs_hset_append n v n' h.sorted).trans ?_
  rw [look_setVals]
  by_cases hk : lower n = lower n'
  · rw [if_pos (HeaderMap.keyEq_iff.mpr hk), if_pos hk.symm, hk]
    simp only [svals, List.flatMap_append, List.flatMap_cons, List.flatMap_nil, List.append_nil]
    exact List.Perm.append_right _ (h.perm n')
  · rw [if_neg (fun e => hk (HeaderMap.keyEq_iff.mp e)), if_neg (fun e => hk e.symm)]; exact h.perm n'

theorem hdrRel_insert {m : HeaderMap} {vals : List (Bytes × List Bytes)} (h : HdrRel m vals) {k v : Bytes}
    (he : EntryOk (k, v)) : HdrRel (HeaderMap.insert k v m) (setVals k (fun vs => vs ++ [v]) vals) := by
  refine ⟨sorted_insert h.sorted, wf_insert h.wf he, keysOk_setVals k (by simp) h.keys, ?_⟩
  intro n'
  refine (vs_insert k v n' m).trans ?_
  rw [look_setVals]
  by_cases hk : lower k = lower n'
  · rw [if_pos (HeaderMap.keyEq_iff.mpr hk), if_pos hk.symm, hk]
    simp only [svals, List.flatMap_append, List.flatMap_cons, List.flatMap_nil, List.append_nil]
    exact List.perm_append_comm.trans (List.Perm.append_right _ (h.perm n'))
  · rw [if_neg (fun e => hk (HeaderMap.keyEq_iff.mp e)), if_neg (fun e => hk e.symm)]; exact h.perm n'

theorem hdrRel_foldl (l : List (Bytes × Bytes)) (hl : ∀ e ∈ l, EntryOk e) :
    ∀ {m : HeaderMap} {vals : List (Bytes × List Bytes)}, HdrRel m vals →
    HdrRel (l.foldl (fun acc e => HeaderMap.insert e.1 e.2 acc) m)
           (l.foldl (fun acc e => setVals e.1 (fun vs => vs ++ [e.2]) acc) vals) := by
  induction l with
  | nil => intro m vals h; exact h
  | cons e l ih =>
    intro m vals h
    exact ih (fun e h => hl e (by simp [h])) (hdrRel_insert h (hl e (by simp)))

theorem hdrRel_check {m : HeaderMap} {vals : List (Bytes × List Bytes)} (h : HdrRel m vals) :
    (Http.names m).all (fun n => vals.any fun e => e.1 == n && !e.2.isEmpty) = true ∧
    vals.all (fun e => e.2.isEmpty || Http.sortBytes (Http.valuesOf e.1 m) == splitVals e.2) = true := by
  constructor
  · rw [List.all_eq_true]
    intro n hn
    simp only [Http.names, List.mem_eraseDups, List.mem_map] at hn
    obtain ⟨a, ha, rfl⟩ := hn
    have hp := h.perm a.1
    have hne : vs a.1 m ≠ [] := by
      simp only [vs, ne_eq, svals_eq_nil]
      intro e
      have : a.2 ∈ HeaderMap.values a.1 m := by
        simp only [HeaderMap.values, List.mem_map, List.mem_filter]
        exact ⟨a, ⟨ha, by simp [keyEq]⟩, rfl⟩
      rw [e] at this; simp at this
    have hl : look (lower a.1) vals ≠ [] := by
      intro e; rw [e] at hp; simp only [svals, List.flatMap_nil] at hp
      exact hne (List.Perm.eq_nil hp)
    obtain ⟨e, he, h1, h2⟩ := mem_of_look_ne_nil hl
    rw [List.any_eq_true]
    refine ⟨e, he, ?_⟩
    simp only [Bool.and_eq_true, beq_iff_eq, Bool.not_eq_true', List.isEmpty_eq_false_iff]
    exact ⟨h1, by rw [h2]; exact hl⟩
  · rw [List.all_eq_true]
    intro e he
    have hp := h.perm e.1
    rw [(h.keys.2 e he).1, look_of_mem h.keys.1 he] at hp
    simp only [Bool.or_eq_true, beq_iff_eq]
    right
    rw [valuesOf_eq, splitVals_eq]
    exact sortBytes_perm hp

def wfOp (op : ApiOp) (started : Bool) : Bool :=
  match op with
  | .status c r => c ≥ 0 && (match r with | some x => !hasCRLF x | none => true)
  | .hdr n v _ => !n.isEmpty && !containsByte COLON n && !hasCRLF n && !hasCRLF v && (trim n == n)
  | .hdrs m =>
    m.all (fun e => !e.1.isEmpty && !containsByte COLON e.1 && !hasCRLF e.1 && !hasCRLF e.2 && trim e.1 == e.1)
  | .wh => !started
  | .write _ => true
  | .err c r => !started && c ≥ 0 && (match r with | some x => !hasCRLF x | none => true)
  | .redir p _ => !started && !hasCRLF p
  | .json _ c => !started && c ≥ 0
  | _ => true

def nextSt (op : ApiOp) (started : Bool) : Bool :=
  match op with
  | .wh | .write _ | .err _ _ | .redir _ _ | .json _ _ => true
  | _ => started

theorem wfOps_cons (op : ApiOp) (ops : List ApiOp) (st : Bool) :
    wfOps (op :: ops) st = (wfOp op st && wfOps ops (nextSt op st)) := by
  cases op <;> rfl

theorem nextSt_mono (op : ApiOp) {st : Bool} (h : st = true) : nextSt op st = true := by
  cases op <;> simp [nextSt, h]

theorem not_hasCRLF {x : Bytes} (h : hasCRLF x = false) : CR ∉ x := by
  simp only [hasCRLF, Bool.or_eq_false_iff] at h
  exact containsByte_eq_false.mp h.1

theorem reason_ok {c : Int} {r : Option Bytes}
    (h : (match r with | some x => !hasCRLF x | none => true) = true) :
    CR ∉ (match r with | some x => x | none => statusReason c) := by
  cases r with
  | none => exact CR_not_mem_statusReason c
  | some x => simp only [Bool.not_eq_true'] at h; exact not_hasCRLF h

theorem entryOk_of_wf {n v : Bytes}
    (h : (!n.isEmpty && !containsByte COLON n && !hasCRLF n && !hasCRLF v && (trim n == n)) = true) :
    EntryOk (n, v) := by
  simp only [Bool.and_eq_true, Bool.not_eq_true', List.isEmpty_eq_false_iff] at h
  obtain ⟨⟨⟨⟨h1, h2⟩, h3⟩, h4⟩, _⟩ := h
  exact ⟨h1, containsByte_eq_false.mp h2, not_hasCRLF h3, not_hasCRLF h4⟩

/-- `head` is the serialisation of a status line and a header block that denote
    `(code, reason, values)` -/
def HeadOk (head : Bytes) (code : Int) (reason : Bytes) (values : List (Bytes × List Bytes)) : Prop :=
  ∃ m, head = HTTP10 ++ intText code ++ [SP] ++ reason ++ CRLF ++ Sock.headerLines m ++ CRLF ∧
       0 ≤ code ∧ CR ∉ reason ∧ HdrRel m values

/-- before the head is emitted the socket holds what the abstract response holds -/
structure Pre (s : Sock) (sp : Spec) : Prop where
  ws : s.ws = .none
  code : s.code = sp.code
  reason : s.reason = sp.reason
  codeOk : 0 ≤ sp.code
  reasonOk : CR ∉ sp.reason
  hdr : HdrRel s.respHeaders sp.values
  body : sp.body = []

/-- `st` is the `started` flag `wfOps` has reached -/
structure WInv (st : Bool) (s : Sock) (sp : Spec) : Prop where
  stW : sp.started = true → st = true
  opn : sp.closed = false → Open s
  shut : sp.closed = true → Shut s
  pre : sp.closed = false → sp.started = false → Pre s sp
  post : sp.closed = false → sp.started = true → s.ws ≠ .none
  wire0 : sp.started = false → chunks s.log = []
  wire1 : sp.started = true →
    ∃ head cs, chunks s.log = head :: cs ∧ cs.flatten = sp.body ∧ HeadOk head sp.code sp.reason sp.values

theorem Pre.headOk {s : Sock} {sp : Spec} (h : Pre s sp) : HeadOk (headBytes s) sp.code sp.reason sp.values :=
  ⟨s.respHeaders, by rw [← h.code, ← h.reason]; rfl, h.codeOk, h.reasonOk, h.hdr⟩

/-- a step that changes neither the abstract response nor (before the head) the pending head -/
theorem WInv.neutral {st st' : Bool} {s s' : Sock} {sp : Spec} (h : WInv st s sp)
    (hst : st = true → st' = true)
    (ho : sp.closed = false → Open s') (hs : sp.closed = true → Shut s')
    (hc : chunks s'.log = chunks s.log)
    (hw : sp.closed = false → (s'.ws = .none ↔ s.ws = .none))
    (hf : sp.closed = false → sp.started = false →
          s'.code = s.code ∧ s'.reason = s.reason ∧ s'.respHeaders = s.respHeaders) :
    WInv st' s' sp := by
  refine ⟨fun x => hst (h.stW x), ho, hs, ?_, ?_, ?_, ?_⟩
  · intro a b
    obtain ⟨p1, p2, p3, p4, p5, p6, p7⟩ := h.pre a b
    obtain ⟨f1, f2, f3⟩ := hf a b
    exact ⟨(hw a).mpr p1, f1 ▸ p2, f2 ▸ p3, p4, p5, f3 ▸ p6, p7⟩
  · intro a b e; exact h.post a b ((hw a).mp e)
  · intro a; rw [hc]; exact h.wire0 a
  · intro a; rw [hc]; exact h.wire1 a

theorem winv_init : WInv false { ({} : Sock) with log := [Obs.ev 0], initPending := true } {} := by
  refine ⟨by simp, fun _ => ?_, by simp, fun _ _ => ?_, by simp, fun _ => rfl, by simp⟩
  · exact ⟨⟨rfl, rfl, rfl, by simp⟩, rfl, rfl, rfl, rfl, rfl, rfl, by intro o ho; simp at ho; subst ho; rfl⟩
  · exact ⟨rfl, rfl, by decide, by decide, by decide, hdrRel_nil, rfl⟩

theorem api_eq_of_open (env : Env) (app : App) {s s' : Sock} {op : ApiOp} (e : apiPrim env s op = s')
    (h : Open s') : api env app s op = s' := by
  subst e; exact Sock.api_of_dcFlag env app s op h.dcF

theorem flatten_opt (b : Bytes) : (if b = [] then ([] : List Bytes) else [b]).flatten = b := by
  split <;> simp_all

theorem entryOk_CL (n : Nat) : EntryOk (CONTENT_LENGTH, natDigits n) :=
  ⟨(by decide +kernel : CONTENT_LENGTH ≠ []), (by decide +kernel : COLON ∉ CONTENT_LENGTH),
   (by decide +kernel : CR ∉ CONTENT_LENGTH), natDigits_not_mem n (Or.inl (by decide))⟩

theorem entryOk_CT_html : EntryOk (CONTENT_TYPE, TEXT_HTML) :=
  ⟨by decide +kernel, by decide +kernel, by decide +kernel, by decide +kernel⟩
theorem entryOk_CT_json : EntryOk (CONTENT_TYPE, APP_JSON) :=
  ⟨by decide +kernel, by decide +kernel, by decide +kernel, by decide +kernel⟩

theorem entryOk_location {p : Bytes} (h : CR ∉ p) : EntryOk (lit ['L','o','c','a','t','i','o','n'], p) :=
  ⟨(by decide +kernel : lit ['L','o','c','a','t','i','o','n'] ≠ []),
   (by decide +kernel : COLON ∉ lit ['L','o','c','a','t','i','o','n']),
   (by decide +kernel : CR ∉ lit ['L','o','c','a','t','i','o','n']), h⟩

/- The primitives of the response side on a response that is not closed.  The abstract side is a
   variable `sp'` with its equation: `Spec.step_open` discharges it for a single call, `rfl` inside
   the convenience calls, which are compositions of these. -/

section prim
variable {st : Bool} {s : Sock} {sp sp' : Spec} (h : WInv st s sp) (hc : sp.closed = false)
include h hc

/-- setters change the pending head before it is out, afterwards nothing that is observed -/
theorem WInv.setHead {s' : Sock} {sp1 : Spec} (ho : Open s') (hl : s'.log = s.log) (hw : s'.ws = s.ws)
    (hp : sp.started = false → Pre s sp → sp1.started = false ∧ sp1.closed = false ∧ Pre s' sp1)
    (e : sp' = if sp.started then sp else sp1) : WInv st s' sp' := by
  cases hs : sp.started
  · obtain ⟨h1, h2, h3⟩ := hp hs (h.pre hc hs)
    rw [hs] at e; subst e
    exact ⟨fun x => (nomatch h1.symm.trans x), fun _ => ho, fun x => (nomatch h2.symm.trans x), fun _ _ => h3,
      fun _ x => (nomatch h1.symm.trans x), fun _ => by rw [hl]; exact h.wire0 hs,
      fun x => (nomatch h1.symm.trans x)⟩
  · rw [hs] at e; subst e
    exact h.neutral id (fun _ => ho) (fun x => (nomatch hc.symm.trans x)) (by rw [hl]) (fun _ => by rw [hw])
      (fun _ x => (nomatch hs.symm.trans x))

theorem WInv.setStatus (c : Int) (r : Option Bytes) (hcode : 0 ≤ c) (hr : CR ∉ effReason c r)
    (e : sp' = if sp.started then sp else sp.status c r) : WInv st (setStatusCode s c r) sp' :=
  h.setHead hc (sp1 := sp.status c r) (open_setStatusCode (h.opn hc) c r) rfl rfl
    (fun hs P => ⟨hs, hc, P.ws, rfl, rfl, hcode, hr, P.hdr, P.body⟩) e

theorem WInv.setHeaders (m : HeaderMap) (vals : List (Bytes × List Bytes))
    (hrel : HdrRel s.respHeaders sp.values → HdrRel m vals)
    (e : sp' = if sp.started then sp else { sp with values := vals }) :
    WInv st { s with respHeaders := m } sp' :=
  h.setHead hc (s' := { s with respHeaders := m }) (sp1 := { sp with values := vals })
    ((h.opn hc).of_eq rfl (h.opn hc).logOpen) rfl rfl
    (fun hs P => ⟨hs, hc, P.ws, P.code, P.reason, P.codeOk, P.reasonOk, hrel P.hdr, P.body⟩) e

theorem WInv.write (b : Bytes) (e : sp' = { sp with started := true, body := sp.body ++ b }) :
    WInv true (Sock.write s b) sp' := by
  subst e
  obtain ⟨o1, o2, o3⟩ := open_write (h.opn hc) b
  refine ⟨fun _ => rfl, fun _ => o1, fun x => (nomatch hc.symm.trans x), fun _ x => (nomatch x), fun _ _ => o2,
    fun x => (nomatch x), fun _ => ?_⟩
  cases hs : sp.started
  · have P := h.pre hc hs
    refine ⟨headBytes s, if b = [] then [] else [b], ?_, ?_, P.headOk⟩
    · rw [o3, if_pos P.ws, h.wire0 hs]; rfl
    · show _ = sp.body ++ b
      rw [flatten_opt, P.body]; rfl
  · obtain ⟨head, cs, w1, w2, w3⟩ := h.wire1 hs
    refine ⟨head, cs ++ if b = [] then [] else [b], ?_, ?_, w3⟩
    · rw [o3, if_neg (h.post hc hs), w1]; simp
    · show (cs ++ _).flatten = sp.body ++ b
      rw [List.flatten_append, w2, flatten_opt]

theorem WInv.writeHeaders (hs : sp.started = false) (e : sp' = { sp with started := true }) :
    WInv true (Sock.writeHeaders s) sp' := by
  subst e
  have P := h.pre hc hs
  obtain ⟨o1, o2, o3⟩ := open_writeHeaders (h.opn hc)
  refine ⟨fun _ => rfl, fun _ => o1, fun x => (nomatch hc.symm.trans x), fun _ x => (nomatch x),
    fun _ _ => by rw [o3]; exact WState.noConfusion, fun x => (nomatch x),
    fun _ => ⟨headBytes s, [], ?_, P.body.symm, P.headOk⟩⟩
  rw [o2, chunks_append, h.wire0 hs, chunks_w]; rfl

theorem WInv.closeDc {app : App} (hq : QuietApp app) (env : Env) {st' : Bool} (hst : st = true → st' = true)
    (e : sp' = { sp with closed := true }) : WInv st' (C03L.closeDc env app s) sp' := by
  subst e
  obtain ⟨c1, c2⟩ := open_closeDc hq env (h.opn hc)
  exact ⟨fun x => hst (h.stW x), fun x => (nomatch x), fun _ => c1, fun x => (nomatch x), fun x => (nomatch x),
    fun x => by rw [c2]; exact h.wire0 x, fun x => by rw [c2]; exact h.wire1 x⟩

end prim

theorem winv_api_open {app : App} (hq : QuietApp app) (env : Env) {st : Bool} {s : Sock} {sp : Spec}
    (h : WInv st s sp) (hc : sp.closed = false) {op : ApiOp} (hop : respOp op = true)
    (hwf : wfOp op st = true) :
    WInv (nextSt op st) (api env app s op) (Spec.step env.errPage sp op) := by
  have ho := h.opn hc
  have e := Spec.step_open env.errPage hc op
  -- the calls that `wfOp` admits only before the head was requested
  have fresh : st = false → sp.started = false := fun x => by
    cases hs : sp.started
    · rfl
    · exact absurd (h.stW hs) (by rw [x]; exact Bool.false_ne_true)
  cases op <;> first | exact Bool.noConfusion hop | skip
  · rename_i c r
    simp only [wfOp, Bool.and_eq_true, decide_eq_true_eq] at hwf
    rw [api_eq_of_open env app (apiPrim_alive env ho.alive (.status c r)) (open_setStatusCode ho c r)]
    exact h.setStatus hc c r hwf.1 (reason_ok hwf.2) e
  · rename_i n v r
    have he := entryOk_of_wf hwf
    rw [api_eq_of_open env app ((apiPrim_alive env ho.alive (.hdr n v r)).trans (setHeader_eq s n v r)) (ho.of_eq rfl ho.logOpen)]
    cases r
    · exact h.setHeaders hc _ _ (hdrRel_append · he) e
    · exact h.setHeaders hc _ _ (hdrRel_replace · he) e
  · rename_i m
    have hm : ∀ e ∈ m, EntryOk e := by
      simp only [wfOp, List.all_eq_true] at hwf
      exact fun e he => entryOk_of_wf (hwf e he)
    rw [api_eq_of_open env app (apiPrim_alive env ho.alive (.hdrs m)) (ho.of_eq rfl ho.logOpen)]
    exact h.setHeaders hc _ _ (fun _ => hdrRel_foldl m hm hdrRel_nil) e
  · have w := h.writeHeaders hc (fresh (by simpa [wfOp] using hwf)) rfl
    rw [api_eq_of_open env app (apiPrim_alive env ho.alive .wh) (w.opn hc), e]
    exact w
  · rename_i b
    have w := h.write hc b rfl
    rw [api_eq_of_open env app (apiPrim_alive env ho.alive (.write b)) (w.opn hc), e]
    exact w
  · -- writeError = setStatusCode; setHeader; setHeader; writeHeaders; write; close
    rename_i c r
    simp only [wfOp, Bool.and_eq_true, decide_eq_true_eq, Bool.not_eq_true'] at hwf
    have hs := fresh hwf.1.1
    have hns : ¬ sp.started = true := by rw [hs]; exact Bool.false_ne_true
    -- the body is still empty, so the error page is all of it
    obtain ⟨_, _, _, _, _, body⟩ := sp
    obtain rfl : body = [] := (h.pre hc hs).body
    have h1 := h.setStatus hc c r hwf.1.2 (reason_ok hwf.2) (if_neg hns).symm
    have h2 := h1.setHeaders hc _ _ (hdrRel_replace · (entryOk_CL (env.errPage c (effReason c r)).length))
      (if_neg hns).symm
    have h3 := h2.setHeaders hc _ _ (hdrRel_replace · entryOk_CT_html) (if_neg hns).symm
    have h4 := h3.writeHeaders hc hs rfl
    have h5 := h4.write hc (env.errPage c (effReason c r)) rfl
    have h6 := h5.closeDc hc hq env id rfl
    rw [api_eq, apiPrim_alive env ho.alive, e.trans (if_neg hns)]
    exact h6
  · -- writeRedirect = setStatusCode; setHeader; writeHeaders; close
    rename_i p pm
    simp only [wfOp, Bool.and_eq_true, Bool.not_eq_true'] at hwf
    have hs := fresh hwf.1
    have hns : ¬ sp.started = true := by rw [hs]; exact Bool.false_ne_true
    have h1 := h.setStatus hc (if pm then 301 else 302) none (by cases pm <;> decide)
      (CR_not_mem_statusReason _) (if_neg hns).symm
    have h2 := h1.setHeaders hc _ _ (hdrRel_replace · (entryOk_location (not_hasCRLF hwf.2))) (if_neg hns).symm
    have h3 := h2.writeHeaders hc hs rfl
    have h4 := h3.closeDc hc hq env id rfl
    rw [api_eq, apiPrim_alive env ho.alive, e.trans (if_neg hns)]
    exact h4
  · -- writeJson = setStatusCode; setHeader; setHeader; write; close
    rename_i b c
    simp only [wfOp, Bool.and_eq_true, decide_eq_true_eq, Bool.not_eq_true'] at hwf
    have hs := fresh hwf.1
    have hns : ¬ sp.started = true := by rw [hs]; exact Bool.false_ne_true
    obtain ⟨_, _, _, _, _, body⟩ := sp
    obtain rfl : body = [] := (h.pre hc hs).body
    have h1 := h.setStatus hc c none hwf.2 (CR_not_mem_statusReason c) (if_neg hns).symm
    have h2 := h1.setHeaders hc _ _ (hdrRel_replace · (entryOk_CL b.length)) (if_neg hns).symm
    have h3 := h2.setHeaders hc _ _ (hdrRel_replace · entryOk_CT_json) (if_neg hns).symm
    have h4 := h3.write hc b rfl
    have h5 := h4.closeDc hc hq env id rfl
    rw [api_eq, apiPrim_alive env ho.alive, e.trans (if_neg hns)]
    exact h5
  · rw [api_eq, apiPrim_alive env ho.alive, e]
    exact h.closeDc hc hq env id rfl

theorem WInv.openStep {st : Bool} {s s' : Sock} {sp : Spec} (h : WInv st s sp) (hc : sp.closed = false)
    (a : OpenStep s s') : WInv st s' sp :=
  h.neutral id (fun _ => a.1) (fun x => (nomatch hc.symm.trans x)) a.2.1 (fun _ => a.2.2.2.2.2)
    (fun _ _ => ⟨a.2.2.1, a.2.2.2.1, a.2.2.2.2.1⟩)

theorem WInv.shutStep {app : App} (hq : QuietApp app) (env : Env) {st st' : Bool} {s : Sock} {sp : Spec} (k : Nat)
    (h : WInv st s sp) (hc : sp.closed = true) (hst : st = true → st' = true) {e : Event}
    (he : allowedEv e = true) : WInv st' (stepK env app (s, k) e).1 sp := by
  obtain ⟨h1, e1, _⟩ := shut_stepK hq env k (h.shut hc) he
  exact h.neutral hst (fun x => (nomatch hc.symm.trans x)) (fun _ => h1) e1
    (fun x => (nomatch hc.symm.trans x)) (fun x => (nomatch hc.symm.trans x))

theorem WInv.ev {st : Bool} {s : Sock} {sp : Spec} (h : WInv st s sp) (hc : sp.closed = false) (k : Nat) :
    WInv st { s with log := s.log ++ [Obs.ev k] } sp :=
  h.openStep hc ⟨(h.opn hc).ev k, chunks_ev _ _, rfl, rfl, rfl, Iff.rfl⟩

theorem winv_stepK_api {app : App} (hq : QuietApp app) (env : Env) {st : Bool} {s : Sock} {sp : Spec} (k : Nat)
    (h : WInv st s sp) {op : ApiOp} (hop : allowedEv (.api op) = true) (hwf : wfOp op st = true) :
    WInv (nextSt op st) (stepK env app (s, k) (.api op)).1 (Spec.step env.errPage sp op) := by
  cases hc : sp.closed
  · have ho := (h.opn hc).ev k
    rw [Sock.stepK_alive env app k _ (h.opn hc).alive, Sock.step_api env app op ho.alive]
    rcases Bool.or_eq_true_iff.mp hop with hop | hop
    · exact winv_api_open hq env (h.ev hc k) hc hop hwf
    · -- a call that does not touch the response
      have e : Spec.step env.errPage sp op = sp := by
        rw [Spec.step_open _ hc]; cases op <;> first | rfl | exact Bool.noConfusion hop
      have en : nextSt op st = st := by
        cases op <;> first | rfl | exact Bool.noConfusion hop
      rw [e, en]
      exact (h.ev hc k).openStep hc (open_pstep ho (api_passive env app hop ho.rb ho.dcF))
  · rw [Spec.step_closed _ hc]
    exact h.shutStep hq env k hc (nextSt_mono op) hop

theorem winv_stepK_other {app : App} (hq : QuietApp app) (env : Env) {st : Bool} {s : Sock} {sp : Spec} (k : Nat)
    (h : WInv st s sp) {e : Event} (he : allowedEv e = true) (hne : ∀ op, e ≠ .api op) :
    WInv st (stepK env app (s, k) e).1 sp := by
  cases hc : sp.closed
  · have ho := (h.opn hc).ev k
    have hack : ∀ n, WInv st (ackN env app { s with log := s.log ++ [Obs.ev k] } n) sp :=
      fun n => (h.ev hc k).openStep hc (open_ackN hq env ho n)
    have hn : ¬ (!({ s with log := s.log ++ [Obs.ev k] } : Sock).alive) = true := by
      rw [ho.alive]; exact Bool.false_ne_true
    rw [Sock.stepK_alive env app k _ (h.opn hc).alive]
    cases e <;> first | exact Bool.noConfusion he | skip
    · rw [show step env app _ (.ack _) = ackN env app _ _ from if_neg hn]; exact hack _
    · rw [show step env app _ .ackAll = ackN env app _ _ from if_neg hn]; exact hack _
    · exact (h.ev hc k).openStep hc (open_turn env app ho)
    · exact absurd rfl (hne _)
  · exact h.shutStep hq env k hc id he

theorem apiOps_cons_api (app : App) (op : ApiOp) (evs : List Event) :
    apiOps ⟨app, .api op :: evs⟩ = op :: apiOps ⟨app, evs⟩ := rfl

theorem apiOps_cons_other (app : App) {e : Event} (evs : List Event) (hne : ∀ op, e ≠ .api op) :
    apiOps ⟨app, e :: evs⟩ = apiOps ⟨app, evs⟩ := by
  cases e <;> first | rfl | exact absurd rfl (hne _)

theorem winv_run {app : App} (hq : QuietApp app) (env : Env) :
    ∀ (evs : List Event) {st : Bool} {s : Sock} {sp : Spec} (k : Nat), WInv st s sp →
      (∀ e ∈ evs, allowedEv e = true) → wfOps (apiOps ⟨app, evs⟩) st = true →
      ∃ st', WInv st' (evs.foldl (stepK env app) (s, k)).1
        ((apiOps ⟨app, evs⟩).foldl (Spec.step env.errPage) sp)
  | [], st, s, sp, k, h, _, _ => ⟨st, h⟩
  | e :: evs, st, s, sp, k, h, hal, hwf => by
    have he := hal e (by simp)
    have hal' : ∀ e ∈ evs, allowedEv e = true := fun x hx => hal x (by simp [hx])
    by_cases hapi : ∃ op, e = .api op
    · obtain ⟨op, rfl⟩ := hapi
      rw [apiOps_cons_api, wfOps_cons, Bool.and_eq_true] at hwf
      rw [apiOps_cons_api, List.foldl_cons, List.foldl_cons]
      exact winv_run hq env evs _ (winv_stepK_api hq env k h he hwf.1) hal' hwf.2
    · have hne : ∀ op, e ≠ .api op := fun op x => hapi ⟨op, x⟩
      rw [apiOps_cons_other app evs hne] at hwf ⊢
      rw [List.foldl_cons]
      exact winv_run hq env evs _ (winv_stepK_other hq env k h he hne) hal' hwf

theorem CR_not_mem_start {code : Int} {reason : Bytes} (hc : 0 ≤ code) (hr : CR ∉ reason) :
    CR ∉ HTTP10 ++ intText code ++ [SP] ++ reason := by
  rw [intText_of_nonneg hc]
  simp only [List.mem_append, not_or]
  exact ⟨⟨⟨by decide +kernel, natDigits_not_mem _ (Or.inl (by decide))⟩, by decide +kernel⟩, hr⟩

theorem WInv.wire_parse {st : Bool} {s : Sock} {sp : Spec} (h : WInv st s sp) (hs : sp.started = true) :
    ∃ head cs m, chunks s.log = head :: cs ∧ cs.flatten = sp.body ∧ HdrRel m sp.values ∧
      head = (HTTP10 ++ intText sp.code ++ [SP] ++ sp.reason) ++ CRLF ++ Sock.headerLines m ++ CRLF ∧
      Http.statusLine (HTTP10 ++ intText sp.code ++ [SP] ++ sp.reason)
        = some { code := sp.code.natAbs, reason := sp.reason } ∧
      (sp.code.natAbs : Int) = sp.code ∧
      (∀ body, Http.parse (head ++ body)
        = some { start := HTTP10 ++ intText sp.code ++ [SP] ++ sp.reason, headers := m, body := body }) ∧
      Obs.wire s.log = head ++ sp.body := by
  obtain ⟨head, cs, w1, w2, m, hh, hcode, hreason, hrel⟩ := h.wire1 hs
  refine ⟨head, cs, m, w1, w2, hrel, hh, statusLine_intText hcode _, by omega, fun body => ?_, ?_⟩
  · rw [hh]; exact parse_render _ m body (CR_not_mem_start hcode hreason) hrel.wf
  · rw [wire_eq_chunks, w1, List.flatten_cons, w2]

/-- the last conjunct of `holds`: the wire against the abstract response -/
def wireOk (sp : Spec) (wire : Bytes) : Bool :=
  if !sp.started then wire.isEmpty else
  match Http.parse wire with
  | none => false
  | some m =>
    (match Http.statusLine m.start with
     | some st => (st.code : Int) == sp.code && st.reason == sp.reason
     | none => false) &&
    m.body == sp.body &&
    (Http.names m.headers).all (fun n => (sp.values.any fun e => e.1 == n && !e.2.isEmpty)) &&
    sp.values.all (fun e => e.2.isEmpty ||
       Http.sortBytes (Http.valuesOf e.1 m.headers) == splitVals e.2)

theorem holds_of_winv {st : Bool} {s : Sock} {sp : Spec} (h : WInv st s sp) :
    (Obs.countP Obs.isW (s.log.dropWhile (fun o => !Obs.isTc o)) == 0 &&
     (if sp.closed then Obs.countP Obs.isTc s.log == 1 else Obs.countP Obs.isTc s.log == 0) &&
     wireOk sp (Obs.wire s.log)) = true := by
  have p1 : Obs.countP Obs.isW (afterTc s.log) = 0 ∧
      (if sp.closed then Obs.countP Obs.isTc s.log == 1 else Obs.countP Obs.isTc s.log == 0) = true := by
    by_cases hc : sp.closed = true
    · have := (h.shut hc).logShut
      simp [hc, this.oneTc, this.noW]
    · have hc : sp.closed = false := by simpa using hc
      have := (h.opn hc).logOpen
      rw [afterTc_of_logOpen this, countTc_of_logOpen this]
      simp [hc, Obs.countP]
  have p3 : wireOk sp (Obs.wire s.log) = true := by
    unfold wireOk
    by_cases hs : sp.started = true
    · obtain ⟨head, cs, m, _, _, hrel, _, hst, hnat, hp, hw⟩ := h.wire_parse hs
      rw [hw, hp]
      obtain ⟨c1, c2⟩ := hdrRel_check hrel
      simp only [hs, Bool.not_true, Bool.false_eq_true, if_false, hst, c1, c2,
        beq_self_eq_true, Bool.and_true, beq_iff_eq]
      exact hnat
    · have hs : sp.started = false := by simpa using hs
      simp [hs, wire_eq_chunks, h.wire0 hs]
  show (Obs.countP Obs.isW (afterTc s.log) == 0 && _ && _) = true
  rw [p1.1, p1.2, p3]; rfl

theorem run_new (env : Env) (app : App) (rest : List Event) :
    Scenario.run env ⟨app, .new :: rest⟩ =
      (rest.foldl (stepK env app) ({ ({} : Sock) with log := [Obs.ev 0], initPending := true }, 1)).1 := rfl

/-- **C03**: for every environment, every application whose `bytesWritten` / `disconnected`
    reactions make no response-side call (`QuietApp`), and every history `new` followed by
    response-side calls, reads, queries, acknowledgements and event-loop turns (`allowedEv`), the
    executable predicate holds on the model run.  No request byte arrives in these histories, so
    every call comes from idle context; the preconditions are those of `wfOps` (inside `holds`). -/
theorem holds_run (env : Env) (app : App) (hq : QuietApp app) (rest : List Event)
    (hr : ∀ e ∈ rest, allowedEv e = true) :
    holds env ⟨app, .new :: rest⟩ (Scenario.run env ⟨app, .new :: rest⟩).log = true := by
  unfold holds
  have ha : apiOps ⟨app, .new :: rest⟩ = apiOps ⟨app, rest⟩ := rfl
  simp only [ha]
  by_cases hwf : wfOps (apiOps ⟨app, rest⟩) false = true
  · obtain ⟨st', h⟩ := winv_run hq env rest 1 winv_init hr hwf
    rw [run_new]
    simp only [hwf, Bool.not_true, Bool.false_eq_true, if_false]
    exact holds_of_winv h
  · simp [hwf]

def specOf (env : Env) (evs : List Event) : Spec :=
  (apiOps ⟨{}, evs⟩).foldl (Spec.step env.errPage) {}

theorem run_winv (env : Env) (app : App) (hq : QuietApp app) (rest : List Event)
    (hr : ∀ e ∈ rest, allowedEv e = true) (hwf : wfOps (apiOps ⟨app, rest⟩) false = true) :
    ∃ st, WInv st (Scenario.run env ⟨app, .new :: rest⟩) (specOf env rest) := by
  obtain ⟨st', h⟩ := winv_run hq env rest 1 winv_init hr hwf
  exact ⟨st', h⟩

/-- **the wire denotes the abstract response**: once the head is out the wire re-parses, the
    status line carries the code and reason set, the body is the written bytes in order, and under
    every name the header block carries exactly the multiset of values set for it -/
theorem WInv.wire_spec {st : Bool} {s : Sock} {sp : Spec} (h : WInv st s sp) (hs : sp.started = true) :
    ∃ msg, Http.parse (Obs.wire s.log) = some msg ∧
      Http.statusLine msg.start = some { code := sp.code.natAbs, reason := sp.reason } ∧
      (sp.code.natAbs : Int) = sp.code ∧ msg.body = sp.body ∧
      ∀ n, Http.sortBytes (Http.valuesOf n msg.headers) = splitVals (look (lower n) sp.values) := by
  obtain ⟨head, cs, m, _, _, hrel, _, hst, hnat, hp, hw⟩ := h.wire_parse hs
  refine ⟨_, hw ▸ hp sp.body, hst, hnat, rfl, fun n => ?_⟩
  rw [valuesOf_eq, splitVals_eq]
  exact sortBytes_perm (hrel.perm n)

/-- nothing reaches the wire before the head, the first chunk written is the complete head and
    the remaining chunks are the body: once and first, whether or not `writeHeaders` was called -/
theorem WInv.head_once_first {st : Bool} {s : Sock} {sp : Spec} (h : WInv st s sp) :
    (sp.started = false → chunks s.log = []) ∧
    (sp.started = true → ∃ head cs start m, chunks s.log = head :: cs ∧ cs.flatten = sp.body ∧
      head = start ++ CRLF ++ Sock.headerLines m ++ CRLF ∧
      Http.statusLine start = some { code := sp.code.natAbs, reason := sp.reason } ∧
      ∀ body, Http.parse (head ++ body) = some { start := start, headers := m, body := body }) := by
  refine ⟨h.wire0, fun hs => ?_⟩
  obtain ⟨head, cs, m, w1, w2, _, hh, hst, _, hp, _⟩ := h.wire_parse hs
  exact ⟨head, cs, _, m, w1, w2, hh, hst, hp⟩

theorem split_at_tc : ∀ {l : List Obs}, Obs.countP Obs.isTc l = 1 →
    ∃ pre post, l = pre ++ Obs.tc :: post ∧ (∀ o ∈ pre, Obs.isTc o = false) ∧
      (∀ o ∈ post, Obs.isTc o = false) ∧ afterTc l = Obs.tc :: post
  | [], h => by simp [Obs.countP] at h
  | o :: l, h => by
    by_cases ho : Obs.isTc o = true
    · have ho' : o = Obs.tc := by cases o <;> simp_all [Obs.isTc]
      subst ho'
      have hl : ∀ x ∈ l, Obs.isTc x = false := by
        simp only [Obs.countP, List.filter_cons, ho, if_true, List.length_cons, Nat.add_eq_right,
          List.length_eq_zero_iff, List.filter_eq_nil_iff] at h
        intro x hx; simpa using h x hx
      exact ⟨[], l, rfl, by simp, hl, by simp [afterTc, Obs.isTc]⟩
    · have ho' : Obs.isTc o = false := by simpa using ho
      have h' : Obs.countP Obs.isTc l = 1 := by
        simpa [Obs.countP, List.filter_cons, ho'] using h
      obtain ⟨pre, post, e, h1, h2, h3⟩ := split_at_tc h'
      refine ⟨o :: pre, post, by rw [e]; rfl, ?_, h2, ?_⟩
      · intro x hx
        rcases List.mem_cons.mp hx with hx | hx
        · subst hx; exact ho'
        · exact h1 x hx
      · simp only [afterTc, List.dropWhile_cons, ho', Bool.not_false, if_true] at h3 ⊢
        exact h3

/-- while the response is not closed the transport is not; once it is, the history is
    `pre ++ tc :: post` with every write in `pre` -/
theorem WInv.flush_before_close {st : Bool} {s : Sock} {sp : Spec} (h : WInv st s sp) :
    (sp.closed = false → ∀ o ∈ s.log, Obs.isTc o = false) ∧
    (sp.closed = true → ∃ pre post, s.log = pre ++ Obs.tc :: post ∧
      (∀ o ∈ pre, Obs.isTc o = false) ∧ (∀ o ∈ post, Obs.isTc o = false ∧ Obs.isW o = false) ∧
      Obs.wire pre = Obs.wire s.log) := by
  refine ⟨fun hc => (h.opn hc).logOpen, fun hc => ?_⟩
  have hl := (h.shut hc).logShut
  obtain ⟨pre, post, e, h1, h2, h3⟩ := split_at_tc hl.oneTc
  have hw : ∀ o ∈ Obs.tc :: post, Obs.isW o = false := Obs.countP_eq_zero.mp (h3 ▸ hl.noW)
  refine ⟨pre, post, e, h1, fun o ho => ⟨h2 o ho, hw o (List.mem_cons_of_mem _ ho)⟩, ?_⟩
  rw [wire_eq_chunks, wire_eq_chunks, e, chunks_append, chunks_of_noW hw, List.append_nil]

def stAfter (ops : List ApiOp) (st : Bool) : Bool := ops.foldl (fun st op => nextSt op st) st

theorem wfOps_append (a c : List ApiOp) (st : Bool) :
    wfOps (a ++ c) st = (wfOps a st && wfOps c (stAfter a st)) := by
  induction a generalizing st with
  | nil => simp [wfOps, stAfter]
  | cons op a ih => simp only [List.cons_append, wfOps_cons, ih, stAfter, List.foldl_cons, Bool.and_assoc]

/-- only the calls that put the head on the wire start the response -/
theorem Spec.step_started (page : Int → Bytes → Bytes) (sp : Spec) {op : ApiOp} (h : nextSt op false = false) :
    (Spec.step page sp op).started = sp.started := by
  cases hc : sp.closed
  · rw [Spec.step_open page hc]
    cases op <;> first | exact Bool.noConfusion h | rfl | (dsimp only; split <;> rfl) |
      (rename_i r; cases r <;> (dsimp only; split <;> rfl))
  · rw [Spec.step_closed page hc]

theorem started_le (page : Int → Bytes → Bytes) {sp : Spec} {st : Bool} (h : sp.started = true → st = true)
    (op : ApiOp) : (Spec.step page sp op).started = true → nextSt op st = true := by
  cases op <;> first | exact fun _ => rfl | exact fun hx => h ((Spec.step_started page sp rfl).symm.trans hx)

theorem started_le_foldl (page : Int → Bytes → Bytes) (ops : List ApiOp) :
    ∀ {sp : Spec} {st : Bool}, (sp.started = true → st = true) →
      (ops.foldl (Spec.step page) sp).started = true → stAfter ops st = true := by
  induction ops with
  | nil => intro sp st h; exact h
  | cons op ops ih => intro sp st h; exact ih (started_le page h op)

theorem foldl_step_closed (page : Int → Bytes → Bytes) (ops : List ApiOp) {sp : Spec} (h : sp.closed = true) :
    ops.foldl (Spec.step page) sp = sp := by
  induction ops with
  | nil => rfl
  | cons op ops ih =>
    rw [List.foldl_cons, Spec.step_closed page h, ih]

/-- the body a convenience call sends with a `Content-Length` -/
def convBody (env : Env) : ApiOp → Option Bytes
  | .json b _ => some b
  | .err c r => some (env.errPage c (effReason c r))
  | _ => none

def isConv : ApiOp → Bool
  | .json _ _ | .err _ _ | .redir _ _ => true
  | _ => false

theorem conv_step (env : Env) {sp : Spec} (hc : sp.closed = false) (hs : sp.started = false) {op : ApiOp}
    (hop : isConv op = true) :
    (Spec.step env.errPage sp op).closed = true ∧ (Spec.step env.errPage sp op).started = true ∧
    ∀ body, convBody env op = some body → (Spec.step env.errPage sp op).body = body ∧
      look (lower CONTENT_LENGTH) (Spec.step env.errPage sp op).values = [natDigits body.length] := by
  have hne : ¬ lower CONTENT_LENGTH = lower CONTENT_TYPE := by decide +kernel
  have hns : ¬ sp.started = true := by rw [hs]; exact Bool.false_ne_true
  -- `Content-Length` is set first and `Content-Type`, a different name, after it
  have hlook : ∀ (v w : List Bytes), look (lower CONTENT_LENGTH)
      (setVals CONTENT_TYPE (fun _ => w) (setVals CONTENT_LENGTH (fun _ => v) sp.values)) = v := fun v w => by
    rw [look_setVals, if_neg hne, look_setVals, if_pos rfl]
  rw [Spec.step_open _ hc]
  cases op <;> first | exact Bool.noConfusion hop | (dsimp only; rw [if_neg hns])
  · exact ⟨rfl, rfl, fun body hb => Option.some.inj hb ▸ ⟨rfl, hlook _ _⟩⟩
  · exact ⟨rfl, rfl, fun body hb => nomatch hb⟩
  · exact ⟨rfl, rfl, fun body hb => Option.some.inj hb ▸ ⟨rfl, hlook _ _⟩⟩

theorem apiOps_append (app : App) (a c : List Event) :
    apiOps ⟨app, a ++ c⟩ = apiOps ⟨app, a⟩ ++ apiOps ⟨app, c⟩ := by
  simp [apiOps]

theorem splitVals_digits (n : Nat) : splitVals [natDigits n] = [natDigits n] := by
  rw [splitVals_eq]
  have : csplit (natDigits n) = [natDigits n] :=
    splitAll_of_not_mem (c := 44) (d := [32]) (natDigits_not_mem n (Or.inl (by decide)))
  simp [svals, this, sortBytes, insertSorted]

/-- **convenience responses**: a `writeError` / `writeJson` / `writeRedirect` on a response that is
    still open closes the connection (exactly one `tc`), and for the error page and the JSON
    document the wire re-parses to a message whose body is the page / document and whose
    `Content-Length` header carries exactly the decimal length of that body -/
theorem convenience_content_length (env : Env) (app : App) (hq : QuietApp app) (evs1 evs2 : List Event)
    (op : ApiOp) (hop : isConv op = true)
    (hr : ∀ e ∈ evs1 ++ .api op :: evs2, allowedEv e = true)
    (hwf : wfOps (apiOps ⟨app, evs1 ++ .api op :: evs2⟩) false = true)
    (hopen : (specOf env evs1).closed = false) :
    Obs.countP Obs.isTc (Scenario.run env ⟨app, .new :: (evs1 ++ .api op :: evs2)⟩).log = 1 ∧
    ∀ body, convBody env op = some body →
      ∃ msg, Http.parse (Obs.wire (Scenario.run env ⟨app, .new :: (evs1 ++ .api op :: evs2)⟩).log) = some msg ∧
        msg.body = body ∧
        Http.sortBytes (Http.valuesOf CONTENT_LENGTH msg.headers) = [natDigits body.length] := by
  obtain ⟨st, h⟩ := run_winv env app hq _ hr hwf
  have hwf' := hwf
  rw [apiOps_append, apiOps_cons_api, wfOps_append, Bool.and_eq_true, wfOps_cons, Bool.and_eq_true] at hwf'
  obtain ⟨_, hwop, _⟩ := hwf'
  have hst : stAfter (apiOps ⟨app, evs1⟩) false = false := by
    cases hx : stAfter (apiOps ⟨app, evs1⟩) false
    · rfl
    · rw [hx] at hwop; cases op <;> simp [isConv] at hop <;> simp [wfOp] at hwop
  have hs0 : (specOf env evs1).started = false := by
    cases hx : (specOf env evs1).started
    · rfl
    · have := started_le_foldl env.errPage (apiOps ⟨{}, evs1⟩) (sp := {}) (st := false) (by simp) hx
      rw [show apiOps ⟨{}, evs1⟩ = apiOps ⟨app, evs1⟩ from rfl, hst] at this; cases this
  obtain ⟨c1, c2, c3⟩ := conv_step env hopen hs0 hop
  have hsp : specOf env (evs1 ++ .api op :: evs2) = Spec.step env.errPage (specOf env evs1) op := by
    simp only [specOf]
    rw [apiOps_append, apiOps_cons_api, List.foldl_append, List.foldl_cons]
    exact foldl_step_closed _ _ c1
  rw [hsp] at h
  refine ⟨(h.shut c1).logShut.oneTc, fun body hb => ?_⟩
  obtain ⟨d1, d2⟩ := c3 body hb
  obtain ⟨msg, m1, _, _, m4, m5⟩ := h.wire_spec c2
  exact ⟨msg, m1, by rw [m4, d1], by rw [m5, d2, splitVals_digits]⟩

section runs
variable (env : Env) (app : App) (hq : QuietApp app) (rest : List Event)
  (hr : ∀ e ∈ rest, allowedEv e = true) (hwf : wfOps (apiOps ⟨app, rest⟩) false = true)
include hq hr hwf

/-- `C03_wire` in DESIGN.md -/
theorem wire_denotes_spec (hs : (specOf env rest).started = true) :
    ∃ msg, Http.parse (Obs.wire (Scenario.run env ⟨app, .new :: rest⟩).log) = some msg ∧
      Http.statusLine msg.start =
        some { code := (specOf env rest).code.natAbs, reason := (specOf env rest).reason } ∧
      ((specOf env rest).code.natAbs : Int) = (specOf env rest).code ∧
      msg.body = (specOf env rest).body ∧
      ∀ n, Http.sortBytes (Http.valuesOf n msg.headers) = splitVals (look (lower n) (specOf env rest).values) := by
  obtain ⟨st, h⟩ := run_winv env app hq rest hr hwf
  exact h.wire_spec hs

/-- `C03_head_once_first` in DESIGN.md -/
theorem head_once_first :
    ((specOf env rest).started = false → chunks (Scenario.run env ⟨app, .new :: rest⟩).log = []) ∧
    ((specOf env rest).started = true → ∃ head cs start m,
      chunks (Scenario.run env ⟨app, .new :: rest⟩).log = head :: cs ∧
      cs.flatten = (specOf env rest).body ∧
      head = start ++ CRLF ++ Sock.headerLines m ++ CRLF ∧
      Http.statusLine start =
        some { code := (specOf env rest).code.natAbs, reason := (specOf env rest).reason } ∧
      ∀ body, Http.parse (head ++ body) = some { start := start, headers := m, body := body }) := by
  obtain ⟨st, h⟩ := run_winv env app hq rest hr hwf
  exact h.head_once_first

/-- `C03_flush_before_close` in DESIGN.md -/
theorem flush_before_close :
    ((specOf env rest).closed = false → ∀ o ∈ (Scenario.run env ⟨app, .new :: rest⟩).log, Obs.isTc o = false) ∧
    ((specOf env rest).closed = true → ∃ pre post,
      (Scenario.run env ⟨app, .new :: rest⟩).log = pre ++ Obs.tc :: post ∧
      (∀ o ∈ pre, Obs.isTc o = false) ∧ (∀ o ∈ post, Obs.isTc o = false ∧ Obs.isW o = false) ∧
      Obs.wire pre = Obs.wire (Scenario.run env ⟨app, .new :: rest⟩).log) := by
  obtain ⟨st, h⟩ := run_winv env app hq rest hr hwf
  exact h.flush_before_close

end runs

theorem quietApp_default : QuietApp {} := quietApp_of_nil fun _ => ⟨rfl, rfl⟩
theorem quietApp_script : QuietApp (Script.app {}) := quietApp_of_nil fun _ => ⟨rfl, rfl⟩

theorem quietApp_of_script (sc : Script)
    (h : (sc.onBw.all passiveOp && sc.onDc.all passiveOp) = true) : QuietApp (Script.app sc) := by
  simp only [Bool.and_eq_true, List.all_eq_true] at h
  exact fun _ => ⟨h.1, h.2⟩

def exEnv : Env := { url := fun _ => none, errPage := fun c r => intText c ++ [SP] ++ r }

/-- `hdrs:X-Tag=z,x-TAG=y status:404:~ hdr:X-tag:"b, c":a hdr:Set:1:r hdr:SET:2:r hdr:set:3:a
    write:"he" ack:5 write:"llo" close ackall turn` (after `new`): mixed-case repeated names as a
    whole map, in append and in replace mode, an implicit head, a body in two chunks, close. -/
def exEvents : List Event :=
  [ .api (.hdrs [(lit ['X','-','T','a','g'], lit ['z']), (lit ['x','-','T','A','G'], lit ['y'])]),
    .api (.status 404 none),
    .api (.hdr (lit ['X','-','t','a','g']) (lit ['b',',',' ','c']) false),
    .api (.hdr (lit ['S','e','t']) (lit ['1']) true),
    .api (.hdr (lit ['S','E','T']) (lit ['2']) true),
    .api (.hdr (lit ['s','e','t']) (lit ['3']) false),
    .api (.write (lit ['h','e'])), .ack 5, .api (.write (lit ['l','l','o'])),
    .api .close, .ackAll, .turn ]

example : ∀ e ∈ exEvents, allowedEv e = true := by decide +kernel
example : wfOps (apiOps ⟨{}, .new :: exEvents⟩) false = true := by decide +kernel
example : holds exEnv ⟨{}, .new :: exEvents⟩ (Scenario.run exEnv ⟨{}, .new :: exEvents⟩).log = true := by
  decide +kernel
example : Obs.wire (Scenario.run exEnv ⟨{}, .new :: exEvents⟩).log =
    lit ['H','T','T','P','/','1','.','0',' ','4','0','4',' ','N','O','T',' ','F','O','U','N','D','\r','\n',
         'S','E','T',':',' ','2',',',' ','3','\r','\n',
         'x','-','T','A','G',':',' ','y',',',' ','b',',',' ','c','\r','\n',
         'X','-','T','a','g',':',' ','z','\r','\n','\r','\n','h','e','l','l','o'] := by decide +kernel
example : (specOf exEnv exEvents).closed = true ∧ (specOf exEnv exEvents).started = true ∧
    (specOf exEnv exEvents).body = lit ['h','e','l','l','o'] ∧
    look (lit ['x','-','t','a','g']) (specOf exEnv exEvents).values =
      [lit ['z'], lit ['y'], lit ['b',',',' ','c']] ∧
    look (lit ['s','e','t']) (specOf exEnv exEvents).values = [lit ['2'], lit ['3']] := by decide +kernel
/-- the hypotheses of `convenience_content_length` are satisfiable -/
example : holds exEnv ⟨{}, [.new, .api (.status 201 none), .api (.err 500 none), .ackAll, .turn]⟩
    (Scenario.run exEnv ⟨{}, [.new, .api (.status 201 none), .api (.err 500 none), .ackAll, .turn]⟩).log = true := by
  decide +kernel
example : isConv (.err 500 none) = true ∧
    wfOps (apiOps ⟨{}, [.api (.status 201 none)] ++ .api (.err 500 none) :: [.ackAll, .turn]⟩) false = true ∧
    (specOf exEnv [.api (.status 201 none)]).closed = false := by decide +kernel

/-- an application that reacts to `bytesWritten` and `disconnected`, with reads interleaved in the
    history: the hypotheses of `holds_run` are satisfiable -/
def exScript : Script :=
  { onHp := [.close], onBw := [.avail], onDc := [.readAll, .note (.misc 1 [])] }

def exEvents2 : List Event :=
  [ .api (.hdr (lit ['A']) (lit ['1']) false), .api (.read 3), .api (.hdr (lit ['a']) (lit ['2']) false),
    .api (.write (lit ['x','y'])), .ackAll, .api .snap, .api (.write (lit ['!'])), .api .close,
    .ackAll, .turn, .turn, .api (.write (lit ['z'])) ]

example : (exScript.onBw.all passiveOp && exScript.onDc.all passiveOp) = true := by decide +kernel
example : ∀ e ∈ exEvents2, allowedEv e = true := by decide +kernel
example : wfOps (apiOps ⟨exScript.app, .new :: exEvents2⟩) false = true := by decide +kernel
example : holds exEnv ⟨exScript.app, .new :: exEvents2⟩
    (Scenario.run exEnv ⟨exScript.app, .new :: exEvents2⟩).log = true := by decide +kernel
example : Obs.wire (Scenario.run exEnv ⟨exScript.app, .new :: exEvents2⟩).log =
    lit ['H','T','T','P','/','1','.','0',' ','2','0','0',' ','O','K','\r','\n',
         'A',':',' ','1',',',' ','2','\r','\n','\r','\n','x','y','!'] := by decide +kernel

example : holds exEnv ⟨exScript.app, .new :: exEvents2⟩
    (Scenario.run exEnv ⟨exScript.app, .new :: exEvents2⟩).log = true :=
  holds_run exEnv _ (quietApp_of_script exScript (by decide)) exEvents2 (by decide)
example : holds exEnv ⟨{}, .new :: exEvents⟩ (Scenario.run exEnv ⟨{}, .new :: exEvents⟩).log = true :=
  holds_run exEnv _ quietApp_default exEvents (by decide)

end Qhttp.C03
