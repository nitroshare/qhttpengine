import Qhttp.Model.FsHandler
import Qhttp.Model.Http
import Qhttp.Props.C01
import Qhttp.Lemmas.FsWalk
import Qhttp.Lemmas.C07Run
/-
  C07 — files are served only from inside the document root.  `holds` is the predicate the driver
  evaluates; `contained` and `reachable_exists` are the two halves of the property for `Fs.served`,
  `holds_run` is `holds` on the composed run of socket, handler and copier.
-/
namespace Qhttp.C07
open Qhttp FsHandler

/-- `QString::toHtmlEscaped` -/
def htmlEscape : Bytes → Bytes
  | [] => []
  | c :: cs =>
    (if c == 60 then lit ['&','l','t',';'] else if c == 62 then lit ['&','g','t',';']
     else if c == 38 then lit ['&','a','m','p',';'] else if c == 34 then lit ['&','q','u','o','t',';']
     else [c]) ++ htmlEscape cs

def HREF : Bytes := lit ['h','r','e','f','=','"']

def rootLoc (fe : FsEnv) : Option (List Bytes) := Fs.resolve fe.tree (Fs.storedRoot fe.root)

def inside (rootL loc : List Bytes) : Bool := rootL.isPrefixOf loc

def statusOf (wire : Bytes) : Option Nat :=
  match Http.parse wire with
  | some m => (Http.statusLine m.start).map (·.code)
  | none => none

def bodyOf (wire : Bytes) : Bytes := match Http.parse wire with | some m => m.body | none => []

/-- a success response discloses an outside location if its body is the content of a file outside
    the root, or lists (as a link) a name that exists only outside the root -/
def disclosesOutside (fe : FsEnv) (rootL : List Bytes) (body : Bytes) : Bool :=
  let outside := fe.tree.filter fun e => !inside rootL e.1
  let insideNames := (fe.tree.filter fun e => inside rootL e.1 && e.1 != rootL).filterMap fun e => e.1.getLast?
  outside.any fun e =>
    match e.2, e.1.getLast? with
    | .file, some n =>
      (!(fe.content e.1).isEmpty && body == fe.content e.1) ||
      (!insideNames.contains n && isInfixB (HREF ++ htmlEscape n ++ [34]) body)
    | .dir, some n => !insideNames.contains n && isInfixB (HREF ++ htmlEscape n ++ [47, 34]) body
    | _, none => false

/-- plain relative path: non-empty names without '.', '..', '%', separated by single slashes -/
def plain (p : Bytes) : Bool :=
  !p.isEmpty && (Fs.segs p).all fun s => !s.isEmpty && s != Fs.DOT && s != Fs.DOTDOT && !containsByte 37 s && !containsByte 0 s

-- dot files: `entryInfoList` without `QDir::Hidden` (`processDirectory`) leaves them out
def hidden (n : Bytes) : Bool := n.head? == some 46

/-- `path` is what the root handler receives (the request path decoded once, leading slash
    removed).  A success response never discloses anything outside the root; a plain relative
    path to something that exists inside the root is answered 200 with that thing. -/
def holds (fe : FsEnv) (path : Bytes) (complete : Bool) (obs : List Obs) : Bool :=
  match rootLoc fe with
  | none => true
  | some rootL =>
    let wire := Obs.wire obs
    let st := statusOf wire
    (if st == some 200 || st == some 206 then !disclosesOutside fe rootL (bodyOf wire) else true) &&
    (if complete && plain path then
       match Fs.kindAt fe.tree (rootL ++ Fs.segs path) with
       | some .file => st == some 200 && bodyOf wire == fe.content (rootL ++ Fs.segs path)
       | some .dir =>
         st == some 200 &&
         (fe.tree.all fun e =>
            if e.1.dropLast == rootL ++ Fs.segs path then
              (match e.1.getLast? with
               | some n => hidden n || isInfixB (HREF ++ htmlEscape n ++ (if e.2 == .dir then [47, 34] else [34])) (bodyOf wire)
               | none => true)
            else true)
       | none => true
     else true)

/-- the directory clause of `holds` -/
def listsAll (fe : FsEnv) (loc : List Bytes) (body : Bytes) : Bool :=
  fe.tree.all fun e =>
    if e.1.dropLast == loc then
      (match e.1.getLast? with
       | some n => hidden n || isInfixB (HREF ++ htmlEscape n ++ (if e.2 == .dir then [47, 34] else [34])) body
       | none => true)
    else true

/-! The tree is a parameter, `path` any byte string; roots range over `Fs.CleanAbs`: absolute, no `..`
  segment (repeated or trailing slashes and `.` segments are allowed). -/

open Fs in
/-- containment, segment-wise (so `/r/rootx` is not inside `/r/root`) -/
theorem contained (t : Fs.Tree) (root path : Bytes) (hr : Fs.CleanAbs root = true)
    {loc : List Bytes} (h : Fs.served t root path = some loc) : Fs.locOf root <+: loc := by
  cases hp : isAbs path with
  | false =>
    rw [(served_rel_eq t hr hp h).1]
    exact List.prefix_append _ _
  | true =>
    obtain ⟨hpre, hloc⟩ := served_abs_eq t hr hp h
    by_cases hne : locOf root = []
    · rw [hne]; exact List.nil_prefix
    · rw [hloc hne]; exact hpre

theorem contained_inside (t : Fs.Tree) (root path : Bytes) (hr : Fs.CleanAbs root = true)
    {loc : List Bytes} (h : Fs.served t root path = some loc) : inside (Fs.locOf root) loc = true :=
  List.isPrefixOf_iff_prefix.2 (contained t root path hr h)

theorem served_rel (t : Fs.Tree) (root path : Bytes) (hr : Fs.CleanAbs root = true)
    (hp : Fs.isAbs path = false) {loc : List Bytes} (h : Fs.served t root path = some loc) :
    loc = Fs.locOf root ++ Fs.normStack [] (Fs.segs path) ∧
      (Fs.normStack [] (Fs.segs path)).head? ≠ some Fs.DOTDOT :=
  Fs.served_rel_eq t hr hp h

theorem resolve_lexical (t : Fs.Tree) (abs : Bytes) {loc : List Bytes}
    (h : Fs.resolve t abs = some loc) : loc = Fs.lexical [] (Fs.segs abs) :=
  Fs.walk_lexical t [] _ loc h

theorem rootLoc_eq (fe : FsEnv) (hr : Fs.CleanAbs fe.root = true) {l : List Bytes}
    (h : rootLoc fe = some l) : l = Fs.locOf fe.root := by
  have := Fs.walk_lexR fe.tree [] _ l h
  rw [this, Fs.lexR_storedRoot hr, List.reverse_reverse]

theorem plain_allNames {p : Bytes} (h : plain p = true) : Fs.allNames p = true := by
  unfold plain at h
  simp only [Bool.and_eq_true, List.all_eq_true] at h
  apply Fs.allNames_iff.2
  intro s hs
  have := h.2 s hs
  apply Fs.isName_iff.2
  obtain ⟨⟨⟨⟨h1, h2⟩, h3⟩, _⟩, _⟩ := this
  refine ⟨?_, by simpa using h2, by simpa using h3⟩
  intro e; subst e; simp at h1

open Fs in
/-- reachability, kernel form: a plain path that resolves to `root ++ path` is served -/
theorem reachable (t : Fs.Tree) (root path : Bytes) (hpl : plain path = true)
    (hres : Fs.resolve t (Fs.absoluteFilePath root path) = some (Fs.locOf root ++ Fs.segs path)) :
    Fs.served t root path = some (Fs.locOf root ++ Fs.segs path) := by
  have hn := plain_allNames hpl
  rw [served_some_iff]
  refine ⟨hres, ?_⟩
  rw [relativeFilePath_rel root (allNames_not_abs hn)]
  apply (rel_accepted_iff (allNames_not_abs hn)).2
  rw [allNames_normStack hn]
  cases hs : segs path with
  | nil => simp
  | cons x l =>
    have := allNames_iff.1 hn x (by rw [hs]; simp)
    simp only [List.head?_cons, ne_eq, Option.some.injEq]
    exact (isName_iff.1 this).2.2

open Fs in
theorem resolve_of_exists (t : Fs.Tree) (root path : Bytes) (ht : Fs.treeClosed t = true)
    (hr : Fs.CleanAbs root = true) (hn : Fs.allNames path = true) {k : Fs.Kind}
    (hk : Fs.kindAt t (Fs.locOf root ++ Fs.segs path) = some k) :
    Fs.resolve t (Fs.absoluteFilePath root path) = some (Fs.locOf root ++ Fs.segs path) := by
  obtain ⟨pre, hseg, hdd, hpre⟩ :=
    segs_absoluteFilePath hr (allNames_ne_nil hn) (allNames_not_abs hn)
  have hlen : 0 < (segs path).length := by
    cases hs : segs path with
    | nil => exact absurd hs (segs_ne_nil path)
    | cons x l => simp
  unfold resolve
  rw [hseg, walk_dirs t [] pre (segs path) hdd (by
    intro n hle
    rw [hpre] at hle ⊢
    have := kindAt_prefix_dir ht hk (n := n) (by simp; omega)
    rw [List.take_append_of_le_length hle] at this
    simpa using this)]
  rw [hpre, List.append_nil]
  have := walk_names t (locOf root).reverse (segs path) k (allNames_iff.1 hn)
    (by
      intro n hlt
      rw [List.reverse_reverse]
      have := kindAt_prefix_dir ht hk (n := (locOf root).length + n) (by simp; omega)
      rw [List.take_append, List.take_of_length_le (by omega)] at this
      simpa using this)
    (by rw [List.reverse_reverse]; exact hk)
  rw [this, List.reverse_reverse]

/-- reachability: on a prefix-closed tree whatever exists inside the root is served under its
    plain relative path -/
theorem reachable_exists (t : Fs.Tree) (root path : Bytes) (ht : Fs.treeClosed t = true)
    (hr : Fs.CleanAbs root = true) (hpl : plain path = true) {k : Fs.Kind}
    (hk : Fs.kindAt t (Fs.locOf root ++ Fs.segs path) = some k) :
    Fs.served t root path = some (Fs.locOf root ++ Fs.segs path) :=
  reachable t root path hpl (resolve_of_exists t root path ht hr (plain_allNames hpl) hk)

theorem cleanPath_idem (p : Bytes) : Fs.cleanPath (Fs.cleanPath p) = Fs.cleanPath p :=
  Fs.cleanPath_idem' p

open Fs in
/-- a cleaned path is `.`, `/`, or names with `..` only as a leading run (`isNF`) -/
theorem cleanPath_no_dot (p : Bytes) (hp : p ≠ []) :
    Fs.isAbs (Fs.cleanPath p) = Fs.isAbs p ∧
    ((Fs.cleanPath p = Fs.DOT ∧ Fs.isAbs p = false) ∨ (Fs.cleanPath p = [47] ∧ Fs.isAbs p = true) ∨
     Fs.isNF (Fs.segs (if Fs.isAbs p then (Fs.cleanPath p).drop 1 else Fs.cleanPath p)) = true) := by
  have hnf := NF_iff.1 (normStack_nil_NF (segs p))
  have hel := normStack_segs_elems p
  cases habs : isAbs p with
  | true =>
    rw [cleanPath_abs habs]
    refine ⟨by simp [isAbs, SLASH], ?_⟩
    cases hst : normStack [] (segs p) with
    | nil => right; left; exact ⟨rfl, rfl⟩
    | cons x l =>
      right; right
      rw [← hst]
      simp only [if_true, List.drop_succ_cons, List.drop_zero]
      rw [segs_joinSegs (by rw [hst]; simp) (fun s hs => (hel s hs).2)]
      exact hnf
  | false =>
    refine ⟨cleanPath_rel_isAbs habs, ?_⟩
    rw [cleanPath_rel hp habs]
    split
    · left; exact ⟨rfl, rfl⟩
    · rename_i he
      right; right
      simp only [Bool.false_eq_true, if_false]
      rw [segs_joinSegs (by intro e; rw [e] at he; exact he rfl) (fun s hs => (hel s hs).2)]
      exact hnf

theorem mem_joinSegs {c : UInt8} : ∀ {l : List Bytes}, c ∈ Fs.joinSegs l → c = 47 ∨ ∃ s ∈ l, c ∈ s := by
  intro l
  induction l with
  | nil => intro h; simp [Fs.joinSegs_nil] at h
  | cons x l ih =>
    intro h
    cases l with
    | nil => rw [Fs.joinSegs_single] at h; exact .inr ⟨x, by simp, h⟩
    | cons y l =>
      rw [Fs.joinSegs_cons x (by simp)] at h
      rcases List.mem_append.1 h with h | h
      · exact .inr ⟨x, by simp, h⟩
      · rcases List.mem_cons.1 h with h | h
        · exact .inl h
        · rcases ih h with h | ⟨s, hs, hc⟩
          · exact .inl h
          · exact .inr ⟨s, by simp [hs], hc⟩

theorem plain_no_pct {p : Bytes} (h : plain p = true) : (37 : UInt8) ∉ p := by
  intro hm
  rw [← Fs.joinSegs_segs p] at hm
  rcases mem_joinSegs hm with h47 | ⟨s, hs, hc⟩
  · exact absurd h47 (by decide)
  · unfold plain at h
    simp only [Bool.and_eq_true, List.all_eq_true] at h
    have := (h.2 s hs).1.2
    have hc' : containsByte 37 s = true := containsByte_iff.2 hc
    rw [hc'] at this
    cases this

theorem plan_served {fe : FsEnv} {path : Bytes} {hs : HeaderMap} :
    (∀ loc d, plan fe path hs = .dir loc d →
      Fs.served fe.tree fe.root (Fs.pctDecode path) = some loc ∧ d = Fs.pctDecode path) ∧
    (∀ loc r, plan fe path hs = .file loc r → Fs.served fe.tree fe.root (Fs.pctDecode path) = some loc) := by
  unfold plan
  simp only []
  refine ⟨?_, ?_⟩
  · intro loc d h
    split at h
    · cases h
    · rename_i l hl
      split at h
      · cases h; exact ⟨hl, rfl⟩
      · cases h
  · intro loc r h
    split at h
    · cases h
    · rename_i l hl
      split at h
      · cases h
      · cases h; exact hl

theorem plan_of_served {fe : FsEnv} {path : Bytes} {hs : HeaderMap} {loc : List Bytes}
    (h : Fs.served fe.tree fe.root (Fs.pctDecode path) = some loc) :
    (Fs.kindAt fe.tree loc = some .dir → plan fe path hs = .dir loc (Fs.pctDecode path)) ∧
    (Fs.kindAt fe.tree loc = some .file → ∃ r, plan fe path hs = .file loc r) := by
  unfold plan
  simp only [h]
  constructor
  · intro hk; rw [hk]
  · intro hk; rw [hk]; exact ⟨_, rfl⟩

/-- whatever `process` serves for ANY path handed to it lies inside the root and exists; the
    statement is about the string after both decodings, so encoded dots and slashes are covered -/
theorem plan_contained (fe : FsEnv) (path : Bytes) (hs : HeaderMap) (hroot : Fs.CleanAbs fe.root = true) :
    match plan fe path hs with
    | .notFound => True
    | .dir loc _ => Fs.locOf fe.root <+: loc ∧ Fs.kindAt fe.tree loc ≠ none
    | .file loc _ => Fs.locOf fe.root <+: loc ∧ Fs.kindAt fe.tree loc ≠ none := by
  obtain ⟨hpd, hpf⟩ := plan_served (fe := fe) (path := path) (hs := hs)
  cases hplan : plan fe path hs with
  | notFound => trivial
  | dir loc d =>
    have h := (hpd loc d hplan).1
    exact ⟨contained _ _ _ hroot h, Fs.served_exists _ _ _ h⟩
  | file loc r =>
    have h := hpf loc r hplan
    exact ⟨contained _ _ _ hroot h, Fs.served_exists _ _ _ h⟩

/-- files inside the root fit one copier block (`C08L.run_wire` covers a copy that ends in its first
    turn) and have CR-free MIME names (the head is read back by the strict `Http.parse`) -/
def okFiles (fe : FsEnv) : Bool :=
  (([], Fs.Kind.dir) :: fe.tree).all fun e =>
    !inside (Fs.locOf fe.root) e.1 ||
      (decide ((fe.content e.1).length ≤ 65536) && !containsByte CR (fe.mime e.1))

/-- content and listing of a location inside the root do not by themselves coincide with an
    outside canary -/
def noCanary (fe : FsEnv) (d : Bytes) : Bool :=
  (([], Fs.Kind.dir) :: fe.tree).all fun e =>
    !inside (Fs.locOf fe.root) e.1 ||
      (!disclosesOutside fe (Fs.locOf fe.root) (fe.content e.1) &&
       !disclosesOutside fe (Fs.locOf fe.root) (fe.listing e.1 d))

def listingOk (fe : FsEnv) (d : Bytes) : Bool :=
  (([], Fs.Kind.dir) :: fe.tree).all fun e => e.2 != .dir || listsAll fe e.1 (fe.listing e.1 d)

/-- **C07 on the composed run** (socket + `FilesystemHandler::process` + copier), for every request
    path: the socket is created, the whole request arrives in one segment (a head `C01.expect`
    accepts, no Content-Length, no Range), a turn, then any acknowledgements and turns.  Assumed, all
    decidable: root absolute without `..`, tree prefix-closed, `okFiles`, `noCanary`, `listingOk`. -/
theorem holds_run (env : Env) (fe : FsEnv) (req head : Bytes) (snap : Snap) (tail : List Event)
    (complete : Bool)
    (hreq : breakOn CRLF2 req = some (head, []))
    (hexp : C01.expect env head = some snap)
    (hcl : HeaderMap.contains Sock.CONTENT_LENGTH snap.headers = false)
    (hnr : HeaderMap.value RANGE snap.headers = [])
    (hroot : Fs.CleanAbs fe.root = true) (htree : Fs.treeClosed fe.tree = true)
    (hfile : okFiles fe = true)
    (hcan : noCanary fe (Fs.pctDecode (snap.path.drop 1)) = true)
    (hlist : listingOk fe (Fs.pctDecode (snap.path.drop 1)) = true)
    (htail : tail.all C03L.allowedEv = true) :
    holds fe (snap.path.drop 1) complete
      (FsHandler.run env fe (.new :: .feed req :: .turn :: tail)).sock.log = true := by
  obtain ⟨rh, p, q, hparse, hurl, rfl⟩ := (C01.expect_eq_some_iff env head snap).1 hexp
  simp only at hcl hnr hcan hlist ⊢
  unfold holds
  cases hrl : rootLoc fe with
  | none => rfl
  | some rootL =>
    have hR : rootL = Fs.locOf fe.root := rootLoc_eq fe hroot hrl
    subst hR
    simp only []
    obtain ⟨hpd, hpf⟩ := plan_served (fe := fe) (path := p.drop 1) (hs := rh.headers)
    -- what is served exists inside the root, so `okFiles` and `noCanary` speak of it
    have hall : ∀ {f : List Bytes × Fs.Kind → Bool},
        ((([], Fs.Kind.dir) :: fe.tree).all fun e => !inside (Fs.locOf fe.root) e.1 || f e) = true →
        ∀ loc, Fs.served fe.tree fe.root (Fs.pctDecode (p.drop 1)) = some loc →
          ∃ e : List Bytes × Fs.Kind, e.1 = loc ∧ f e = true := by
      intro f hf loc h
      cases hk : Fs.kindAt fe.tree loc with
      | none => exact absurd hk (Fs.served_exists _ _ _ h)
      | some k =>
        obtain ⟨e, he, rfl, _⟩ := Fs.kindAt_mem hk
        have := List.all_eq_true.1 hf e he
        rw [contained_inside _ _ _ hroot h] at this
        exact ⟨e, rfl, this⟩
    have hfile' : ∀ loc, Fs.served fe.tree fe.root (Fs.pctDecode (p.drop 1)) = some loc →
        (fe.content loc).length ≤ 65536 ∧ CR ∉ fe.mime loc := by
      intro loc h
      obtain ⟨e, rfl, this⟩ := hall hfile loc h
      simp only [Bool.and_eq_true, decide_eq_true_eq, Bool.not_eq_true'] at this
      exact ⟨this.1, containsByte_eq_false_iff.1 this.2⟩
    have hcan' : ∀ loc, Fs.served fe.tree fe.root (Fs.pctDecode (p.drop 1)) = some loc →
        disclosesOutside fe (Fs.locOf fe.root) (fe.content loc) = false ∧
        disclosesOutside fe (Fs.locOf fe.root) (fe.listing loc (Fs.pctDecode (p.drop 1))) = false := by
      intro loc h
      obtain ⟨e, rfl, this⟩ := hall hcan loc h
      simpa only [Bool.and_eq_true, Bool.not_eq_true'] using this
    obtain ⟨m, hm, hres⟩ := C07L.run_response env fe req head rh p q tail ⟨hreq, hparse, hurl, hcl⟩ hnr
      (fun loc r hpl => hfile' loc (hpf loc r hpl)) htail
    have hst : statusOf (Obs.wire (FsHandler.run env fe (.new :: .feed req :: .turn :: tail)).sock.log) =
        (Http.statusLine m.start).map (·.code) := by
      unfold statusOf; rw [hm]
    have hbd : bodyOf (Obs.wire (FsHandler.run env fe (.new :: .feed req :: .turn :: tail)).sock.log) =
        m.body := by
      unfold bodyOf; rw [hm]
    rw [hst, hbd]
    rw [Bool.and_eq_true]
    constructor
    · -- a success response discloses nothing outside the root
      cases hplan : plan fe (p.drop 1) rh.headers with
      | notFound =>
        rw [hplan] at hres
        simp only [] at hres
        rw [hres, if_neg (by decide)]
      | dir loc d =>
        rw [hplan] at hres
        simp only [] at hres
        obtain ⟨hsv, rfl⟩ := hpd loc d hplan
        have := (hcan' loc hsv).2
        rw [hres.1, hres.2, this]
        decide
      | file loc r =>
        rw [hplan] at hres
        simp only [] at hres
        have := (hcan' loc (hpf loc r hplan)).1
        rw [hres.1, hres.2, this]
        decide
    · -- a plain relative path to something that exists is answered with it
      by_cases hcp : (complete && plain (p.drop 1)) = true
      · rw [if_pos hcp]
        have hpl : plain (p.drop 1) = true := by
          rw [Bool.and_eq_true] at hcp; exact hcp.2
        have hdec : Fs.pctDecode (p.drop 1) = p.drop 1 := C07L.pctDecode_plain _ (plain_no_pct hpl)
        cases hk : Fs.kindAt fe.tree (Fs.locOf fe.root ++ Fs.segs (p.drop 1)) with
        | none => rfl
        | some k =>
          have hsv := reachable_exists fe.tree fe.root (p.drop 1) htree hroot hpl hk
          rw [← hdec] at hsv
          obtain ⟨hd, hf⟩ := plan_of_served (hs := rh.headers) hsv
          rw [hdec] at hd hf hsv
          cases k with
          | dir =>
            rw [hd hk] at hres
            simp only [] at hres
            simp only []
            rw [hres.1, hres.2]
            obtain ⟨e, he, h1, h2⟩ := Fs.kindAt_mem hk
            have := List.all_eq_true.1 hlist e he
            rw [h2, h1, hdec] at this
            simp only [bne_self_eq_false, Bool.false_or] at this
            unfold listsAll at this
            simp only [beq_self_eq_true, Bool.true_and]
            exact this
          | file =>
            obtain ⟨r, hr⟩ := hf hk
            rw [hr] at hres
            simp only [] at hres
            simp only []
            rw [hres.1, hres.2]
            simp
      · rw [if_neg hcp]

example : Fs.CleanAbs (lit ['/','r','/','r','o','o','t']) = true := by decide +kernel
example : Fs.StrictCleanAbs (lit ['/','r','/','r','o','o','t']) = true := by decide +kernel
example : Fs.CleanAbs (lit ['/','r','/','r','o','o','t','/']) = true := by decide +kernel
example : Fs.CleanAbs (lit ['/','r','/','.','/','r','o','o','t']) = true := by decide +kernel
example : Fs.CleanAbs (lit ['/']) = true := by decide +kernel
example : Fs.CleanAbs (lit ['/','r','/','.','.','/','r']) = false := by decide +kernel
example : Fs.locOf (lit ['/','r','/','.','/','r','o','o','t','/']) = [lit ['r'], lit ['r','o','o','t']] := by decide +kernel

/-! `/r/secret`, `/r/rootx/s` (sibling whose name extends the root's), `/r/root/{in, sub/deep.txt}` -/

def exTree : Fs.Tree :=
  [ ([lit ['r']], .dir),
    ([lit ['r'], lit ['s','e','c','r','e','t']], .file),
    ([lit ['r'], lit ['r','o','o','t','x']], .dir),
    ([lit ['r'], lit ['r','o','o','t','x'], lit ['s']], .file),
    ([lit ['r'], lit ['r','o','o','t']], .dir),
    ([lit ['r'], lit ['r','o','o','t'], lit ['i','n']], .file),
    ([lit ['r'], lit ['r','o','o','t'], lit ['s','u','b']], .dir),
    ([lit ['r'], lit ['r','o','o','t'], lit ['s','u','b'], lit ['d','e','e','p','.','t','x','t']], .file) ]

def exRoot : Bytes := lit ['/','r','/','r','o','o','t']

example : Fs.treeClosed exTree = true := by decide +kernel
-- requests that clean to the parent, and would resolve to it
example : Fs.resolve exTree (Fs.absoluteFilePath exRoot (lit ['.','.'])) = some [lit ['r']] := by decide +kernel
example : Fs.served exTree exRoot (lit ['.','.']) = none := by decide +kernel
example : Fs.served exTree exRoot (lit ['s','u','b','/','.','.','/','.','.']) = none := by decide +kernel
example : Fs.served exTree exRoot (lit ['.','.','/']) = none := by decide +kernel
example : Fs.served exTree exRoot (lit ['.','.','/','.']) = none := by decide +kernel
example : Fs.served exTree exRoot (lit ['.','.','/','/']) = none := by decide +kernel
-- the sibling whose name extends the root's name, relative and absolute
example : Fs.resolve exTree (Fs.absoluteFilePath exRoot (lit ['.','.','/','r','o','o','t','x','/','s'])) =
    some [lit ['r'], lit ['r','o','o','t','x'], lit ['s']] := by decide +kernel
example : Fs.served exTree exRoot (lit ['.','.','/','r','o','o','t','x','/','s']) = none := by decide +kernel
example : Fs.served exTree exRoot (lit ['/','r','/','r','o','o','t','x','/','s']) = none := by decide +kernel
example : Fs.served exTree exRoot (lit ['/','r','/','s','e','c','r','e','t']) = none := by decide +kernel
example : Fs.served exTree exRoot (lit ['/','r']) = none := by decide +kernel
example : Fs.served exTree exRoot (lit ['/']) = none := by decide +kernel
example : Fs.served exTree exRoot (lit ['s','u','b','/','d','e','e','p','.','t','x','t']) =
    some [lit ['r'], lit ['r','o','o','t'], lit ['s','u','b'], lit ['d','e','e','p','.','t','x','t']] := by decide +kernel
example : Fs.served exTree exRoot (lit ['s','u','b','/','.','.','/','i','n']) =
    some [lit ['r'], lit ['r','o','o','t'], lit ['i','n']] := by decide +kernel
example : Fs.served exTree exRoot (lit ['/','r','/','r','o','o','t','/','i','n']) =
    some [lit ['r'], lit ['r','o','o','t'], lit ['i','n']] := by decide +kernel
example : Fs.served exTree exRoot [] = some [lit ['r'], lit ['r','o','o','t']] := by decide +kernel
example : Fs.served exTree (lit ['/','r','/','r','o','o','t','/']) (lit ['.','.']) = none := by decide +kernel
example : Fs.served exTree (lit ['/','r','/','.','/','r','o','o','t','/']) (lit ['s','u','b','/','d','e','e','p','.','t','x','t']) =
    some [lit ['r'], lit ['r','o','o','t'], lit ['s','u','b'], lit ['d','e','e','p','.','t','x','t']] := by decide +kernel
example : plain (lit ['s','u','b','/','d','e','e','p','.','t','x','t']) = true ∧
    Fs.kindAt exTree (Fs.locOf exRoot ++ Fs.segs (lit ['s','u','b','/','d','e','e','p','.','t','x','t'])) = some .file := by
  decide +kernel
-- inputs whose Qt 5.15 results DESIGN.md records
example : Fs.cleanPath (lit ['s','u','b','/','.','.']) = lit ['.'] := by decide +kernel
example : Fs.cleanPath (lit ['s','u','b','/','.','.','/','.','.']) = lit ['.','.'] := by decide +kernel
example : Fs.cleanPath (lit ['a','/','.','.','/','.','.','/','x']) = lit ['.','.','/','x'] := by decide +kernel
example : Fs.cleanPath (lit ['/','a','/','.','.','/','.','.']) = lit ['/','.','.'] := by decide +kernel
example : Fs.relativeFilePath exRoot (lit ['/','r','/','r','o','o','t','x','/','s']) = lit ['.','.','/','r','o','o','t','x','/','s'] := by decide +kernel
example : Fs.relativeFilePath exRoot (lit ['/','r','/','r','o','o','t']) = lit ['.'] := by decide +kernel

def exEnv : Env := { url := fun raw => some (raw, []), errPage := fun _ _ => lit ['n','o'] }

/-- canary contents: every file contains its own location; listings link the entries -/
def exFe : FsEnv :=
  { root := exRoot, tree := exTree,
    content := fun loc => Fs.joinSegs loc,
    mime := fun _ => lit ['t','e','x','t','/','p','l','a','i','n'],
    listing := fun loc _ =>
      (exTree.filter fun e => e.1.dropLast == loc).flatMap fun e =>
        match e.1.getLast? with
        | some n => HREF ++ htmlEscape n ++ (if e.2 == .dir then [47, 34] else [34])
        | none => [] }

def exHead1 : Bytes := lit ['G','E','T',' ','/','s','u','b','/','d','e','e','p','.','t','x','t',' ','H','T','T','P','/','1','.','1']
def exSnap1 : Snap :=
  { parsed := true, method := 2, rawPath := lit ['/','s','u','b','/','d','e','e','p','.','t','x','t'],
    path := lit ['/','s','u','b','/','d','e','e','p','.','t','x','t'], query := [], headers := [], total := -1 }
def exHead2 : Bytes := lit ['G','E','T',' ','/','.','.',' ','H','T','T','P','/','1','.','1']
def exSnap2 : Snap :=
  { parsed := true, method := 2, rawPath := lit ['/','.','.'], path := lit ['/','.','.'], query := [],
    headers := [], total := -1 }
def exTail : List Event := [.turn, .turn, .turn, .turn, .ackAll, .turn]

theorem exPct1 : Fs.pctDecode (exSnap1.path.drop 1) = lit ['s','u','b','/','d','e','e','p','.','t','x','t'] :=
  C07L.pctDecode_plain _ (by decide +kernel)
theorem exPct2 : Fs.pctDecode (exSnap2.path.drop 1) = lit ['.','.'] :=
  C07L.pctDecode_plain _ (by decide +kernel)

example : holds exFe (lit ['s','u','b','/','d','e','e','p','.','t','x','t']) true
    (FsHandler.run exEnv exFe (.new :: .feed (exHead1 ++ CRLF2) :: .turn :: exTail)).sock.log = true :=
  holds_run exEnv exFe (exHead1 ++ CRLF2) exHead1 exSnap1 exTail true (by decide +kernel) (by decide +kernel) (by decide +kernel)
    (by decide +kernel) (by decide +kernel) (by decide +kernel) (by decide +kernel) (by rw [exPct1]; decide +kernel) (by rw [exPct1]; decide +kernel)
    (by decide +kernel)

example : holds exFe (lit ['.','.']) true
    (FsHandler.run exEnv exFe (.new :: .feed (exHead2 ++ CRLF2) :: .turn :: exTail)).sock.log = true :=
  holds_run exEnv exFe (exHead2 ++ CRLF2) exHead2 exSnap2 exTail true (by decide +kernel) (by decide +kernel) (by decide +kernel)
    (by decide +kernel) (by decide +kernel) (by decide +kernel) (by decide +kernel) (by rw [exPct2]; decide +kernel) (by rw [exPct2]; decide +kernel)
    (by decide +kernel)

example : plain (lit ['s','u','b','/','d','e','e','p','.','t','x','t']) = true ∧
    Fs.kindAt exFe.tree (Fs.locOf exFe.root ++ Fs.segs (lit ['s','u','b','/','d','e','e','p','.','t','x','t'])) =
      some .file ∧ rootLoc exFe = some (Fs.locOf exFe.root) := by decide +kernel

end Qhttp.C07
