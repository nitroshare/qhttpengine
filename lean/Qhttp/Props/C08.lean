import Qhttp.Props.C07
import Qhttp.Props.C16
import Qhttp.Props.C14
import Qhttp.Lemmas.C08Range
import Qhttp.Lemmas.C08Parse
/-
  C08 — file responses are self-consistent full or partial content.  `specRange` is the property's
  own reading of a Range header, `holds` the predicate the driver evaluates; `range_eq_spec` relates
  `processFile`'s Range object to `specRange`; `holds_run*` are `holds` on the composed run (files of
  at most one copier block).
-/
namespace Qhttp.C08
open Qhttp FsHandler

def one (vs : List Bytes) : Option Bytes := match vs with | [v] => some v | _ => none

/-- the property's reading of a Range header for a file of `size` bytes: `some (a, b)` when the
    header is `bytes=` followed by a first element that is one of the three satisfiable forms -/
def specRange (hdr : Bytes) (size : Nat) : Option (Nat × Nat) :=
  if !startsWith BYTES_EQ hdr then none else
  match breakOn [44] (hdr.drop 6) with
  | first =>
    let el := match first with | some (a, _) => a | none => hdr.drop 6
    match C16.specText el with
    | none => none
    | some (f, t) =>
      if !C16.specValid f t size then none else
      if f < 0 then some ((size : Int) + f |>.toNat, size - 1)
      else if t < 0 then some (f.toNat, size - 1)
      else some (f.toNat, t.toNat)

/-- a file: the response is the whole file (200) or exactly the first range (206), self-consistent
    either way; a directory: the listing names every non-hidden entry (`C07.listsAll`) and its
    Content-Length is its length -/
def holds (fe : FsEnv) (path : Bytes) (rangeHdr : Bytes) (complete : Bool) (obs : List Obs) : Bool :=
  if !complete then true else
  match plan fe path [(RANGE, rangeHdr)] with
  | .file loc _ =>
    let file := fe.content loc
    let size := file.length
    (match Http.parse (Obs.wire obs) with
     | none => false
     | some m =>
       let code := (Http.statusLine m.start).map (·.code)
       let cl := one (Http.valuesOf Sock.CONTENT_LENGTH m.headers)
       let cr := Http.valuesOf CONTENT_RANGE m.headers
       match specRange rangeHdr size with
       | none => code == some 200 && cl == some (natDigits size) && m.body == file && cr == []
       | some (a, b) =>
         code == some 206 && a ≤ b && b < size &&
         cl == some (natDigits (b - a + 1)) &&
         cr == [BYTES_SP ++ natDigits a ++ [45] ++ natDigits b ++ [47] ++ natDigits size] &&
         m.body == (file.drop a).take (b - a + 1))
  | .dir loc _ =>
    (match Http.parse (Obs.wire obs) with
     | none => false
     | some m =>
       one (Http.valuesOf Sock.CONTENT_LENGTH m.headers) == some (natDigits m.body.length) &&
       C07.listsAll fe loc m.body)
  | .notFound => true

open C08L

theorem startsWith_ne_nil {hdr : Bytes} (h : startsWith BYTES_EQ hdr = true) : hdr.isEmpty = false := by
  cases hdr with
  | nil => exact absurd h (by decide)
  | cons c cs => rfl

/-- the raw bounds of the text between `bytes=` and the first comma (`split(',')[0]`) -/
def rawBounds (hdr : Bytes) : Option (Int × Int) :=
  if startsWith BYTES_EQ hdr then C16.specText (firstElem 44 (hdr.drop 6)) else none

theorem rawBounds_wf {hdr : Bytes} {f t : Int} (h : rawBounds hdr = some (f, t)) : t ≥ -1 := by
  unfold rawBounds at h
  split at h
  · exact C16.specText_wf h
  · cases h

theorem requestedRange_eq (hdr : Bytes) (size : Nat) :
    requestedRange hdr size =
      match rawBounds hdr with
      | some (f, t) => ⟨f, t, size⟩
      | none => Range.invalid := by
  unfold requestedRange rawBounds
  by_cases hs : startsWith BYTES_EQ hdr = true
  · rw [if_pos (by simp [hs, startsWith_ne_nil hs]), if_pos hs]
    obtain ⟨rest, hr⟩ := splitChar_first 44 (hdr.drop 6)
    rw [hr]
    exact C16.ofString_eq _ _
  · rw [if_neg (by simp [hs]), if_neg hs]

theorem specRange_eq (hdr : Bytes) (size : Nat) :
    specRange hdr size =
      match rawBounds hdr with
      | none => none
      | some (f, t) =>
        if !C16.specValid f t size then none else
        if f < 0 then some ((size : Int) + f |>.toNat, size - 1)
        else if t < 0 then some (f.toNat, size - 1)
        else some (f.toNat, t.toNat) := by
  unfold specRange rawBounds
  by_cases hs : startsWith BYTES_EQ hdr = true
  · rw [if_neg (by simp [hs]), if_pos hs]
    rfl
  · rw [if_pos (by simp [hs]), if_neg hs]

/-- `processFile`'s Range object is valid exactly when the property's reading of the header yields
    a range, and then its absolute bounds are that range (every header, every size) -/
theorem range_eq_spec (hdr : Bytes) (size : Nat) :
    (requestedRange hdr size).isValid = (specRange hdr size).isSome ∧
    ((requestedRange hdr size).isValid = true →
      specRange hdr size =
        some ((requestedRange hdr size).absFrom.toNat, (requestedRange hdr size).absTo.toNat) ∧
      0 ≤ (requestedRange hdr size).absFrom ∧
      (requestedRange hdr size).absFrom ≤ (requestedRange hdr size).absTo ∧
      (requestedRange hdr size).absTo < size ∧
      (requestedRange hdr size).length =
        (requestedRange hdr size).absTo - (requestedRange hdr size).absFrom + 1) := by
  rw [requestedRange_eq, specRange_eq]
  cases hb : rawBounds hdr with
  | none => simp [C16.invalid_isValid]
  | some p =>
    obtain ⟨f, t⟩ := p
    have hvs : (⟨f, t, size⟩ : Range).isValid = C16.specValid f t size := C16.isValid_eq _
    simp only []
    cases hv : C16.specValid f t size with
    | false => rw [hvs, hv]; simp
    | true =>
      rw [hv] at hvs
      obtain ⟨h0, h1, h2, h3, _⟩ :=
        C16.valid_known ⟨f, t, size⟩ (rawBounds_wf hb) hvs (Int.natCast_nonneg size)
      simp only [Bool.not_true, Bool.false_eq_true, if_false]
      refine ⟨?_, fun _ => ⟨spec_of_valid f t size (rawBounds_wf hb) hv, h0, h1, h2, h3⟩⟩
      rw [hvs]
      split
      · rfl
      · split <;> rfl

theorem range_texts {hdr : Bytes} {size a b : Nat} (hsp : specRange hdr size = some (a, b)) :
    (requestedRange hdr size).isValid = true ∧
    (requestedRange hdr size).absFrom = (a : Int) ∧ (requestedRange hdr size).absTo = (b : Int) ∧
    a ≤ b ∧ b < size ∧
    intText (requestedRange hdr size).length = natDigits (b - a + 1) ∧
    (requestedRange hdr size).contentRange =
      natDigits a ++ [45] ++ natDigits b ++ [47] ++ natDigits size := by
  have hv : (requestedRange hdr size).isValid = true := by rw [(range_eq_spec hdr size).1, hsp]; rfl
  have hspec := ((range_eq_spec hdr size).2 hv).1
  rw [hsp] at hspec
  simp only [Option.some.injEq, Prod.mk.injEq] at hspec
  obtain ⟨ha, hb⟩ := hspec
  rw [requestedRange_eq] at hv ha hb ⊢
  cases hrb : rawBounds hdr with
  | none => rw [hrb, C16.invalid_isValid] at hv; cases hv
  | some p =>
    obtain ⟨f, t⟩ := p
    rw [hrb] at hv ha hb
    obtain ⟨h0, h1, h2, hlen, hcr⟩ :=
      C16.valid_known ⟨f, t, size⟩ (rawBounds_wf hrb) hv (Int.natCast_nonneg size)
    simp only [] at ha hb h2 hcr ⊢
    -- the arithmetic is about the two accessor values only
    generalize (⟨f, t, size⟩ : Range).absFrom = F at h0 h1 hlen hcr ha ⊢
    generalize (⟨f, t, size⟩ : Range).absTo = T at h1 h2 hlen hcr hb ⊢
    have hfa : F = (a : Int) := by omega
    have hfb : T = (b : Int) := by omega
    subst hfa hfb
    refine ⟨hv, rfl, rfl, by omega, by omega, ?_, ?_⟩
    · rw [hlen]
      have : ((b : Int) - (a : Int) + 1) = ((b - a + 1 : Nat) : Int) := by omega
      rw [this, intText_nat]
    · rw [hcr, intText_nat, intText_nat, intText_nat]

theorem range_invalid {hdr : Bytes} {size : Nat} (hsp : specRange hdr size = none) :
    (requestedRange hdr size).isValid = false := by
  have := (range_eq_spec hdr size).1
  rw [hsp] at this
  simpa using this

/-- the API calls made from `headersParsed` and the copier configuration of a file response, in
    terms of `specRange`; the copier is asked for exactly `file[a..b]` (`C14.wanted`) -/
theorem file_plan_shape (fe : FsEnv) (s : Sock) (loc : List Bytes) (r : Range)
    (hp : plan fe (s.path.drop 1) s.reqHeaders = .file loc r) :
    match specRange (HeaderMap.value RANGE s.reqHeaders) (fe.content loc).length with
    | none =>
      hpOps fe s =
        [.hdr Sock.CONTENT_LENGTH (natDigits (fe.content loc).length) true,
         .hdr Sock.CONTENT_TYPE (fe.mime loc) true, .wh] ∧
      copierCfg fe s = some { src := fe.content loc, block := 65536, range := none } ∧
      C14.wanted { src := fe.content loc, block := 65536, range := none } = fe.content loc
    | some (a, b) =>
      a ≤ b ∧ b < (fe.content loc).length ∧
      hpOps fe s =
        [.status 206 none, .hdr Sock.CONTENT_LENGTH (natDigits (b - a + 1)) true,
         .hdr CONTENT_RANGE (BYTES_SP ++ natDigits a ++ [45] ++ natDigits b ++ [47] ++
            natDigits (fe.content loc).length) true,
         .hdr Sock.CONTENT_TYPE (fe.mime loc) true, .wh] ∧
      copierCfg fe s =
        some { src := fe.content loc, block := 65536, range := some ((a : Int), (b : Int)) } ∧
      C14.wanted { src := fe.content loc, block := 65536, range := some ((a : Int), (b : Int)) } =
        ((fe.content loc).drop a).take (b - a + 1) := by
  have hr := plan_file_range hp
  unfold hpOps copierCfg
  rw [hp]
  simp only []
  cases hsp : specRange (HeaderMap.value RANGE s.reqHeaders) (fe.content loc).length with
  | none =>
    have hv : r.isValid = false := by rw [hr]; exact range_invalid hsp
    simp only [hv, Bool.false_eq_true, if_false, List.cons_append, List.nil_append, true_and]
    rfl
  | some p =>
    obtain ⟨a, b⟩ := p
    obtain ⟨hv, hfa, hfb, hab, hbs, hlt, hct⟩ := range_texts hsp
    rw [← hr] at hv hfa hfb hlt hct
    simp only [hv, if_true, List.cons_append, List.nil_append]
    refine ⟨hab, hbs, ?_, ?_, ?_⟩
    · rw [hlt, hct]
      simp [List.append_assoc]
    · rw [hfa, hfb]
    · rw [C14.wanted_fresh _ rfl]
      simp only []
      rw [if_neg (by omega), if_neg (by omega), if_neg (by omega)]
      simp only [Int.toNat_natCast]
      have : b + 1 - a = b - a + 1 := by omega
      rw [this]

/-- **C08 on the composed run** (socket + `processFile` + copier), files of at most one copier
    block: the socket is created, the whole request arrives in one segment (a head `C01.expect`
    accepts, without Content-Length, any Range header or none), a turn, then any acknowledgements and
    turns. -/
theorem holds_run (env : Env) (fe : FsEnv) (req head : Bytes) (snap : Snap) (loc : List Bytes)
    (r : Range) (tail : List Event) (complete : Bool)
    (hreq : breakOn CRLF2 req = some (head, []))
    (hexp : C01.expect env head = some snap)
    (hcl : HeaderMap.contains Sock.CONTENT_LENGTH snap.headers = false)
    (hplan : plan fe (snap.path.drop 1) snap.headers = .file loc r)
    (hsize : (fe.content loc).length ≤ 65536)
    (hmime : containsByte CR (fe.mime loc) = false)
    (htail : tail.all C03L.allowedEv = true) :
    holds fe (snap.path.drop 1) (HeaderMap.value RANGE snap.headers) complete
      (FsHandler.run env fe (.new :: .feed req :: .turn :: tail)).sock.log = true := by
  obtain ⟨rh, p, q, hparse, hurl, rfl⟩ := (C01.expect_eq_some_iff env head snap).1 hexp
  simp only at hcl hplan ⊢
  have hr := plan_file_range hplan
  have hm : CR ∉ fe.mime loc := containsByte_eq_false_iff.1 hmime
  have hbounds : r.isValid = true →
      0 ≤ r.absFrom ∧ r.absFrom ≤ r.absTo ∧ r.absTo < (fe.content loc).length := by
    intro hv
    rw [hr] at hv ⊢
    obtain ⟨_, h0, h1, h2, _⟩ := (range_eq_spec _ _).2 hv
    exact ⟨h0, h1, h2⟩
  have hwire := run_wire env fe req head rh p q loc r tail ⟨hreq, hparse, hurl, hcl⟩ hplan hsize hbounds htail
  have hplan' : plan fe (p.drop 1) [(RANGE, HeaderMap.value RANGE rh.headers)] = .file loc r := by
    rw [plan_congr fe _ (value_RANGE_single _)]; exact hplan
  unfold holds
  cases complete with
  | false => rfl
  | true =>
    simp only [Bool.not_true, Bool.false_eq_true, if_false, hplan', hwire,
      parse_response r _ _ _ hm, statusLine_respStart]
    cases hsp : specRange (HeaderMap.value RANGE rh.headers) (fe.content loc).length with
    | none =>
      have hv : r.isValid = false := by rw [hr]; exact range_invalid hsp
      simp only [respHdrs, bodyOf, hv, Bool.false_eq_true, if_false]
      rw [valuesOf_CL_full _ _ (HB.comma_not_mem_natDigits _), valuesOf_CR_full]
      simp [one]
    | some ab =>
      obtain ⟨a, b⟩ := ab
      obtain ⟨hv, hfa, hfb, hab, hbs, hlt, hct⟩ := range_texts hsp
      rw [← hr] at hv hfa hfb hlt hct
      simp only [respHdrs, bodyOf, hv, if_true, hlt, hct, hfa, hfb, Int.toNat_natCast]
      have hcomma := comma_not_mem_rangeText a b (fe.content loc).length
      have e : BYTES_SP ++ (natDigits a ++ [45] ++ natDigits b ++ [47] ++ natDigits (fe.content loc).length) =
          BYTES_SP ++ natDigits a ++ [45] ++ natDigits b ++ [47] ++ natDigits (fe.content loc).length := by
        simp [List.append_assoc]
      rw [e, valuesOf_CL_partial _ _ _ (HB.comma_not_mem_natDigits _), valuesOf_CR_partial _ _ _ hcomma]
      simp [one, hab, hbs]

example : specRange (lit ['b','y','t','e','s','=','2','-','5',',','7','-']) 10 = some (2, 5) := by decide +kernel
example : specRange (lit ['b','y','t','e','s','=','-','3']) 10 = some (7, 9) := by decide +kernel
example : specRange (lit ['b','y','t','e','s','=','4','-']) 10 = some (4, 9) := by decide +kernel
example : specRange (lit ['b','y','t','e','s','=','4','-','1','0']) 10 = none := by decide +kernel
example : specRange (lit ['b','y','t','e','s','=','-','0']) 10 = none := by decide +kernel
example : specRange (lit ['i','t','e','m','s','=','1','-','2']) 10 = none := by decide +kernel
example : (requestedRange (lit ['b','y','t','e','s','=','2','-','5',',','7','-']) 10).isValid = true := by decide +kernel

/-- the directory clause on the composed run; that the listing names the entries is assumed of the
    listing oracle (`hlist`) -/
theorem holds_run_dir (env : Env) (fe : FsEnv) (req head : Bytes) (snap : Snap) (loc : List Bytes)
    (d : Bytes) (tail : List Event) (complete : Bool)
    (hreq : breakOn CRLF2 req = some (head, []))
    (hexp : C01.expect env head = some snap)
    (hcl : HeaderMap.contains Sock.CONTENT_LENGTH snap.headers = false)
    (hplan : plan fe (snap.path.drop 1) snap.headers = .dir loc d)
    (hlist : C07.listsAll fe loc (fe.listing loc d) = true)
    (htail : tail.all C03L.allowedEv = true) :
    holds fe (snap.path.drop 1) (HeaderMap.value RANGE snap.headers) complete
      (FsHandler.run env fe (.new :: .feed req :: tail)).sock.log = true := by
  obtain ⟨rh, p, q, hparse, hurl, rfl⟩ := (C01.expect_eq_some_iff env head snap).1 hexp
  simp only at hcl hplan ⊢
  have hwire := run_wire_dir env fe req head rh p q loc d tail ⟨hreq, hparse, hurl, hcl⟩ hplan htail
  have hplan' : plan fe (p.drop 1) [(RANGE, HeaderMap.value RANGE rh.headers)] = .dir loc d := by
    rw [plan_congr fe _ (value_RANGE_single _)]; exact hplan
  unfold holds
  cases complete with
  | false => rfl
  | true =>
    have hparse' := parse_answered 200 (lit ['O','K']) (pageHdrs (fe.listing loc d)) (fe.listing loc d)
      (by omega) (by decide) (entryOk_pageHdrs _)
    simp only [Bool.not_true, Bool.false_eq_true, if_false, hplan', hwire, hparse', valuesOf_CL_pageHdrs]
    simp [one, hlist]

theorem holds_notFound (fe : FsEnv) (path rangeHdr : Bytes) (complete : Bool) (obs : List Obs)
    (hplan : plan fe path [(RANGE, rangeHdr)] = .notFound) :
    holds fe path rangeHdr complete obs = true := by
  unfold holds
  cases complete with
  | false => rfl
  | true => simp only [Bool.not_true, Bool.false_eq_true, if_false, hplan]

/-- **C08 on the composed run, every outcome of `process`** -/
theorem holds_run_any (env : Env) (fe : FsEnv) (req head : Bytes) (snap : Snap) (tail : List Event)
    (complete : Bool)
    (hreq : breakOn CRLF2 req = some (head, []))
    (hexp : C01.expect env head = some snap)
    (hcl : HeaderMap.contains Sock.CONTENT_LENGTH snap.headers = false)
    (hfile : ∀ loc r, plan fe (snap.path.drop 1) snap.headers = .file loc r →
      (fe.content loc).length ≤ 65536 ∧ containsByte CR (fe.mime loc) = false)
    (hdir : ∀ loc d, plan fe (snap.path.drop 1) snap.headers = .dir loc d →
      C07.listsAll fe loc (fe.listing loc d) = true)
    (htail : tail.all C03L.allowedEv = true) :
    holds fe (snap.path.drop 1) (HeaderMap.value RANGE snap.headers) complete
      (FsHandler.run env fe (.new :: .feed req :: .turn :: tail)).sock.log = true := by
  cases hplan : plan fe (snap.path.drop 1) snap.headers with
  | notFound =>
    apply holds_notFound
    rw [plan_congr fe _ (value_RANGE_single _)]; exact hplan
  | dir loc d =>
    exact holds_run_dir env fe req head snap loc d (.turn :: tail) complete hreq hexp hcl hplan (hdir loc d hplan)
      (by rw [List.all_cons, htail]; rfl)
  | file loc r =>
    obtain ⟨h1, h2⟩ := hfile loc r hplan
    exact holds_run env fe req head snap loc r tail complete hreq hexp hcl hplan h1 h2 htail

def exEnv : Env := { url := fun raw => some (raw, []), errPage := fun _ _ => [] }
def exFe : FsEnv :=
  { root := lit ['/','r'], tree := [([lit ['r']], .dir), ([lit ['r'], lit ['f']], .file)],
    content := fun _ => lit ['h','e','l','l','o',' ','w','o','r','l','d'],
    mime := fun _ => lit ['t','e','x','t','/','p','l','a','i','n'],
    listing := fun _ _ => [] }
def exHead : Bytes := lit ['G','E','T',' ','/','f',' ','H','T','T','P','/','1','.','1','\r','\n',
  'R','a','n','g','e',':',' ','b','y','t','e','s','=','2','-','5',',','7','-']
def exReq : Bytes := exHead ++ CRLF2
def exSnap : Snap :=
  { parsed := true, method := 2, rawPath := lit ['/','f'], path := lit ['/','f'], query := [],
    headers := [(lit ['R','a','n','g','e'], lit ['b','y','t','e','s','=','2','-','5',',','7','-'])], total := -1 }

-- `GET /f` with `Range: bytes=2-5,7-`
example : breakOn CRLF2 exReq = some (exHead, []) := by decide +kernel
example : C01.expect exEnv exHead = some exSnap := by decide +kernel
theorem exPct : Fs.pctDecode (lit ['f']) = lit ['f'] := by
  simp [Fs.pctDecode, lit, b]
theorem exPlan : plan exFe (exSnap.path.drop 1) exSnap.headers =
    .file [lit ['r'], lit ['f']] (requestedRange (HeaderMap.value RANGE exSnap.headers) 11) := by
  unfold plan
  have : List.drop 1 exSnap.path = lit ['f'] := by decide +kernel
  rw [this, exPct]
  have h1 : Fs.served exFe.tree exFe.root (lit ['f']) = some [lit ['r'], lit ['f']] := by decide +kernel
  have h2 : Fs.kindAt exFe.tree [lit ['r'], lit ['f']] = some .file := by decide +kernel
  simp only [h1, h2]
  rfl

def exTail : List Event := [.turn, .turn, .turn, .turn, .ackAll, .turn]

-- the scenario shape the harness generates
example :
    holds exFe (lit ['f']) (lit ['b','y','t','e','s','=','2','-','5',',','7','-']) true
      (FsHandler.run exEnv exFe (.new :: .feed exReq :: .turn :: exTail)).sock.log = true :=
  holds_run exEnv exFe exReq exHead exSnap _ _ exTail true (by decide +kernel) (by decide +kernel) (by decide +kernel) exPlan
    (by decide +kernel) (by decide +kernel) (by decide +kernel)

example :
    Obs.wire (FsHandler.run exEnv exFe (.new :: .feed exReq :: .turn :: exTail)).sock.log =
      lit ['H','T','T','P','/','1','.','0',' ','2','0','6',' ','P','A','R','T','I','A','L',' ','C','O','N','T','E','N','T','\r','\n',
           'C','o','n','t','e','n','t','-','L','e','n','g','t','h',':',' ','4','\r','\n',
           'C','o','n','t','e','n','t','-','R','a','n','g','e',':',' ','b','y','t','e','s',' ','2','-','5','/','1','1','\r','\n',
           'C','o','n','t','e','n','t','-','T','y','p','e',':',' ','t','e','x','t','/','p','l','a','i','n','\r','\n','\r','\n',
           'l','l','o',' '] := by
  have hb : (requestedRange (HeaderMap.value RANGE exSnap.headers) 11).isValid = true →
      0 ≤ (requestedRange (HeaderMap.value RANGE exSnap.headers) 11).absFrom ∧
      (requestedRange (HeaderMap.value RANGE exSnap.headers) 11).absFrom ≤
        (requestedRange (HeaderMap.value RANGE exSnap.headers) 11).absTo ∧
      (requestedRange (HeaderMap.value RANGE exSnap.headers) 11).absTo < (11 : Nat) := by decide +kernel
  rw [C08L.run_wire exEnv exFe exReq exHead ⟨2, lit ['/','f'], exSnap.headers⟩ (lit ['/','f']) [] _ _ exTail
    ⟨by decide +kernel, by decide +kernel, by decide +kernel, by decide +kernel⟩ exPlan (by decide +kernel) hb
    (by decide +kernel)]
  decide +kernel

end Qhttp.C08
