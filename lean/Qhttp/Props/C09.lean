import Qhttp.Model.BasicAuth
import Qhttp.Model.Http
import Qhttp.Props.C01
import Qhttp.Lemmas.C09Auth
import Qhttp.Lemmas.Base64
import Qhttp.Lemmas.C09Run
/-
  C09 — basic authentication admits exactly the registered credentials.
-/
namespace Qhttp.C09
open Qhttp BasicAuth

structure AuthScn where
  table : List (Bytes × Bytes)      -- registered (user, password), UTF-8
  realm : Bytes
  head  : Bytes                     -- the request head (bytes before the blank line)

def AuthScn.stream (sc : AuthScn) : Bytes := sc.head ++ CRLF2
def AuthScn.app (sc : AuthScn) : App := { onHp := fun s => ops sc.table sc.realm s }
def AuthScn.scenario (sc : AuthScn) : Scenario := { app := sc.app, events := [.new, .feed sc.stream, .turn] }

/-- the Authorization value the application is shown (C01): most recent header of that name -/
def authValue (env : Env) (sc : AuthScn) : Option Bytes :=
  (C01.expect env sc.head).map fun f => HeaderMap.value AUTHORIZATION f.headers

/-- the property's own reading of "admitted": `Basic` in any letter case, ONE space, a token
    without space that base64-decodes to `user:password` (cut at the first colon) where exactly
    that user is registered with exactly that password -/
def specAdmit (table : List (Bytes × Bytes)) (v : Bytes) : Bool :=
  match breakOn [SP] v with
  | none => false
  | some (s, tok) =>
    lower s == BASIC && !containsByte SP tok &&
    (match breakOn [COLON] (fromBase64 tok) with
     | some (u, p) => lookup table u == some p
     | none => false)

def admitted (obs : List Obs) : Bool := obs.any fun o => match o with | .pr _ _ => true | _ => false

/-- admitted iff the credentials are the registered ones; every refusal is one 401 carrying the
    challenge for the configured realm, closed, and nothing downstream runs -/
def holds (env : Env) (sc : AuthScn) (obs : List Obs) : Bool :=
  match authValue env sc with
  | none => !admitted obs                         -- request rejected (400): never routed
  | some v =>
    if specAdmit sc.table v then admitted obs
    else
      !admitted obs &&
      (match Http.parse (Obs.wire obs) with
       | some m =>
         (Http.statusLine m.start).map (·.code) == some 401 &&
         Http.valuesOf WWW_AUTH m.headers == [challenge sc.realm] &&
         Http.valuesOf Sock.CONTENT_LENGTH m.headers == [natDigits m.body.length]
       | none => false) &&
      obs.any Obs.isTc

theorem SP_singleton : ([SP] : Bytes) = [32] := rfl
theorem COLON_ne_nil : ([COLON] : Bytes) ≠ [] := by simp

/-- `BasicAuthMiddleware::process`'s way of taking the header apart (`split(' ')`, two parts,
    `Parser::split(":", 1)`) and the property's reading (`specAdmit`) agree on every input -/
theorem verdict_eq_spec (table : List (Bytes × Bytes)) (v : Bytes) :
    BasicAuth.verdict table v = C09.specAdmit table v := by
  unfold verdict specAdmit
  rw [SP_singleton]
  rcases splitChar_cases 32 v with ⟨hb, hs⟩ | ⟨a, r, hb, hm, hs⟩ | ⟨a, r, x, y, l, hb, hm, hs⟩
  · rw [hs, hb]
  · rw [hs, hb]
    simp only
    rw [show containsByte SP r = false from containsByte_eq_false_iff.2 hm, split_one_eq COLON_ne_nil]
    cases breakOn [COLON] (fromBase64 r) <;> simp
  · rw [hs, hb]
    simp only
    rw [show containsByte SP r = true from containsByte_iff.2 hm]
    simp

theorem verdict_shape (table : List (Bytes × Bytes)) {s tok : Bytes} (hs : SP ∉ s) (ht : SP ∉ tok) :
    verdict table (s ++ [SP] ++ tok) =
      (lower s == BASIC &&
        match breakOn [COLON] (fromBase64 tok) with
        | some (u, p) => lookup table u == some p
        | none => false) := by
  rw [verdict_eq_spec]
  unfold specAdmit
  rw [breakOn_singleton tok hs]
  simp only
  rw [show containsByte SP tok = false from containsByte_eq_false_iff.2 ht]
  simp

theorem verdict_payload (table : List (Bytes × Bytes)) {s tok u q : Bytes} (hs : SP ∉ s)
    (ht : SP ∉ tok) (hd : fromBase64 tok = u ++ [COLON] ++ q) (hu : COLON ∉ u) :
    verdict table (s ++ [SP] ++ tok) = (lower s == BASIC && lookup table u == some q) := by
  rw [verdict_shape table hs ht, hd, breakOn_singleton q hu]

/-- **admitted iff**: `scheme SP token`, scheme `basic` in any letter case, no other space, the
    token decodes (Qt's lenient decoder) to `u:p` cut at the FIRST colon, the table maps `u` to `p` -/
theorem admit_iff (table : List (Bytes × Bytes)) (v : Bytes) :
    verdict table v = true ↔
      ∃ s tok u p, v = s ++ [SP] ++ tok ∧ lower s = BASIC ∧ SP ∉ s ∧ SP ∉ tok ∧
        fromBase64 tok = u ++ [COLON] ++ p ∧ COLON ∉ u ∧ lookup table u = some p := by
  constructor
  · intro h
    rw [verdict_eq_spec] at h
    unfold specAdmit at h
    cases hb : breakOn [SP] v with
    | none => rw [hb] at h; cases h
    | some q =>
      obtain ⟨s, tok⟩ := q
      rw [hb] at h
      simp only [Bool.and_eq_true, Bool.not_eq_true', beq_iff_eq] at h
      obtain ⟨⟨h1, h2⟩, h3⟩ := h
      cases hc : breakOn [COLON] (fromBase64 tok) with
      | none => rw [hc] at h3; cases h3
      | some q =>
        obtain ⟨u, p⟩ := q
        rw [hc] at h3
        exact ⟨s, tok, u, p, breakOn_some hb, h1, breakOn_singleton_not_mem hb,
          containsByte_eq_false_iff.1 h2, breakOn_some hc, breakOn_singleton_not_mem hc,
          by simpa using h3⟩
  · rintro ⟨s, tok, u, p, rfl, h1, h2, h3, h4, h5, h6⟩
    rw [verdict_payload table h2 h3 h4 h5, h1, h6]
    simp

theorem BASIC_SP_eq : lit ['B','a','s','i','c',' '] = lit ['B','a','s','i','c'] ++ [SP] := by decide

/-- user names cannot contain ':' (RFC 7617) -/
theorem valid_admitted_anycase (table : List (Bytes × Bytes)) {s u p : Bytes} (hs : lower s = BASIC)
    (hu : COLON ∉ u) (hl : lookup table u = some p) :
    verdict table (s ++ [SP] ++ b64encode (u ++ [COLON] ++ p)) = true := by
  have hsp : SP ∉ s := by
    intro hm
    have : lower8 SP ∈ lower s := List.mem_map.2 ⟨SP, hm, rfl⟩
    rw [hs] at this
    revert this; decide
  rw [verdict_payload table hsp (SP_not_mem_b64encode _) (b64_roundtrip _) hu, hs, hl]
  simp

theorem valid_admitted (table : List (Bytes × Bytes)) {u p : Bytes} (hu : COLON ∉ u)
    (hl : lookup table u = some p) :
    verdict table (lit ['B','a','s','i','c',' '] ++ b64encode (u ++ [COLON] ++ p)) = true := by
  rw [BASIC_SP_eq]
  exact valid_admitted_anycase table (by decide) hu hl

theorem wrong_password_refused (table : List (Bytes × Bytes)) {s tok u p q : Bytes} (hs : SP ∉ s)
    (ht : SP ∉ tok) (hd : fromBase64 tok = u ++ [COLON] ++ q) (hu : COLON ∉ u)
    (hl : lookup table u = some p) (hne : q ≠ p) :
    verdict table (s ++ [SP] ++ tok) = false := by
  rw [verdict_payload table hs ht hd hu, hl]
  have : (some p == some q) = false := by simpa using fun h : p = q => hne h.symm
  simp [this]

theorem basic_wrong_password (table : List (Bytes × Bytes)) {u p q : Bytes} (hu : COLON ∉ u)
    (hl : lookup table u = some p) (hne : q ≠ p) :
    verdict table (lit ['B','a','s','i','c',' '] ++ b64encode (u ++ [COLON] ++ q)) = false := by
  rw [BASIC_SP_eq]
  exact wrong_password_refused table (by decide) (SP_not_mem_b64encode _) (b64_roundtrip _) hu hl hne

theorem prefix_password_refused (table : List (Bytes × Bytes)) {u p : Bytes} (k : Nat)
    (hk : k < p.length) (hu : COLON ∉ u) (hl : lookup table u = some p) :
    verdict table (lit ['B','a','s','i','c',' '] ++ b64encode (u ++ [COLON] ++ p.take k)) = false := by
  refine basic_wrong_password table hu hl fun h => ?_
  have := congrArg List.length h
  rw [List.length_take] at this
  omega

theorem case_changed_password_refused (table : List (Bytes × Bytes)) {u p q : Bytes}
    (hq : q ≠ p) (_hfold : lower q = lower p) (hu : COLON ∉ u) (hl : lookup table u = some p) :
    verdict table (lit ['B','a','s','i','c',' '] ++ b64encode (u ++ [COLON] ++ q)) = false :=
  basic_wrong_password table hu hl hq

theorem empty_password_refused (table : List (Bytes × Bytes)) {u p : Bytes} (hp : p ≠ [])
    (hu : COLON ∉ u) (hl : lookup table u = some p) :
    verdict table (lit ['B','a','s','i','c',' '] ++ b64encode (u ++ [COLON])) = false := by
  have := basic_wrong_password table (q := []) hu hl fun h => hp h.symm
  rwa [List.append_nil] at this

theorem other_users_password_refused (table : List (Bytes × Bytes)) {u p u' p' : Bytes}
    (hl : lookup table u = some p) (_hl' : lookup table u' = some p') (hne : p' ≠ p) (hu : COLON ∉ u) :
    verdict table (lit ['B','a','s','i','c',' '] ++ b64encode (u ++ [COLON] ++ p')) = false :=
  basic_wrong_password table hu hl hne

theorem unknown_user_refused (table : List (Bytes × Bytes)) {s tok u q : Bytes} (hs : SP ∉ s)
    (ht : SP ∉ tok) (hd : fromBase64 tok = u ++ [COLON] ++ q) (hu : COLON ∉ u)
    (hl : lookup table u = none) :
    verdict table (s ++ [SP] ++ tok) = false := by
  rw [verdict_payload table hs ht hd hu, hl]
  simp

theorem admitted_one_space {table : List (Bytes × Bytes)} {v : Bytes} (h : verdict table v = true) :
    v.count SP = 1 := by
  obtain ⟨s, tok, u, p, rfl, _, hs, ht, _⟩ := (admit_iff _ _).1 h
  simp [List.count_append, List.count_eq_zero.2 hs, List.count_eq_zero.2 ht]

theorem two_spaces_refused (table : List (Bytes × Bytes)) (a b c : Bytes) :
    verdict table (a ++ [SP] ++ b ++ [SP] ++ c) = false := by
  cases h : verdict table (a ++ [SP] ++ b ++ [SP] ++ c) with
  | false => rfl
  | true =>
    have := admitted_one_space h
    simp only [List.count_append, List.count_singleton_self] at this
    omega

theorem no_space_refused (table : List (Bytes × Bytes)) {v : Bytes} (h : SP ∉ v) :
    verdict table v = false := by
  cases hv : verdict table v with
  | false => rfl
  | true =>
    have := admitted_one_space hv
    rw [List.count_eq_zero.2 h] at this
    cases this

theorem missing_header_refused (table : List (Bytes × Bytes)) : verdict table [] = false := rfl

theorem extra_space_refused (table : List (Bytes × Bytes)) {s tok : Bytes} (h : SP ∈ s ∨ SP ∈ tok) :
    verdict table (s ++ [SP] ++ tok) = false := by
  rcases h with h | h
  · obtain ⟨a, b, rfl⟩ := List.mem_iff_append.1 h
    simpa [List.append_assoc] using two_spaces_refused table a b tok
  · obtain ⟨a, b, rfl⟩ := List.mem_iff_append.1 h
    simpa [List.append_assoc] using two_spaces_refused table s a b

theorem missing_colon_refused (table : List (Bytes × Bytes)) (s tok : Bytes)
    (hc : COLON ∉ fromBase64 tok) : verdict table (s ++ [SP] ++ tok) = false := by
  by_cases h : SP ∈ s ∨ SP ∈ tok
  · exact extra_space_refused table h
  · rw [verdict_shape table (fun hs => h (.inl hs)) (fun ht => h (.inr ht)),
      breakOn_singleton_eq_none_iff.2 hc]
    simp

theorem other_scheme_refused (table : List (Bytes × Bytes)) (s tok : Bytes) (hs : lower s ≠ BASIC) :
    verdict table (s ++ [SP] ++ tok) = false := by
  by_cases h : SP ∈ s ∨ SP ∈ tok
  · exact extra_space_refused table h
  · rw [verdict_shape table (fun hs => h (.inl hs)) (fun ht => h (.inr ht))]
    have : (lower s == BASIC) = false := by simpa using hs
    rw [this]; rfl

/-- `lookup` is whole-string, case-sensitive byte equality -/
theorem lookup_exact {table : List (Bytes × Bytes)} {u p : Bytes} (h : lookup table u = some p) :
    (u, p) ∈ table := lookup_some_mem h

theorem admitted_registered {table : List (Bytes × Bytes)} {v : Bytes} (h : verdict table v = true) :
    ∃ s tok u p, v = s ++ [SP] ++ tok ∧ fromBase64 tok = u ++ [COLON] ++ p ∧ COLON ∉ u ∧
      (u, p) ∈ table := by
  obtain ⟨s, tok, u, p, h1, _, _, _, h2, h3, h4⟩ := (admit_iff _ _).1 h
  exact ⟨s, tok, u, p, h1, h2, h3, lookup_some_mem h4⟩

theorem empty_table_refuses (v : Bytes) : verdict [] v = false := by
  cases h : verdict [] v with
  | false => rfl
  | true =>
    obtain ⟨_, _, _, _, _, _, _, hm⟩ := admitted_registered h
    cases hm

/-- refusal: `false` recorded, `WWW-Authenticate` set (replacing), `writeError(401)`; nothing else -/
theorem challenge_shape_refused (table : List (Bytes × Bytes)) (realm : Bytes) (s : Sock)
    (h : verdict table (HeaderMap.value AUTHORIZATION s.reqHeaders) = false) :
    ops table realm s = [.note (.mw 0 false), .hdr WWW_AUTH (challenge realm) true, .err 401 none] := by
  unfold ops; rw [h]; rfl

/-- admission: no response-side call by the middleware; what follows is the downstream handler -/
theorem challenge_shape_admitted (table : List (Bytes × Bytes)) (realm : Bytes) (s : Sock)
    (h : verdict table (HeaderMap.value AUTHORIZATION s.reqHeaders) = true) :
    ops table realm s = [.note (.mw 0 true), .note (.pr 0 []), .write (lit ['o','k']), .close] := by
  unfold ops; rw [h]; rfl

theorem challenge_shape (table : List (Bytes × Bytes)) (realm : Bytes) (s : Sock) :
    (verdict table (HeaderMap.value AUTHORIZATION s.reqHeaders) = false →
       ops table realm s =
         [.note (.mw 0 false),
          .hdr (lit ['W','W','W','-','A','u','t','h','e','n','t','i','c','a','t','e'])
               (lit ['B','a','s','i','c',' ','r','e','a','l','m','=','"'] ++ realm ++ lit ['"']) true,
          .err 401 none]) ∧
    (verdict table (HeaderMap.value AUTHORIZATION s.reqHeaders) = true →
       (∀ op ∈ ops table realm s, (∀ n v r, op ≠ .hdr n v r) ∧ (∀ c r, op ≠ .err c r) ∧
          (∀ c r, op ≠ .status c r)) ∧
       (ops table realm s).head? = some (.note (.mw 0 true))) := by
  refine ⟨fun h => challenge_shape_refused table realm s h, fun h => ?_⟩
  rw [challenge_shape_admitted table realm s h]
  refine ⟨?_, rfl⟩
  intro op hop
  simp only [List.mem_cons, List.not_mem_nil, or_false] at hop
  rcases hop with rfl | rfl | rfl | rfl <;> simp

theorem challenge_injective {r1 r2 : Bytes} (h : challenge r1 = challenge r2) : r1 = r2 := by
  unfold challenge at h
  exact List.append_cancel_left (List.append_cancel_right h)

/-- users and passwords that are prefixes / case variants of each other, an empty password,
    a password containing ':' and a re-registered user (`bob`: the later entry wins) -/
def exTable : List (Bytes × Bytes) :=
  [ (lit ['u','s','e','r'], lit ['p','a','s','s']),
    (lit ['U','s','e','r'], lit ['P','a','s','s']),
    (lit ['u','s','e'],     lit ['p','a']),
    (lit ['n','o','b','o','d','y'], []),
    (lit ['b','o','b'], lit ['o','l','d']),
    (lit ['c','o','l'], lit ['a',':','b']),
    (lit ['b','o','b'], lit ['n','e','w']) ]

def hdr (scheme : List Char) (cred : List Char) : Bytes := lit scheme ++ [SP] ++ b64encode (lit cred)

example : verdict exTable (lit ['B','a','s','i','c',' ','d','X','N','l','c','j','p','w','Y','X','N','z']) = true := by decide +kernel
example : verdict exTable (hdr ['B','a','s','i','c'] ['u','s','e','r',':','p','a','s','s']) = true := by decide +kernel
example : verdict exTable (hdr ['b','a','s','i','c'] ['u','s','e','r',':','p','a','s','s']) = true := by decide +kernel
example : verdict exTable (hdr ['B','A','S','I','C'] ['U','s','e','r',':','P','a','s','s']) = true := by decide +kernel
example : verdict exTable (hdr ['B','a','s','i','c'] ['u','s','e',':','p','a']) = true := by decide +kernel
example : verdict exTable (hdr ['B','a','s','i','c'] ['n','o','b','o','d','y',':']) = true := by decide +kernel
example : verdict exTable (hdr ['B','a','s','i','c'] ['c','o','l',':','a',':','b']) = true := by decide +kernel
example : verdict exTable (hdr ['B','a','s','i','c'] ['b','o','b',':','n','e','w']) = true := by decide +kernel
example : verdict exTable (hdr ['B','a','s','i','c'] ['b','o','b',':','o','l','d']) = false := by decide +kernel
example : verdict exTable (hdr ['B','a','s','i','c'] ['u','s','e','r',':','p','a','s']) = false := by decide +kernel
example : verdict exTable (hdr ['B','a','s','i','c'] ['u','s','e','r',':','p','a']) = false := by decide +kernel
example : verdict exTable (hdr ['B','a','s','i','c'] ['u','s','e','r',':','P','a','s','s']) = false := by decide +kernel
example : verdict exTable (hdr ['B','a','s','i','c'] ['u','s','e','r',':','P','A','S','S']) = false := by decide +kernel
example : verdict exTable (hdr ['B','a','s','i','c'] ['u','s','e','r',':']) = false := by decide +kernel
example : verdict exTable (hdr ['B','a','s','i','c'] ['u','s','e','r',':','p','a','s','s','x']) = false := by decide +kernel
example : verdict exTable (hdr ['B','a','s','i','c'] ['U','S','E','R',':','p','a','s','s']) = false := by decide +kernel
example : verdict exTable (hdr ['B','a','s','i','c'] ['u','s','e','r','p','a','s','s']) = false := by decide +kernel
example : verdict exTable (hdr ['B','a','s','i','c'] ['u','s','e','r']) = false := by decide +kernel
example : verdict exTable (hdr ['B','e','a','r','e','r'] ['u','s','e','r',':','p','a','s','s']) = false := by decide +kernel
example : verdict exTable (hdr ['B','a','s','i','c','x'] ['u','s','e','r',':','p','a','s','s']) = false := by decide +kernel
example : verdict exTable (lit ['B','a','s','i','c',' ',' ','d','X','N','l','c','j','p','w','Y','X','N','z']) = false := by decide +kernel
example : verdict exTable (lit ['B','a','s','i','c',' ','d','X','N','l','c','j','p','w','Y','X','N','z',' ']) = false := by decide +kernel
example : verdict exTable (lit [' ','B','a','s','i','c',' ','d','X','N','l','c','j','p','w','Y','X','N','z']) = false := by decide +kernel
example : verdict exTable (lit ['B','a','s','i','c','\t','d','X','N','l','c','j','p','w','Y','X','N','z']) = false := by decide +kernel
example : verdict exTable (lit ['B','a','s','i','c']) = false := by decide +kernel
example : verdict exTable [] = false := by decide +kernel
example : verdict exTable (lit ['d','X','N','l','c','j','p','w','Y','X','N','z']) = false := by decide +kernel
example : verdict [] (lit ['B','a','s','i','c',' ','d','X','N','l','c','j','p','w','Y','X','N','z']) = false := by decide +kernel
-- the lenient decoder skips junk inside the token: still exactly user:pass after decoding
example : verdict exTable (lit ['B','a','s','i','c',' ','d','X','N','l','-','c','j','p','w','Y','X','N','z','=','=','=']) = true := by decide +kernel
example : specAdmit exTable (lit ['B','a','s','i','c',' ','d','X','N','l','c','j','p','w','Y','X','N','z']) = true := by decide +kernel
example : specAdmit exTable (lit ['B','a','s','i','c',' ',' ','d','X','N','l','c','j','p','w','Y','X','N','z']) = false := by decide +kernel
example : lookup exTable (lit ['u','s','e','r']) = some (lit ['p','a','s','s']) := by decide +kernel
example : lookup exTable (lit ['U','s','e','r']) = some (lit ['P','a','s','s']) := by decide +kernel
example : lookup exTable (lit ['U','S','E','R']) = none := by decide +kernel
example : lookup exTable (lit ['u','s']) = none := by decide +kernel
example : lookup exTable (lit ['u','s','e','r','s']) = none := by decide +kernel
example : lookup exTable (lit ['b','o','b']) = some (lit ['n','e','w']) := by decide +kernel

example : verdict exTable (lit ['B','a','s','i','c',' '] ++ b64encode (lit ['u','s','e','r'] ++ [COLON] ++ lit ['p','a','s','s'])) = true :=
  valid_admitted exTable (by decide +kernel) (by decide +kernel)
example : verdict exTable (lit ['B','a','s','i','c',' '] ++ b64encode (lit ['u','s','e','r'] ++ [COLON] ++ (lit ['p','a','s','s']).take 3)) = false :=
  prefix_password_refused exTable 3 (by decide +kernel) (by decide +kernel) (by decide +kernel)
example : verdict exTable (lit ['B','a','s','i','c',' '] ++ b64encode (lit ['u','s','e','r'] ++ [COLON] ++ lit ['P','a','s','s'])) = false :=
  case_changed_password_refused exTable (p := lit ['p','a','s','s']) (by decide +kernel) (by decide +kernel) (by decide +kernel) (by decide +kernel)
example : verdict exTable (lit ['B','a','s','i','c',' '] ++ b64encode (lit ['u','s','e','r'] ++ [COLON])) = false :=
  empty_password_refused exTable (p := lit ['p','a','s','s']) (by decide +kernel) (by decide +kernel) (by decide +kernel)
example : verdict exTable (lit ['B','a','s','i','c',' '] ++ b64encode (lit ['u','s','e','r'] ++ [COLON] ++ lit ['P','a','s','s'])) = false :=
  other_users_password_refused exTable (u' := lit ['U','s','e','r']) (p := lit ['p','a','s','s']) (by decide +kernel) (by decide +kernel) (by decide +kernel) (by decide +kernel)
example : ∃ v, verdict exTable v = true := ⟨_, valid_admitted exTable (u := lit ['u','s','e']) (p := lit ['p','a']) (by decide +kernel) (by decide +kernel)⟩

open C09L in
theorem admitted_append (a c : List Obs) : admitted (a ++ c) = (admitted a || admitted c) := by
  simp [admitted, List.any_append]

/-- `head` is the text before the first blank line of the stream (no blank line inside, no final CRLF) -/
def headShape (sc : AuthScn) : Bool := breakOn CRLF2 sc.stream == some (sc.head, [])

theorem headShape_of_not_infix (sc : AuthScn) (h : ¬ CRLF2 <:+: sc.head ++ CRLF2.dropLast) :
    headShape sc = true := by
  unfold headShape AuthScn.stream
  have := breakOn_of_not_infix (d := CRLF2) (a := sc.head) [] (by decide) h
  rw [List.append_nil] at this
  rw [this]; simp

/-- the challenge is one header line carrying one value: no CR in the realm (the library does not
    escape it) and no `", "` (`Http.valuesOf` would read the value back as two) -/
def realmOk (realm : Bytes) : Bool := !containsByte CR realm && !isInfixB [44, 32] realm

open C09L in
/-- **C09 on the model**: for every environment, credential table, realm (`realmOk`) and request
    head, the history of `new; feed (head ++ CRLF CRLF); turn` satisfies the driver's predicate -/
theorem holds_run (env : Env) (sc : AuthScn) (hh : headShape sc = true) (hr : realmOk sc.realm = true) :
    C09.holds env sc (Scenario.run env sc.scenario).log = true := by
  have hb : breakOn CRLF2 sc.stream = some (sc.head, []) := by simpa [headShape] using hh
  have hrun : Scenario.run env sc.scenario =
      Sock.run env (authApp sc.table sc.realm) [.new, .feed sc.stream, .turn] := rfl
  simp only [realmOk, Bool.and_eq_true, Bool.not_eq_true'] at hr
  obtain ⟨hcr, hcs⟩ := hr
  unfold holds authValue
  cases he : C01.expect env sc.head with
  | none =>
    have hbad : BadHead env sc.head := by
      intro rh hp
      unfold C01.expect at he
      rw [hp] at he
      cases hu : env.url rh.rawPath with
      | none => rfl
      | some pq => obtain ⟨p, q⟩ := pq; simp [hu] at he
    rw [hrun, run_bad env _ sc.stream sc.head [] hb hbad]
    simp only [Option.map_none]
    unfold log400
    split <;> simp [admitted]
  | some f =>
    obtain ⟨rh, p, q, hp, hu, rfl⟩ := (C01.expect_eq_some_iff env sc.head f).1 he
    simp only [Option.map_some]
    rw [← verdict_eq_spec]
    cases hv : verdict sc.table (HeaderMap.value AUTHORIZATION rh.headers) with
    | true =>
      obtain ⟨tail, ht⟩ := run_admitted env sc.table sc.realm sc.stream sc.head [] rh p q hb hp hu hv
      rw [hrun, ht]
      simp [admitted]
    | false =>
      have ht := run_refused env sc.table sc.realm sc.stream sc.head [] rh p q hb hp hu hv
      rw [hrun, ht]
      -- wire, admission and close of the refusal do not depend on what the head bytes are
      have hp401 := parse_401 env sc.realm hcr
      generalize errStart 401 ++ CRLF ++ Sock.headerLines (errHeaders [(WWW_AUTH, challenge sc.realm)]
        (natDigits (errBody env 401).length)) ++ CRLF = W at hp401 ⊢
      have hL : ∀ L, L = [Obs.ev 0, Obs.ev 1, Obs.hp, Obs.mw 0 false] ++
          (Obs.w W :: ((if (errBody env 401).isEmpty then [] else [Obs.w (errBody env 401)]) ++ [Obs.tc])) ++
          [Obs.ev 2] →
          Obs.wire L = W ++ errBody env 401 ∧ admitted L = false ∧ L.any Obs.isTc = true := by
        rintro L rfl
        cases errBody env 401 <;> simp [Obs.wire, admitted, Obs.isTc]
      obtain ⟨hw, hadm, htc⟩ := hL _ rfl
      rw [hw, hp401, hadm, htc]
      simp only [msg401, statusLine_errStart (c := 401) (by decide), valuesOf_auth_401 _ _ (challenge_no_commaSP hcs),
        valuesOf_cl_401]
      simp

def exEnv : Env := { url := fun p => some (p, []), errPage := fun _ r => r }
def exHeadAuth (cred : List Char) : Bytes :=
  lit ['G','E','T',' ','/',' ','H','T','T','P','/','1','.','0'] ++ CRLF ++
  lit ['A','u','t','h','o','r','i','z','a','t','i','o','n',':',' ','B','a','s','i','c',' '] ++ b64encode (lit cred)
def exScn (realm : List Char) (head : Bytes) : AuthScn := { table := exTable, realm := lit realm, head := head }

example : headShape (exScn ['r'] (exHeadAuth ['u','s','e','r',':','p','a','s','s'])) = true := by decide +kernel
example : realmOk (lit ['m','y',' ','r','e','a','l','m',',','"','x','"']) = true := by decide +kernel
example : holds exEnv (exScn ['r'] (exHeadAuth ['u','s','e','r',':','p','a','s','s']))
    (Scenario.run exEnv (exScn ['r'] (exHeadAuth ['u','s','e','r',':','p','a','s','s'])).scenario).log = true := by
  decide +kernel
example : admitted
    (Scenario.run exEnv (exScn ['r'] (exHeadAuth ['u','s','e','r',':','p','a','s','s'])).scenario).log = true := by
  decide +kernel
example : holds exEnv (exScn ['r'] (exHeadAuth ['u','s','e','r',':','p','a','s']))
    (Scenario.run exEnv (exScn ['r'] (exHeadAuth ['u','s','e','r',':','p','a','s'])).scenario).log = true := by
  decide +kernel
example : admitted
    (Scenario.run exEnv (exScn ['r'] (exHeadAuth ['u','s','e','r',':','p','a','s'])).scenario).log = false := by
  decide +kernel
example : holds exEnv (exScn ['r'] (lit ['G','A','R','B','A','G','E']))
    (Scenario.run exEnv (exScn ['r'] (lit ['G','A','R','B','A','G','E'])).scenario).log = true := by
  decide +kernel
-- why `realmOk` is a hypothesis: with `", "` in the realm the PREDICATE (not the library) fails
example : holds exEnv (exScn ['a',',',' ','b'] (exHeadAuth ['u','s','e','r',':','p','a','s']))
    (Scenario.run exEnv (exScn ['a',',',' ','b'] (exHeadAuth ['u','s','e','r',':','p','a','s'])).scenario).log = false := by
  decide +kernel
-- why `headShape` is a hypothesis
example : holds exEnv (exScn ['r'] (exHeadAuth ['u','s','e','r',':','p','a','s','s'] ++ CRLF))
    (Scenario.run exEnv (exScn ['r'] (exHeadAuth ['u','s','e','r',':','p','a','s','s'] ++ CRLF)).scenario).log = false := by
  decide +kernel
example : holds exEnv (exScn ['r'] (exHeadAuth ['u','s','e','r',':','p','a','s','s']))
    (Scenario.run exEnv (exScn ['r'] (exHeadAuth ['u','s','e','r',':','p','a','s','s'])).scenario).log = true :=
  holds_run _ _ (by decide +kernel) (by decide +kernel)

end Qhttp.C09
