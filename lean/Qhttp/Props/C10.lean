import Qhttp.Model.Life
import Qhttp.Lemmas.C10Sock
import Qhttp.Lemmas.C10Life
import Qhttp.Lemmas.C10Copy
import Qhttp.Lemmas.C10Dc
/-
  C10 — connections never outlive their peer and ending one never crashes.  PARTIAL, in two ways:
  memory errors are observed with sanitizers, not proved; and of the per-connection objects the
  property names, the model `Life` has the HTTP socket behind the filesystem handler only
  (`Life.live` is 1 while that socket is alive and the Server exists).  What is proved is the
  ownership protocol of that socket, for every environment and every event sequence.
-/
namespace Qhttp.C10
open Qhttp

/-- `misc 30 [n]`: the harness' count of live per-connection objects at the end of a scenario -/
def liveOf (obs : List Obs) : Option Nat :=
  obs.findSome? fun o => match o with | .misc 30 [n] => some n.toNat | _ => none
/-- `misc 31 [n]`: its count of descriptors left open; the model has no descriptors -/
def fdOf (obs : List Obs) : Option Nat :=
  obs.findSome? fun o => match o with | .misc 31 [n] => some n.toNat | _ => none

/-- every scenario of the `life` family ends with both sides closed and four event-loop turns;
    then no per-connection object and no descriptor is left, and nothing crashed on the way -/
def holds (obs : List Obs) : Bool :=
  !obs.any Obs.isCrash && liveOf obs == some 0 && fdOf obs == some 0

open Qhttp Qhttp.C10L

theorem dead_is_inert (env : Env) (app : App) (s : Sock) (h : s.alive = false) :
    (∀ e, Sock.step env app s e = s) ∧ (∀ op, Sock.apiPrim env s op = s) ∧
    (s.dcFlag = false → ∀ op, Sock.api env app s op = s) :=
  ⟨fun e => Sock.step_dead env app e h, fun op => Sock.apiPrim_dead env op h,
   fun hf op => Sock.api_dead env app op h hf⟩

/-- the side condition of `dead_is_inert` for `api` always holds -/
theorem dcFlag_clear (env : Env) (app : App) (s : Sock) :
    (∀ op, (Sock.api env app s op).dcFlag = false) ∧ (Sock.emitDc env app s).dcFlag = false ∧
    (∀ e, s.dcFlag = false → (Sock.step env app s e).dcFlag = false) := by
  refine ⟨fun op => (api_ext env app s op).2, (emitDc_ext env app s).2.1, fun e hf => ?_⟩
  cases ha : s.alive
  · rw [Sock.step_dead env app e ha]; exact hf
  · by_cases he : e = .turn
    · subst he
      rw [Sock.step_turn env app s ha]
      exact (reap_evo _).df ((initRead_extE env app s).2 hf)
    · exact (step_extE env app s e he).2 hf

theorem dcFlag_clear_run (env : Env) (app : App) (evs : List Event) :
    (Sock.run env app evs).dcFlag = false := by
  refine List.foldlRecOn (motive := fun sk : Sock × Nat => sk.1.dcFlag = false) evs _ rfl
    fun sk h e _ => ?_
  unfold Sock.stepK
  apply (dcFlag_clear env app _).2.2
  -- `stepK` records the event marker on a live socket only; either way the flag is untouched
  split
  · exact h
  · exact h

theorem dead_is_inert_fs (env : Env) (fe : FsHandler.FsEnv) (st : FsHandler.St) (e : Event)
    (h : st.sock.alive = false) : FsHandler.step env fe st e = st :=
  fsStep_dead env fe st e h

theorem dead_is_inert_life (env : Env) (fe : FsHandler.FsEnv) (st : Life.St) (e : Event)
    (h : st.fs.sock.alive = false) : Life.step env fe st (.ev e) = st :=
  lifeStep_dead env fe st e h

theorem dead_stays_dead (env : Env) (fe : FsHandler.FsEnv) (st : Life.St) (ev : Life.LEv)
    (h : st.fs.sock.alive = false) : (Life.step env fe st ev).fs.sock.alive = false := by
  cases hx : (Life.step env fe st ev).fs.sock.alive
  · rfl
  · have := (lifeStep_evo env fe st ev).al hx
    rw [h] at this
    exact absurd this (by simp)

theorem dead_is_inert_reachable (env : Env) (fe : FsHandler.FsEnv) (evs : List Life.LEv) (op : ApiOp)
    (h : (Life.run env fe evs).fs.sock.alive = false) :
    Sock.api env (FsHandler.app fe) (Life.run env fe evs).fs.sock op = (Life.run env fe evs).fs.sock :=
  Sock.api_dead env _ op h (run_inv env fe evs).df

/-- an event during which the transport reported `disconnected` leaves the deletion scheduled -/
theorem dc_schedules_deletion (env : Env) (fe : FsHandler.FsEnv) (st : Life.St) (e : Event)
    (ha : (Life.step env fe st (.ev e)).fs.sock.alive = true)
    (hdc : Life.dcCount (Life.step env fe st (.ev e)).fs.sock ≠ Life.dcCount st.fs.sock) :
    (Life.step env fe st (.ev e)).fs.sock.delPending = true :=
  lifeStep_schedules env fe st e ha hdc

theorem delPending_mono (env : Env) (app : App) (s : Sock) (h : s.delPending = true) :
    (∀ op, (Sock.api env app s op).delPending = true) ∧
    (∀ e, e ≠ .turn → (Sock.step env app s e).delPending = true) ∧
    (∀ l, (FsHandler.relay env app s l).delPending = true) :=
  ⟨fun op => (api_ext env app s op).1.dp h, fun e he => (step_extE env app s e he).1.dp h,
   fun l => (relay_extE env app l s).1.dp h⟩

theorem alive_const (env : Env) (app : App) (s : Sock) :
    (∀ op, (Sock.api env app s op).alive = s.alive) ∧
    (∀ e, e ≠ .turn → (Sock.step env app s e).alive = s.alive) ∧
    (∀ l, (FsHandler.relay env app s l).alive = s.alive) :=
  ⟨fun op => (api_ext env app s op).1.al, fun e he => (step_extE env app s e he).1.al,
   fun l => (relay_extE env app l s).1.al⟩

theorem delPending_stays (env : Env) (fe : FsHandler.FsEnv) (st : Life.St) (ev : Life.LEv)
    (hev : ev ≠ .ev .turn) (h : st.fs.sock.delPending = true) :
    (Life.step env fe st ev).fs.sock.delPending = true := by
  cases ev with
  | ev e => exact lifeStep_keeps env fe st e (fun he => hev (by rw [he])) h
  | killServer =>
    unfold Life.step
    dsimp only
    split
    · exact h
    · exact h

theorem turn_deletes (env : Env) (fe : FsHandler.FsEnv) (st : Life.St) (hs : st.deadSrv = false)
    (ha : st.fs.sock.alive = true) (hd : st.fs.sock.delPending = true) :
    (Life.step env fe st (.ev .turn)).fs.sock.alive = false :=
  lifeStep_turn_deletes env fe st hs ha hd

/-- on reachable states the Server is there whenever the socket is -/
theorem turn_deletes_run (env : Env) (fe : FsHandler.FsEnv) (evs : List Life.LEv)
    (hd : (Life.run env fe evs).fs.sock.delPending = true) :
    (Life.step env fe (Life.run env fe evs) (.ev .turn)).fs.sock.alive = false := by
  cases ha : (Life.run env fe evs).fs.sock.alive
  · exact dead_stays_dead env fe _ _ ha
  · cases hs : (Life.run env fe evs).deadSrv
    · exact turn_deletes env fe _ hs ha hd
    · have := (run_inv env fe evs).ds hs
      rw [ha] at this
      exact absurd this (by simp)

theorem dc_implies_delPending (env : Env) (fe : FsHandler.FsEnv) (evs : List Life.LEv)
    (ha : (Life.run env fe evs).fs.sock.alive = true)
    (hdc : Obs.dc ∈ (Life.run env fe evs).fs.sock.log) :
    (Life.run env fe evs).fs.sock.delPending = true :=
  (run_inv env fe evs).dl ha hdc

theorem released (env : Env) (fe : FsHandler.FsEnv) (evs : List Life.LEv)
    (hdc : Obs.dc ∈ (Life.run env fe evs).fs.sock.log) :
    Life.live (Life.step env fe (Life.run env fe evs) (.ev .turn)) = 0 := by
  have hal : (Life.step env fe (Life.run env fe evs) (.ev .turn)).fs.sock.alive = false := by
    cases ha : (Life.run env fe evs).fs.sock.alive
    · exact dead_stays_dead env fe _ _ ha
    · exact turn_deletes_run env fe evs (dc_implies_delPending env fe evs ha hdc)
  simp [Life.live, hal]

theorem killServer_releases (env : Env) (fe : FsHandler.FsEnv) (st : Life.St) :
    Life.live (Life.step env fe st .killServer) = 0 := by
  cases hs : st.deadSrv <;> simp [Life.live, Life.step, hs]

theorem live_zero_stays (env : Env) (fe : FsHandler.FsEnv) (st : Life.St) (ev : Life.LEv)
    (h : Life.live st = 0) : Life.live (Life.step env fe st ev) = 0 := by
  cases hs : st.deadSrv
  · have ha : st.fs.sock.alive = false := by
      cases hx : st.fs.sock.alive
      · rfl
      · simp [Life.live, hs, hx] at h
    simp [Life.live, dead_stays_dead env fe st ev ha]
  · rw [lifeStep_deadSrv env fe st ev hs]; exact h

/-- C19's counting invariant carried through the composed model.  Hypothesis, as in C19: API
    calls from idle context `note` nothing that is counted (`C10L.lifeEvOK`). -/
theorem dc_at_most_once (env : Env) (fe : FsHandler.FsEnv) (evs : List Life.LEv)
    (h : evs.all lifeEvOK = true) :
    Obs.countP Obs.isDc (Life.run env fe evs).fs.sock.log ≤ 1 :=
  DS_final (run_D env fe evs h)

theorem dc_at_most_once_fs (env : Env) (fe : FsHandler.FsEnv) (evs : List Event)
    (h : evs.all C19L.evOK = true) :
    Obs.countP Obs.isDc (FsHandler.run env fe evs).sock.log ≤ 1 := by
  apply DS_final
  refine List.foldlRecOn (motive := fun st : FsHandler.St => DS 0 st.sock) evs _ DS_init
    fun st hs e he => ?_
  exact fsStep_D env fe st e (List.all_eq_true.mp h e he) hs

theorem dcCount_le_one (env : Env) (fe : FsHandler.FsEnv) (evs : List Life.LEv)
    (h : evs.all lifeEvOK = true) : Life.dcCount (Life.run env fe evs).fs.sock ≤ 1 :=
  dc_at_most_once env fe evs h

/-- `disconnected` reported during an event while an unfinished, unstopped copier exists and the
    socket is still there: the Server glue stops the copier, `Socket::close` is called and the
    deletion of the socket is scheduled -/
theorem copy_stopped_on_disconnect (env : Env) (fe : FsHandler.FsEnv) (st : Life.St) (e : Event)
    (cfg : Copier.Cfg) (cs : Copier.St) (hs : st.deadSrv = false) (hst : st.stopped = false)
    (ha : (FsHandler.step env fe st.fs e).sock.alive = true)
    (hdc : Life.dcCount (FsHandler.step env fe st.fs e).sock ≠ Life.dcCount st.fs.sock)
    (hc : (FsHandler.step env fe st.fs e).cop = some (cfg, cs)) (hf : copFinished cs = false) :
    (Life.step env fe st (.ev e)).stopped = true ∧
    (Life.step env fe st (.ev e)).fs.cop = some (cfg, Copier.stop cs) ∧
    (Copier.stop cs).stopped = true ∧
    (Life.step env fe st (.ev e)).fs.sock.closeCalled = true ∧
    (Life.step env fe st (.ev e)).fs.sock.delPending = true ∧
    (Life.step env fe st (.ev e)).fs.sock.alive = true := by
  rw [lifeStep_ev env fe st e hs,
    afterEvent_stops env fe _ { st with fs := FsHandler.step env fe st.fs e } cfg cs ha hdc hc hf hst]
  refine ⟨rfl, rfl, rfl, api_close_cc env _ _ ha, (api_ext env _ _ _).1.dp rfl, ?_⟩
  exact (api_ext env _ _ _).1.al.trans ha

theorem stopped_means_stopped (env : Env) (fe : FsHandler.FsEnv) (evs : List Life.LEv)
    (h : (Life.run env fe evs).stopped = true) :
    ∃ cfg cs, (Life.run env fe evs).fs.cop = some (cfg, cs) ∧ cs.stopped = true ∧
      (Life.run env fe evs).fs.sock.closeCalled = true :=
  (run_sinv env fe evs).sp h

/-- C14's `stop_halts` in state form (one `Copier.step … .turn` per event-loop turn) -/
theorem stopped_copier_silent (cfg : Copier.Cfg) (cs : Copier.St) (h : cs.stopped = true) :
    (Copier.step cfg cs .turn).log = cs.log ∧ (Copier.step cfg cs .turn).stopped = true :=
  copier_stopped_turn cfg cs h

/-- from a reachable stopped state on, the copier part of a turn (`C10L.turnCop`) leaves the socket as it is -/
theorem stopped_relays_nothing (env : Env) (fe : FsHandler.FsEnv) (evs : List Life.LEv) (a : App)
    (h : (Life.run env fe evs).stopped = true) (sock : Sock) :
    (turnCop env a { (Life.run env fe evs).fs with sock := sock }).sock = sock := by
  obtain ⟨cfg, cs, h1, h2, _⟩ := stopped_means_stopped env fe evs h
  exact turnCop_stopped env a _ cfg cs h1 h2

theorem stopped_persists (env : Env) (fe : FsHandler.FsEnv) (st : Life.St) (ev : Life.LEv)
    (h : st.stopped = true) : (Life.step env fe st ev).stopped = true := by
  cases hd : st.deadSrv
  · cases ev with
    | ev e =>
      rw [lifeStep_ev env fe st e hd]
      exact afterEvent_cases env fe _ _ (P := fun r => r.stopped = true) (fun _ => h) (fun _ _ => h)
        (fun _ _ _ _ _ _ _ => rfl)
    | killServer => simp [Life.step, hd, h]
  · rw [lifeStep_deadSrv env fe st ev hd]; exact h

theorem live_zero_foldl (env : Env) (fe : FsHandler.FsEnv) (evs : List Life.LEv) (st : Life.St)
    (h : Life.live st = 0) : Life.live (evs.foldl (Life.step env fe) st) = 0 := by
  induction evs generalizing st with
  | nil => exact h
  | cons ev evs ih => exact ih _ (live_zero_stays env fe st ev h)

/-- after the peer's close, the first event-loop turn releases the connection, whatever came
    before, in between and after; the socket need not even have been constructed -/
theorem released_after_peerClose (env : Env) (fe : FsHandler.FsEnv) (evs mid more : List Life.LEv) :
    Life.live (Life.run env fe (evs ++ .ev .peerClose :: (mid ++ .ev .turn :: more))) = 0 := by
  unfold Life.run
  rw [List.foldl_append, List.foldl_cons, List.foldl_append, List.foldl_cons]
  apply live_zero_foldl
  have h1 : Closing (List.foldl (Life.step env fe)
      (Life.step env fe (List.foldl (Life.step env fe) {} evs) (.ev .peerClose)) mid) :=
    Closing.foldl env fe mid (Closing.peerClose env fe (run_inv env fe evs))
  simp [Life.live, h1.turn env fe]

/-- the shortest closing sequence after which the socket is gone; the harness appends `driverTail` -/
def closeDown : List Life.LEv := [.ev .peerClose, .ev .ackAll, .ev .turn, .ev .turn]

theorem quiescent (env : Env) (fe : FsHandler.FsEnv) (evs : List Life.LEv) :
    Life.live (Life.run env fe (evs ++ closeDown)) = 0 :=
  released_after_peerClose env fe evs [.ev .ackAll] [.ev .turn]

/-- what the harness appends to every scenario of the `life` family (`tailEvs` in
    `Driver/Main.lean`), run without event markers, as `C10L.quietStep` does -/
def driverTail : List Life.LEv :=
  [.ev .peerClose, .ev .ackAll, .ev .turn, .ev .turn, .ev .turn, .ev .turn]

theorem live_quietStep (env : Env) (fe : FsHandler.FsEnv) (st : Life.St) (e : Life.LEv) :
    Life.live (quietStep env fe st e) = Life.live (Life.step env fe st e) := rfl

/-- the clause `misc 30 [0]` of `holds`, on the model -/
theorem quiescent_driver (env : Env) (fe : FsHandler.FsEnv) (evs : List Life.LEv) :
    Life.live (driverTail.foldl (quietStep env fe) (Life.run env fe evs)) = 0 := by
  have h1 := Closing.quietPeerClose env fe (run_inv env fe evs)
  have h2 := h1.quietStep env fe (.ev .ackAll)
  have h3 : Life.live (quietStep env fe (quietStep env fe (quietStep env fe (Life.run env fe evs)
      (.ev .peerClose)) (.ev .ackAll)) (.ev .turn)) = 0 := by
    rw [live_quietStep]
    simp [Life.live, h2.turn env fe]
  simp only [driverTail, List.foldl_cons, List.foldl_nil]
  rw [live_quietStep]; apply live_zero_stays
  rw [live_quietStep]; apply live_zero_stays
  rw [live_quietStep]; apply live_zero_stays
  exact h3

/-- observations the model never makes by itself (only an application `note` could) -/
def cleanObs : Obs → Bool
  | .crash => false
  | .misc 30 _ => false
  | .misc 31 _ => false
  | _ => true

theorem clean_prefix (l t : List Obs) (h : l.all cleanObs = true) :
    liveOf (l ++ t) = liveOf t ∧ fdOf (l ++ t) = fdOf t ∧
    (l ++ t).any Obs.isCrash = t.any Obs.isCrash := by
  have hl := List.all_eq_true.mp h
  refine ⟨?_, ?_, ?_⟩
  · unfold liveOf
    rw [List.findSome?_append, List.findSome?_eq_none_iff.mpr, Option.none_or]
    intro o ho
    have := hl o ho
    split
    · simp [cleanObs] at this
    · rfl
  · unfold fdOf
    rw [List.findSome?_append, List.findSome?_eq_none_iff.mpr, Option.none_or]
    intro o ho
    have := hl o ho
    split
    · simp [cleanObs] at this
    · rfl
  · rw [List.any_append, List.any_eq_false.mpr, Bool.false_or]
    intro o ho
    have := hl o ho
    cases o <;> simp [cleanObs, Obs.isCrash] at this ⊢

/-- `holds` on the observation list as the driver builds it: the history, the live count after
    the unmarked closing events, and `0` for the descriptor count the model does not have.
    Hypothesis: nobody `note`d a `crash` or a counter (a decidable check on the run). -/
theorem holds_model (env : Env) (fe : FsHandler.FsEnv) (evs : List Life.LEv)
    (hclean : (Life.run env fe evs).fs.sock.log.all cleanObs = true) :
    holds ((Life.run env fe evs).fs.sock.log ++
      [Obs.misc 30 [UInt8.ofNat (Life.live (driverTail.foldl (quietStep env fe) (Life.run env fe evs)))],
       Obs.misc 31 [0]]) = true := by
  rw [quiescent_driver]
  unfold holds
  obtain ⟨h1, h2, h3⟩ := clean_prefix _ [Obs.misc 30 [UInt8.ofNat 0], Obs.misc 31 [0]] hclean
  rw [h1, h2, h3]
  decide

def exEnv : Env := { url := fun p => some (p, []), errPage := fun _ _ => [60, 62] }
def exFe : FsHandler.FsEnv :=
  { root := lit ['/','r'], tree := [([lit ['r']], .dir), ([lit ['r'], lit ['f']], .file)],
    content := fun _ => lit ['h','e','l','l','o'],
    mime := fun _ => lit ['t','/','p'],
    listing := fun _ _ => [] }
def exReq : Bytes := lit ['G','E','T',' ','/','f',' ','H','T','T','P','/','1','.','1','\r','\n','\r','\n']

/-- the file is served, the client goes away before acknowledging: `dc` is reported -/
def exEvs : List Life.LEv := [.ev .new, .ev (.feed exReq), .ev .turn, .ev .turn, .ev .peerClose]

-- `released`
example : Obs.dc ∈ (Life.run exEnv exFe exEvs).fs.sock.log := by decide +kernel
example : Life.live (Life.run exEnv exFe exEvs) = 1 ∧
    (Life.run exEnv exFe exEvs).fs.sock.delPending = true ∧
    Life.live (Life.step exEnv exFe (Life.run exEnv exFe exEvs) (.ev .turn)) = 0 := by decide +kernel
-- `dc_schedules_deletion`
example :
    let st := Life.run exEnv exFe (exEvs.take 4)
    (Life.step exEnv exFe st (.ev .peerClose)).fs.sock.alive = true ∧
    Life.dcCount (Life.step exEnv exFe st (.ev .peerClose)).fs.sock ≠ Life.dcCount st.fs.sock ∧
    st.fs.sock.delPending = false := by decide +kernel
-- `dead_is_inert`
example :
    let st := Life.run exEnv exFe (exEvs ++ [.ev .turn])
    st.fs.sock.alive = false ∧ Obs.del ∈ st.fs.sock.log ∧
    (Life.step exEnv exFe st (.ev (.api (.write [65])))).fs.sock.log = st.fs.sock.log := by
  decide +kernel
-- `killServer_releases`, with the request in flight
example : Life.live (Life.run exEnv exFe [.ev .new, .ev (.feed exReq)]) = 1 ∧
    Life.live (Life.run exEnv exFe [.ev .new, .ev (.feed exReq), .killServer]) = 0 := by
  decide +kernel

-- `dc_at_most_once`; a late second close of the peer changes nothing
def exEvs2 : List Life.LEv := exEvs ++ [.ev .peerClose, .ev (.api .close), .ev .ackAll]
example : exEvs2.all lifeEvOK = true := by decide
example : Life.dcCount (Life.run exEnv exFe exEvs2).fs.sock = 1 := by decide +kernel
-- `copy_stopped_on_disconnect`: the copier is started and has not run when the client goes away
example :
    let st := Life.run exEnv exFe [.ev .new, .ev (.feed exReq)]
    let fs1 := FsHandler.step exEnv exFe st.fs .peerClose
    st.deadSrv = false ∧ st.stopped = false ∧ fs1.sock.alive = true ∧
    Life.dcCount fs1.sock ≠ Life.dcCount st.fs.sock ∧
    fs1.cop.map (fun p => copFinished p.2) = some false ∧
    (Life.step exEnv exFe st (.ev .peerClose)).stopped = true ∧
    (Life.step exEnv exFe st (.ev .peerClose)).fs.sock.closeCalled = true := by decide +kernel
-- `quiescent`, with a file being streamed
example : Life.live (Life.run exEnv exFe [.ev .new, .ev (.feed exReq)]) = 1 ∧
    Life.live (Life.run exEnv exFe ([.ev .new, .ev (.feed exReq)] ++ closeDown)) = 0 := by
  decide +kernel
-- `holds_model`
example : (Life.run exEnv exFe exEvs).fs.sock.log.all cleanObs = true := by decide +kernel
example : holds ((Life.run exEnv exFe exEvs).fs.sock.log ++
    [Obs.misc 30 [UInt8.ofNat (Life.live (driverTail.foldl (quietStep exEnv exFe) (Life.run exEnv exFe exEvs)))],
     Obs.misc 31 [0]]) = true := by decide +kernel

end Qhttp.C10
