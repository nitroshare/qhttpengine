import Qhttp.Model.LocalAuth
import Qhttp.Lemmas.C17Keys
import Qhttp.Lemmas.C17Auth
/-
  C17 — local token authentication: the token is always advertised, only it is accepted.
  In a history `Obs.misc 10 d` is the snapshot of the advertised file after an operation
  (`LocalAuth.snap`: empty = no file, else exists, mode digits, token flag, keys) and
  `Obs.misc 11 [v]` the verdict of a request.
-/
namespace Qhttp.C17
open Qhttp LocalAuth

/-- walk the observation list against the operations.  The accumulators are what the API history
    alone determines: is an instance alive, its header name, the keys of its in-memory `data`,
    `blocked` (a directory occupies the advertised name, so `LocalFile::open()` fails) and `present`
    (a regular file is at the name: put there by `pre`, or by an `updateFile()` that could open it,
    and not removed by a destructor since).  After every operation:
    * while blocked the snapshot says "no file" (a directory is not the advertised file; nothing
      is demanded about existence: the guarantee presupposes that the file can be created);
    * if an instance is alive and `present` (its last `updateFile()` could open the file and
      nothing removed it since) the file has mode 0600 and holds the data keys plus a `token`
      member equal to the current token;
    * if no file can be there (`present = false`: in particular after `destroy` of a live instance,
      ALSO when the open at construction had failed and a later update created the file) the
      snapshot says "no file";
    * a request is admitted iff the configured header carries exactly the token, blocked or not -/
def walk : List Op → (alive : Bool) → (hdrName : Bytes) → (keys : List Bytes) →
    (blocked : Bool) → (present : Bool) → List Obs → Bool
  | [], _, _, _, _, _, obs => obs.isEmpty
  | op :: ops, alive, hdrName, keys, blocked, present, obs =>
    let alive' := match op with | .create => true | .destroy => false | _ => alive
    let hdr' := match op with
      | .setHeaderName n => if alive then n else hdrName
      | .create => if alive then hdrName else lit ['X','-','A','u','t','h','-','T','o','k','e','n']
      | _ => hdrName
    -- the keys of `data` in memory (written out by every `updateFile()` that can open the file)
    let keys' := match op with
      | .setData ks => if alive then sortKeys (TOKEN :: ks) else keys
      | .create => if alive then keys else [TOKEN]
      | _ => keys
    let blocked' := match op with
      | .block => if blocked || present then blocked else true
      | .unblock => false
      | _ => blocked
    let present' := match op with
      | .pre _ => if alive || blocked then present else true
      | .create => if alive || blocked then present else true      -- `updateFile()` of the constructor
      | .setData _ => if !alive || blocked then present else true   -- `updateFile()`
      | .destroy => if alive then false else present                -- `file.remove()`, unconditionally
      | _ => present
    -- a request first yields its verdict
    let (okReq, obs) :=
      match op, obs with
      | .req hdr, .misc 11 [v] :: rest =>
        if alive then
          (v == (match hdr with | some (n, tv) => if lower n == lower hdrName && tv == TokVal.exact then (1 : UInt8) else 0 | none => (0 : UInt8)), rest)
        else (false, rest)
      | .req _, o => (!alive, o)
      | _, o => (true, o)
    match obs with
    | .misc 10 d :: rest =>
      okReq &&
      (if blocked' || !present' then d == []
       else if alive' then
         (match d with
          | 1 :: 6 :: 0 :: 0 :: 1 :: ks => ks == joinWith [44] keys'
          | _ => false)
       else
         -- a foreign file before an instance exists: nothing is claimed about it
         true) &&
      walk ops alive' hdr' keys' blocked' present' rest
    | _ => false

def holds (ops : List Op) (obs : List Obs) : Bool := walk ops false [] [] false false obs

/-! Every theorem below quantifies over ALL `List Op`.  The model records `umask` and never reads
  it: after `chmod 0600` the mode does not depend on what the file was created with. -/
open Qhttp.C17L

def snapOk (alive' : Bool) (keys' : List Bytes) (blocked' present' : Bool) (d : Bytes) : Bool :=
  if blocked' || !present' then d == []
  else if alive' then
    (match d with
     | 1 :: 6 :: 0 :: 0 :: 1 :: ks => ks == joinWith [44] keys'
     | _ => false)
  else
    true

/-- the body of `C17.walk` on a non-empty operation list (Lean cannot generate equation lemmas
    for `walk`, so it is unfolded through this copy, equal by `rfl`) -/
def walkBody (op : Op) (ops : List Op) (alive : Bool) (hdrName : Bytes) (keys : List Bytes)
    (blocked present : Bool) (obs : List Obs) : Bool :=
    let alive' := nAlive op alive
    let hdr' := nHdr op alive hdrName
    let keys' := nKeys op alive keys
    let blocked' := nBlocked op blocked present
    let present' := nPresent op alive blocked present
    let (okReq, obs) :=
      match op, obs with
      | .req hdr, .misc 11 [v] :: rest =>
        if alive then
          (v == (match hdr with | some (n, tv) => if lower n == lower hdrName && tv == TokVal.exact then (1 : UInt8) else 0 | none => (0 : UInt8)), rest)
        else (false, rest)
      | .req _, o => (!alive, o)
      | _, o => (true, o)
    match obs with
    | .misc 10 d :: rest =>
      okReq && snapOk alive' keys' blocked' present' d &&
      C17.walk ops alive' hdr' keys' blocked' present' rest
    | _ => false

theorem walk_cons (op : Op) (ops : List Op) (a : Bool) (h : Bytes) (k : List Bytes) (b p : Bool) (obs : List Obs) :
    C17.walk (op :: ops) a h k b p obs = walkBody op ops a h k b p obs := rfl

theorem walk_nil (a : Bool) (h : Bytes) (k : List Bytes) (b p : Bool) (obs : List Obs) :
    C17.walk [] a h k b p obs = obs.isEmpty := rfl

/-- relation between the model state and the accumulators of `C17.walk` -/
def Rel (s : St) (a : Bool) (h : Bytes) (k : List Bytes) (b p : Bool) : Prop :=
  a = s.alive ∧ b = s.blocked ∧ p = s.file.isSome ∧ (s.blocked = true → s.file = none) ∧
  (s.alive = true → h = s.hdrName ∧ (s.file.isSome = true → s.file = some (goodFile k)))

theorem Rel_step (s : St) (op : Op) (a : Bool) (h : Bytes) (k : List Bytes) (b p : Bool)
    (hR : Rel s a h k b p) :
    Rel (step s op) (nAlive op a) (nHdr op a h) (nKeys op a k) (nBlocked op b p) (nPresent op a b p) := by
  obtain ⟨ha, hb, hp, hx, hal⟩ := hR
  subst ha hb hp
  exact ⟨(step_alive s op).symm, (step_blocked s op).symm, (step_present s op).symm,
    excl_step hx op, live_step hx hal op⟩

theorem Rel_snap (s : St) (a : Bool) (h : Bytes) (k : List Bytes) (b p : Bool) (hR : Rel s a h k b p) :
    ∃ d, snap s = Obs.misc 10 d ∧ snapOk a k b p d = true := by
  obtain ⟨ha, hb, hp, hx, hal⟩ := hR
  subst ha hb hp
  cases hsb : s.blocked with
  | true => exact ⟨[], snap_blocked s hsb, by simp [snapOk]⟩
  | false =>
    cases hsf : s.file with
    | none => exact ⟨[], snap_none s hsf, by simp [snapOk]⟩
    | some f =>
      cases hsa : s.alive with
      | false =>
        obtain ⟨d, hd⟩ := snap_misc s
        exact ⟨d, hd, by simp [snapOk]⟩
      | true =>
        have := (hal hsa).2 (by simp [hsf])
        exact ⟨_, snap_good s k hsb this, by simp [snapOk]⟩

theorem walk_step (s : St) (op : Op) (a : Bool) (h : Bytes) (k : List Bytes) (b p : Bool)
    (hR : Rel s a h k b p) (ops : List Op) (rest : List Obs) :
    C17.walk (op :: ops) a h k b p (verdictOut s op ++ [snap (step s op)] ++ rest) =
      C17.walk ops (nAlive op a) (nHdr op a h) (nKeys op a k) (nBlocked op b p) (nPresent op a b p) rest := by
  obtain ⟨d, hd, hok⟩ := Rel_snap _ _ _ _ _ _ (Rel_step s op a h k b p hR)
  obtain ⟨ha, -, -, -, hal⟩ := hR
  subst ha
  rw [hd, walk_cons]
  unfold walkBody
  -- the accumulators stay folded, so that `hok` applies as it stands
  cases op with
  | req hdr =>
    cases hsa : s.alive with
    | false => rw [hsa] at hok; simp [verdictOut, hsa, hok, -nAlive, -nHdr, -nKeys, -nBlocked, -nPresent]
    | true =>
      rw [hsa] at hok
      obtain _ | ⟨n, tv⟩ := hdr <;>
        simp [verdictOut, hsa, hok, admits, (hal hsa).1, -nAlive, -nHdr, -nKeys, -nBlocked, -nPresent]
  | _ => simp [verdictOut, hok, -nAlive, -nHdr, -nKeys, -nBlocked, -nPresent]

theorem walk_emit (ops : List Op) (s : St) (a : Bool) (h : Bytes) (k : List Bytes) (b p : Bool)
    (hR : Rel s a h k b p) :
    C17.walk ops a h k b p (emit s ops) = true := by
  induction ops generalizing s a h k b p with
  | nil => simp [walk_nil, emit]
  | cons op ops ih =>
    rw [emit, walk_step s op a h k b p hR]
    exact ih _ _ _ _ _ _ (Rel_step s op a h k b p hR)

/-- the driver's predicate holds on the log of EVERY operation sequence; ill-formed ones (`req`
    before `create`, double `create`, `block` on an occupied name, …) are no-ops of the model
    that `walk` treats the same way -/
theorem holds_run (ops : List Op) : C17.holds ops (LocalAuth.run ops).log = true := by
  rw [run_log]
  exact walk_emit ops {} false [] [] false false
    ⟨rfl, rfl, rfl, (by intro h; cases h), (by intro h; cases h)⟩

theorem walk_from (s : St) (ops : List Op) (a : Bool) (h : Bytes) (k : List Bytes) (b p : Bool)
    (hR : Rel s a h k b p) :
    ∃ out, (ops.foldl step s).log = s.log ++ out ∧ walk ops a h k b p out = true :=
  ⟨emit s ops, foldl_log s ops, walk_emit ops s a h k b p hR⟩

theorem LInv_init' : LInv {} := LInv_init

theorem LInv_step' {s : St} (h : LInv s) (op : Op) : LInv (step s op) := LInv_step h op

theorem LInv_run (ops : List Op) : LInv (run ops) := LInv_foldl LInv_init ops

/-- `file_inv`: while an instance is alive and its file could be written (`present`, see `gstep`),
    the keys are `token` plus those of the last `setData` since the last effective `create` -/
theorem file_inv (ops : List Op) (h : (run ops).alive = true) (hp : (ghost ops).present = true) :
    (run ops).file =
      some { mode := 0o600, keys := sortKeys (TOKEN :: (ghost ops).data), hasToken := true } := by
  have ag := Agree_run ops
  exact ag.file (ag.alive ▸ h) hp

/-- `present` cannot be dropped: an instance constructed while the name is blocked has no file -/
example : (run [.create]).alive = true ∧ (ghost [.create]).present = true := by decide +kernel
example : (run [.block, .create]).alive = true ∧ (ghost [.block, .create]).present = false ∧
    (run [.block, .create]).file = none := by decide +kernel

/-- … also when the file was written only after a failed open at construction -/
theorem file_inv_of_isSome (ops : List Op) (h : (run ops).alive = true) (hf : (run ops).file.isSome = true) :
    (run ops).file =
      some { mode := 0o600, keys := sortKeys (TOKEN :: (ghost ops).data), hasToken := true } := by
  have ag := Agree_run ops
  exact ag.file (ag.alive ▸ h) (ag.present ▸ hf)

theorem blocked_no_file (ops : List Op) (h : (run ops).blocked = true) :
    (run ops).file = none ∧ snap (run ops) = Obs.misc 10 [] :=
  ⟨(LInv_run ops).1 h, snap_blocked _ h⟩

theorem create_publishes (ops : List Op) (ha : (run ops).alive = false) (hb : (run ops).blocked = false) :
    (run (ops ++ [Op.create])).file = some (goodFile [TOKEN]) := by
  rw [run_snoc, step_file]; simp [ha, hb]

theorem setData_publishes (ops : List Op) (ks : List Bytes) (ha : (run ops).alive = true)
    (hb : (run ops).blocked = false) :
    (run (ops ++ [Op.setData ks])).file = some (goodFile (sortKeys (TOKEN :: ks))) := by
  rw [run_snoc, step_file]; simp [ha, hb]

theorem blocked_update_noop (s : St) (hb : s.blocked = true) (ks : List Bytes) :
    (step s .create).file = s.file ∧ (step s (.setData ks)).file = s.file := by
  simp [step_file, hb]

theorem ghost_published_tail (g : Ghost) (ha : g.alive = true) (hp : g.present = true) (hx : g.blocked = true → g.present = false)
    (post : List Op) (hpost : ∀ op ∈ post, op ≠ Op.destroy) :
    post.foldl gstep g =
      { alive := true, hdr := lastHdr g.hdr post, data := lastData g.data post, removed := g.removed,
        blocked := false, present := true } := by
  have hb := free_of_present hx hp
  have := gstep_alive_tail g ha hp hb post hpost
  rwa [ha, hp, hb] at this

/-- `file_inv` along a destroy-free tail, with the last `setData` / `setHeaderName` in force -/
theorem file_inv_tail (pre post : List Op) (ha : (ghost pre).alive = true)
    (hp : (ghost pre).present = true) (hpost : ∀ op ∈ post, op ≠ Op.destroy) :
    (run (pre ++ post)).alive = true ∧
    (run (pre ++ post)).file = some (goodFile (sortKeys (TOKEN :: lastData (ghost pre).data post))) ∧
    (run (pre ++ post)).hdrName = lastHdr (ghost pre).hdr post := by
  have ag := Agree_run (pre ++ post)
  have hb := free_of_present (Agree_run pre).excl hp
  have hg : ghost (pre ++ post) = _ :=
    (List.foldl_append ..).trans (gstep_alive_tail (ghost pre) ha hp hb post hpost)
  rw [hg] at ag
  exact ⟨ag.alive.trans ha, ag.file ha hp, ag.hdr ha⟩

/-- `file_inv` from `create` on a free name -/
theorem file_inv_since_create (pre post : List Op) (hpre : (run pre).alive = false)
    (hb : (run pre).blocked = false) (hpost : ∀ op ∈ post, op ≠ Op.destroy) :
    (run (pre ++ Op.create :: post)).alive = true ∧
    (run (pre ++ Op.create :: post)).file =
      some { mode := 0o600, keys := sortKeys (TOKEN :: lastData [] post), hasToken := true } ∧
    (run (pre ++ Op.create :: post)).hdrName = lastHdr DEFHDR post := by
  have agp := Agree_run pre
  have hg : ghost (pre ++ [Op.create]) =
      { alive := true, hdr := DEFHDR, data := [], removed := false, blocked := false, present := true } := by
    rw [ghost_snoc]; simp [gstep, ← agp.alive, ← agp.blocked, hpre, hb]
  have := file_inv_tail (pre ++ [Op.create]) post (by rw [hg]) (by rw [hg]) hpost
  rwa [hg, List.append_assoc] at this

/-- `file_inv` from the first `setData` after a failed open at construction -/
theorem file_inv_since_update (pre : List Op) (ks : List Bytes) (post : List Op)
    (hpre : (run pre).alive = true) (hb : (run pre).blocked = false)
    (hpost : ∀ op ∈ post, op ≠ Op.destroy) :
    (run (pre ++ Op.setData ks :: post)).alive = true ∧
    (run (pre ++ Op.setData ks :: post)).file =
      some { mode := 0o600, keys := sortKeys (TOKEN :: lastData ks post), hasToken := true } ∧
    (run (pre ++ Op.setData ks :: post)).hdrName = lastHdr (run pre).hdrName post := by
  have agp := Agree_run pre
  have h1 : (ghost pre).alive = true := agp.alive ▸ hpre
  have hg : ghost (pre ++ [Op.setData ks]) = { ghost pre with data := ks, present := true } := by
    rw [ghost_snoc]; simp [gstep, ← agp.alive, ← agp.blocked, hpre, hb]
  have := file_inv_tail (pre ++ [Op.setData ks]) post (by rw [hg]; exact h1) (by rw [hg]) hpost
  rwa [hg, List.append_assoc, ← agp.hdr h1] at this

example : (run [.block, .create, .unblock]).alive = true ∧ (run [.block, .create, .unblock]).blocked = false ∧
    (run [.block, .create, .unblock]).file = none := by decide +kernel

theorem file_keys (ops : List Op) (h : (run ops).alive = true) (hp : (ghost ops).present = true) :
    ∃ f, (run ops).file = some f ∧ f.mode = 0o600 ∧ f.hasToken = true ∧
      Sorted f.keys ∧ f.keys.Nodup ∧ ∀ k, k ∈ f.keys ↔ k = TOKEN ∨ k ∈ (ghost ops).data := by
  refine ⟨_, file_inv ops h hp, rfl, rfl, sortKeys_sorted _, sortKeys_nodup _, ?_⟩
  intro k; simp [mem_sortKeys]

theorem log_snoc (ops : List Op) (op : Op) :
    (run (ops ++ [op])).log = (run ops).log ++ verdictOut (run ops) op ++ [snap (run (ops ++ [op]))] := by
  rw [run_snoc, step_log]

theorem snap_alive (ops : List Op) (h : (run ops).alive = true) (hp : (ghost ops).present = true) :
    snap (run ops) =
      Obs.misc 10 (1 :: 6 :: 0 :: 0 :: 1 :: joinWith [44] (sortKeys (TOKEN :: (ghost ops).data))) := by
  have ag := Agree_run ops
  exact snap_good _ _ (ag.blocked.trans (free_of_present ag.excl hp)) (file_inv ops h hp)

/-- the log of a run split at an operation after which an instance is alive and its file is there -/
theorem snapshot_shape (pre : List Op) (op : Op) (post : List Op)
    (h : (run (pre ++ [op])).alive = true) (hp : (ghost (pre ++ [op])).present = true) :
    (run (pre ++ op :: post)).log =
      (run pre).log ++ verdictOut (run pre) op ++
      [Obs.misc 10 (1 :: 6 :: 0 :: 0 :: 1 :: joinWith [44] (sortKeys (TOKEN :: (ghost (pre ++ [op])).data)))] ++
      emit (run (pre ++ [op])) post := by
  have : pre ++ op :: post = (pre ++ [op]) ++ post := by simp
  rw [this, run_append, foldl_log, log_snoc, snap_alive _ h hp]

/-- `admit_iff`, for every state: header name up to ASCII/Latin-1 case, value exactly the token -/
theorem admit_iff (s : St) (hdr : Option (Bytes × TokVal)) :
    admits s hdr = true ↔ ∃ n, hdr = some (n, TokVal.exact) ∧ lower n = lower s.hdrName := by
  cases hdr with
  | none => simp [admits]
  | some p =>
    obtain ⟨n, v⟩ := p
    simp only [admits, Bool.and_eq_true, beq_iff_eq, Option.some.injEq, Prod.mk.injEq]
    constructor
    · rintro ⟨h1, h2⟩; exact ⟨n, ⟨rfl, h2⟩, h1⟩
    · rintro ⟨m, ⟨h1, h2⟩, h3⟩; subst h1; exact ⟨h3, h2⟩

theorem missing_header_refused (s : St) : admits s none = false := rfl

/-- every variant of the token the harness sends (and any other bytes) is refused -/
theorem wrong_value_refused (s : St) (n : Bytes) {v : TokVal} (hv : v ≠ TokVal.exact) :
    admits s (some (n, v)) = false := by
  simp [admits, hv]

theorem upper_refused (s : St) (n : Bytes) : admits s (some (n, .upper)) = false := wrong_value_refused s n nofun
theorem dropLast_refused (s : St) (n : Bytes) : admits s (some (n, .dropLast)) = false := wrong_value_refused s n nofun
theorem braceless_refused (s : St) (n : Bytes) : admits s (some (n, .braceless)) = false := wrong_value_refused s n nofun
theorem nulSuffix_refused (s : St) (n : Bytes) : admits s (some (n, .nulSuffix)) = false := wrong_value_refused s n nofun
theorem bomPrefix_refused (s : St) (n : Bytes) : admits s (some (n, .bomPrefix)) = false := wrong_value_refused s n nofun
/-- the token of an earlier instance is refused.  (That the earlier instance's UUID string really
    differs from the current one is QUuid's property: an ASSUMPTION of the model, observed by the
    harness, not proved here; the model identifies a token with its instance number `inst`.) -/
theorem previous_refused (s : St) (n : Bytes) : admits s (some (n, .previous)) = false := wrong_value_refused s n nofun
theorem other_refused (s : St) (n b : Bytes) : admits s (some (n, .other b)) = false := wrong_value_refused s n nofun

theorem wrong_name_refused (s : St) (n : Bytes) (v : TokVal) (hn : lower n ≠ lower s.hdrName) :
    admits s (some (n, v)) = false := by
  simp [admits, hn]

theorem right_header_admitted (s : St) (n : Bytes) (hn : lower n = lower s.hdrName) :
    admits s (some (n, .exact)) = true := by
  simp [admits, hn]

theorem hdrName_spec (ops : List Op) (h : (run ops).alive = true) :
    (run ops).hdrName = (ghost ops).hdr := by
  have ag := Agree_run ops
  exact ag.hdr (ag.alive ▸ h)

theorem admit_iff_run (ops : List Op) (h : (run ops).alive = true) (hdr : Option (Bytes × TokVal)) :
    admits (run ops) hdr = true ↔ ∃ n, hdr = some (n, TokVal.exact) ∧ lower n = lower (ghost ops).hdr := by
  rw [admit_iff, hdrName_spec ops h]

theorem req_logged (ops : List Op) (h : (run ops).alive = true) (hdr : Option (Bytes × TokVal)) :
    (run (ops ++ [Op.req hdr])).log =
      (run ops).log ++ [Obs.misc 11 [if admits (run ops) hdr then 1 else 0], snap (run ops)] := by
  rw [log_snoc]
  have : snap (run (ops ++ [Op.req hdr])) = snap (run ops) := by
    simp [snap, run_snoc, step_file, step_blocked]
  simp [verdictOut, h, this]

theorem req_pure (s : St) (hdr : Option (Bytes × TokVal)) :
    (step s (.req hdr)).alive = s.alive ∧ (step s (.req hdr)).file = s.file ∧
    (step s (.req hdr)).hdrName = s.hdrName ∧ (step s (.req hdr)).inst = s.inst := by
  simp [step_alive, step_file, step_hdrName, step_inst]

theorem destroy_dead (s : St) : (step s .destroy).alive = false := by simp [step_alive]

/-- `removed`: the destructor consults nothing about how the file came into being -/
theorem destroy_removes (s : St) (h : s.alive = true) : (step s .destroy).file = none := by
  simp [step_file, h]

/-- `QFile::remove()` fails on a directory -/
theorem destroy_keeps_obstacle (s : St) : (step s .destroy).blocked = s.blocked := by
  simp [step_blocked]

/-- `removed`, history form (`removed` flag of `gstep`) -/
theorem removed (ops : List Op) (h : (ghost ops).removed = true) :
    (run ops).file = none ∧ (run ops).alive = false := by
  have ag := Agree_run ops
  exact ⟨(ag.removed h).1, ag.alive.trans (ag.removed h).2⟩

/-- `pre` is ANY history that leaves an instance alive, also one whose open at construction failed -/
theorem removed_after_destroy (pre post : List Op) (hpre : (run pre).alive = true)
    (hpost : ∀ op ∈ post, op ≠ Op.create ∧ ∀ m, op ≠ Op.pre m) :
    (run (pre ++ Op.destroy :: post)).file = none ∧
    (run (pre ++ Op.destroy :: post)).alive = false := by
  apply removed
  have h1 : (ghost pre).alive = true := (Agree_run pre).alive ▸ hpre
  have e : ghost (pre ++ Op.destroy :: post) = post.foldl gstep (gstep (ghost pre) Op.destroy) := by
    simp [ghost, List.foldl_append]
  rw [e]
  exact (gstep_dead_tail _ (by simp [gstep, h1]) (by simp [gstep, h1]) post hpost).2

/-- `removed` on the fault path: constructed while the name is blocked, ANY operations without
    `destroy` (the obstacle may go away, updates may publish the file), then destroyed -/
theorem removed_after_destroy_blocked (pre mid post : List Op)
    (hpre : (run pre).alive = false) (hb : (run pre).blocked = true)
    (hmid : ∀ op ∈ mid, op ≠ Op.destroy)
    (hpost : ∀ op ∈ post, op ≠ Op.create ∧ ∀ m, op ≠ Op.pre m) :
    -- the constructor took effect (fresh token, instance alive) but could not publish anything
    (run (pre ++ [Op.create])).inst = (run pre).inst + 1 ∧
    (run (pre ++ [Op.create])).alive = true ∧
    (run (pre ++ [Op.create])).file = none ∧
    -- whatever happened in between, the destructor removes the file
    (run (pre ++ Op.create :: mid ++ Op.destroy :: post)).file = none ∧
    (run (pre ++ Op.create :: mid ++ Op.destroy :: post)).alive = false := by
  have hal : (run (pre ++ Op.create :: mid)).alive = true := by
    rw [run_append_cons]
    exact alive_foldl (by rw [step_alive]; rfl) mid hmid
  have := removed_after_destroy (pre ++ Op.create :: mid) post hal hpost
  refine ⟨?_, ?_, ?_, by simpa [List.append_assoc] using this⟩
  · rw [run_snoc, step_inst]; simp [hpre]
  · rw [run_snoc, step_alive]; rfl
  · rw [run_snoc, step_file]; simp [hb, (LInv_run pre).1 hb]

/-- the fault path step by step, for every prior history and every data -/
theorem published_then_removed (pre : List Op) (ks : List Bytes)
    (hpre : (run pre).alive = false) (hb : (run pre).blocked = true) :
    (run (pre ++ [Op.create])).file = none ∧
    (run (pre ++ [Op.create, Op.unblock])).file = none ∧
    (run (pre ++ [Op.create, Op.unblock, Op.setData ks])).file = some (goodFile (sortKeys (TOKEN :: ks))) ∧
    (run (pre ++ [Op.create, Op.unblock, Op.setData ks, Op.destroy])).file = none := by
  have hf : (run pre).file = none := (LInv_run pre).1 hb
  simp only [run_append, List.foldl]
  simp [step_file, step_alive, step_blocked, hpre, hb, hf]

theorem create_increments (s : St) (h : s.alive = false) : (step s .create).inst = s.inst + 1 := by
  simp [step_inst, h]

theorem inst_only_create (s : St) {op : Op} (h : op ≠ Op.create) : (step s op).inst = s.inst := by
  rw [step_inst]; cases op <;> simp_all

theorem inst_mono_step (s : St) (op : Op) : s.inst ≤ (step s op).inst := by
  rw [step_inst]; cases op <;> simp; split <;> omega

theorem inst_mono_foldl (s : St) (ops : List Op) : s.inst ≤ (ops.foldl step s).inst := by
  induction ops generalizing s with
  | nil => exact Nat.le_refl _
  | cons op ops ih => exact Nat.le_trans (inst_mono_step s op) (ih _)

/-- two instances created one after the other (both `create`s take effect) have different token
    identities; hence `TokVal.previous` never denotes the current token (`previous_refused`).
    Distinctness of the actual UUID strings is QUuid's property and stays an assumption. -/
theorem inst_fresh (a c : List Op) (h1 : (run a).alive = false)
    (h2 : (run (a ++ Op.create :: c)).alive = false) :
    (run (a ++ [Op.create])).inst < (run (a ++ Op.create :: c ++ [Op.create])).inst := by
  have e1 : (run (a ++ [Op.create])).inst = (run a).inst + 1 := by
    rw [run_snoc]; exact create_increments _ h1
  have e2 : (run (a ++ Op.create :: c ++ [Op.create])).inst = (run (a ++ Op.create :: c)).inst + 1 := by
    rw [run_snoc]; exact create_increments _ h2
  have e3 : (run (a ++ [Op.create])).inst ≤ (run (a ++ Op.create :: c)).inst := by
    rw [run_snoc, run_append_cons]; exact inst_mono_foldl _ _
  omega

def HX_MY : Bytes := lit ['X','-','M','y']
def hx_my : Bytes := lit ['x','-','m','y']
def PORT : Bytes := lit ['p','o','r','t']

def demoOps : List Op :=
  [.umask 0o000, .pre 0o666, .create, .setData [PORT], .setHeaderName HX_MY,
   .req (some (HX_MY, .exact)), .req (some (DEFHDR, .exact)), .req (some (hx_my, .upper)), .destroy]

def liveSnap : Obs :=
  Obs.misc 10 ([1, 6, 0, 0, 1] ++ lit ['p','o','r','t',',','t','o','k','e','n'])

example : (run demoOps).log =
    [ Obs.misc 10 [],                                            -- umask: no file yet
      Obs.misc 10 ([1, 6, 6, 6, 0] ++ lit ['j','u','n','k']),    -- pre: foreign file, mode 666
      Obs.misc 10 ([1, 6, 0, 0, 1] ++ lit ['t','o','k','e','n']),-- create: 0600, token advertised
      liveSnap,                                                  -- setData [port]
      liveSnap,                                                  -- setHeaderName
      Obs.misc 11 [1], liveSnap,                                 -- right name, exact token
      Obs.misc 11 [0], liveSnap,                                 -- exact token under the old name
      Obs.misc 11 [0], liveSnap,                                 -- right name (other case), upper-cased token
      Obs.misc 10 [] ] := by decide +kernel              -- destroy: file gone

example : C17.holds demoOps (run demoOps).log = true := by decide +kernel

/-- the predicate is not vacuous: it rejects a log claiming the old header name was admitted -/
example : C17.holds demoOps
    ((run demoOps).log.set 7 (Obs.misc 11 [1])) = false := by decide +kernel

example : C17.holds demoOps
    ((run demoOps).log.set 3 (Obs.misc 10 ([1, 6, 4, 4, 1] ++ lit ['p','o','r','t',',','t','o','k','e','n']))) = false := by
  decide +kernel

example : C17.holds demoOps ((run demoOps).log.set 11 liveSnap) = false := by decide +kernel

example : C17.holds [.req none, .destroy, .create, .pre 0o777, .create, .req none, .destroy, .destroy]
    (run [.req none, .destroy, .create, .pre 0o777, .create, .req none, .destroy, .destroy]).log = true := by
  decide +kernel

def faultOps : List Op := [.block, .create, .unblock, .setData [PORT], .destroy]

def faultOps2 : List Op :=
  [.block, .create, .setData [], .req (some (DEFHDR, .exact)), .unblock, .setData [PORT],
   .req (some (DEFHDR, .exact)), .destroy, .block, .create, .destroy, .unblock]

example : (run faultOps).log =
    [ Obs.misc 10 [],     -- block: a directory, not the advertised file
      Obs.misc 10 [],     -- create: open fails, nothing written
      Obs.misc 10 [],     -- unblock: nothing there yet
      liveSnap,           -- setData [port]: token + data published, 0600
      Obs.misc 10 [] ] := by decide +kernel   -- destroy: removed although the open at construction failed

example : C17.holds faultOps (run faultOps).log = true := by decide +kernel
example : C17.holds faultOps2 (run faultOps2).log = true := by decide +kernel

example : (run [Op.block]).alive = false ∧ (run [Op.block]).blocked = true := by decide +kernel

/-- rejected: the file survives `destroy` although the open at construction had failed -/
example : C17.holds faultOps ((run faultOps).log.set 4 liveSnap) = false := by decide +kernel

example : C17.holds faultOps ((run faultOps).log.set 3 (Obs.misc 10 [])) = false := by decide +kernel

example : C17.holds [.block, .create, .setData [PORT], .unblock, .setData [PORT], .destroy]
    [Obs.misc 10 [], Obs.misc 10 [], Obs.misc 10 [], Obs.misc 10 [],
     Obs.misc 10 ([1, 6, 0, 0, 1] ++ lit ['t','o','k','e','n']), Obs.misc 10 []] = false := by decide +kernel

example : C17.holds faultOps ((run faultOps).log.set 1 (Obs.misc 10 ([1, 7, 5, 5, 0]))) = false := by decide +kernel

example : C17.holds [.block, .create, .req (some (DEFHDR, .exact))]
    [Obs.misc 10 [], Obs.misc 10 [], Obs.misc 11 [0], Obs.misc 10 []] = false := by decide +kernel
example : C17.holds [.block, .create, .req (some (DEFHDR, .exact))]
    [Obs.misc 10 [], Obs.misc 10 [], Obs.misc 11 [1], Obs.misc 10 []] = true := by decide +kernel

example : (run [.create, .block]).blocked = false ∧ (run [.pre 0o644, .block]).blocked = false ∧
    (run [.unblock]).blocked = false ∧ (run [.block, .destroy]).blocked = true ∧
    (run [.block, .create, .destroy]).blocked = true := by decide +kernel

example : (ghost faultOps) = { alive := false, hdr := DEFHDR, data := [PORT], removed := true, blocked := false, present := false } := by
  decide +kernel

example : (ghost demoOps) = { alive := false, hdr := HX_MY, data := [PORT], removed := true, blocked := false, present := false } := by
  decide +kernel

example : (run (demoOps ++ [.create])).inst = 2 := by decide +kernel

end Qhttp.C17
