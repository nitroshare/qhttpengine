import Qhttp.Model.Bytes
import Qhttp.Model.HeaderMap
import Qhttp.Model.Parser
import Qhttp.Model.Socket
import Qhttp.Model.CxxPrim
import Qhttp.Model.Http
import Qhttp.Model.Range
import Qhttp.Model.Handler
import Qhttp.Model.RouteScn
import Qhttp.Model.RouteSoft
import Qhttp.Model.BasicAuth
import Qhttp.Model.Copier
import Qhttp.Model.CopierStopIn
import Qhttp.Model.Fs
import Qhttp.Model.FsHandler
import Qhttp.Model.FxPrim
import Qhttp.Model.AxPrim
import Qhttp.Model.SxPrim
import Qhttp.Model.VxPrim
import Qhttp.Model.RxPrim
import Qhttp.Model.SlotHandler
import Qhttp.Model.LocalAuth
import Qhttp.Model.Proxy
import Qhttp.Model.PxPrim
import Qhttp.Model.Life
import Qhttp.Model.Tls
import Qhttp.Lemmas.CxxLemmas
import Qhttp.Lemmas.HeaderMapLemmas
import Qhttp.Props.C01
import Qhttp.Props.C02
import Qhttp.Props.C03
import Qhttp.Props.C04
import Qhttp.Props.C05
import Qhttp.Props.C06
import Qhttp.Props.C07
import Qhttp.Props.C08
import Qhttp.Props.C09
import Qhttp.Props.C10
import Qhttp.Props.C11
import Qhttp.Props.C12
import Qhttp.Props.C13
import Qhttp.Props.C14
import Qhttp.Props.C15
import Qhttp.Props.C16
import Qhttp.Props.C17
import Qhttp.Props.C18
import Qhttp.Props.C19
import Qhttp.Props.C20
import Qhttp.Driver.Proto
