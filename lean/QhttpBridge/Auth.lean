import QhttpGen.Auth
/-
  Bridge: `BasicAuthMiddleware::verify` / `process` as translated from /repo/src/src/basicauthmiddleware.cpp on this run
  take the decision of the model's `BasicAuth.verdict` (C09's theorems are about the latter) and, when they refuse,
  do on the socket what `BasicAuth.ops` says: the `WWW-Authenticate` challenge with the realm, then 401.

  A QString is represented by its UTF-8 encoding and `QString::fromUtf8(b).toUtf8()` by an arbitrary function
  `round`; the only thing assumed is that the registered user names and passwords are encodings of strings
  (`TableText`: `round` leaves them alone) — they entered the map as QStrings.
-/
namespace QhttpBridge.Auth
open Qhttp QhttpGen.Auth

def TableText (round : Bytes → Bytes) (t : List (Bytes × Bytes)) : Prop :=
  ∀ e ∈ t, round e.1 = e.1 ∧ round e.2 = e.2

theorem lookup_mem {t : List (Bytes × Bytes)} {u p : Bytes} (h : BasicAuth.lookup t u = some p) : (u, p) ∈ t := by
  unfold BasicAuth.lookup at h
  cases hf : t.reverse.find? (fun e => e.1 == u) with
  | none => simp [hf] at h
  | some e =>
    simp only [hf, Option.map_some, Option.some.injEq] at h
    have hm := List.mem_of_find?_eq_some hf
    have hp := List.find?_some hf
    simp only [beq_iff_eq] at hp
    have : e = (u, p) := by cases e; simp_all
    rw [← this]; exact List.mem_reverse.mp hm

/-- `d->map.contains(u) && d->map.value(u) == p` is "the password registered last for `u` is `p`" -/
theorem verify_eq (ae : Ax.Env) (s : List Ax.Act) (u p : Bytes) :
    BasicAuthMiddleware_verify ae s u p = (BasicAuth.lookup ae.table u == some p) := by
  unfold BasicAuthMiddleware_verify
  unfold_auth_helpers
  -- (`delta`, not `simp only`: the vocabulary words also occur inside the `Decidable` instances of `if`s)
  delta Ax.mapContains Ax.mapValue
  cases BasicAuth.lookup ae.table u <;> simp

theorem basic_lit : lower ([66, 97, 115, 105, 99] : Bytes) = BasicAuth.BASIC := by decide +kernel
theorem authorization_lit : ([65, 117, 116, 104, 111, 114, 105, 122, 97, 116, 105, 111, 110] : Bytes) = BasicAuth.AUTHORIZATION := by decide +kernel
theorem www_lit : ([87, 87, 87, 45, 65, 117, 116, 104, 101, 110, 116, 105, 99, 97, 116, 101] : Bytes) = BasicAuth.WWW_AUTH := by decide +kernel

/-- the challenge built by concatenation (`QLatin1String("Basic realm=\"") + realm + QLatin1Char('"')`) -/
theorem challenge_cat (realm : Bytes) :
    ([66, 97, 115, 105, 99, 32, 114, 101, 97, 108, 109, 61, 34] : Bytes) ++ realm ++ [34] = BasicAuth.challenge realm := by
  unfold BasicAuth.challenge
  congr 2

/-- `QString("Basic realm=\"%1\"").arg(realm)` is the model's challenge, whatever the realm contains -/
theorem challenge_eq (realm : Bytes) :
    Ax.arg1 ([66, 97, 115, 105, 99, 32, 114, 101, 97, 108, 109, 61, 34, 37, 49, 34] : Bytes) realm = BasicAuth.challenge realm := by
  have h : split [37, 49] 0 ([66, 97, 115, 105, 99, 32, 114, 101, 97, 108, 109, 61, 34, 37, 49, 34] : Bytes) =
      [[66, 97, 115, 105, 99, 32, 114, 101, 97, 108, 109, 61, 34], [34]] := by decide +kernel
  unfold Ax.arg1
  rw [h]
  exact challenge_cat realm

theorem challenge_cons (realm : Bytes) :
    (66 :: 97 :: 115 :: 105 :: 99 :: 32 :: 114 :: 101 :: 97 :: 108 :: 109 :: 61 :: 34 :: (realm ++ [34]) : Bytes) = BasicAuth.challenge realm := by
  rw [← challenge_cat]; rfl

theorem last_two (a b : Bytes) : Cxx.last [a, b] = b := rfl
theorem last_one (a : Bytes) : Cxx.last [a] = a := rfl
theorem last_nil : Cxx.last [] = [] := rfl

/-! equalities the C++ may write either way round, oriented once and for all -/
theorem round_beq (f : Bytes → Bytes) (x : Bytes) : (x == f x) = (f x == x) := by
  rw [Bool.eq_iff_iff]; simp only [beq_iff_eq]; exact eq_comm
theorem round_eq (f : Bytes → Bytes) (x : Bytes) : (x = f x) = (f x = x) := propext eq_comm
theorem basic_beq (x : Bytes) : (BasicAuth.BASIC == lower x) = (lower x == BasicAuth.BASIC) := by
  rw [Bool.eq_iff_iff]; simp only [beq_iff_eq]; exact eq_comm
theorem basic_eq (x : Bytes) : (BasicAuth.BASIC = lower x) = (lower x = BasicAuth.BASIC) := propext eq_comm

theorem count_two_iff (l : List Bytes) : Cxx.count l = 2 ↔ ∃ a b, l = [a, b] := by
  unfold Cxx.count
  constructor
  · intro h
    match l, h with
    | [a, b], _ => exact ⟨a, b, rfl⟩
    | [], h => simp at h
    | [_], h => simp at h
    | _ :: _ :: _ :: _, h => simp at h; omega
  · rintro ⟨a, b, rfl⟩; rfl

def refusal (realm : Bytes) : List Ax.Act := [.hdr BasicAuth.WWW_AUTH (BasicAuth.challenge realm), .err 401]

theorem process_eq (ae : Ax.Env) (hT : TableText ae.round ae.table) :
    BasicAuthMiddleware_process ae [] =
      if BasicAuth.verdict ae.table (HeaderMap.value BasicAuth.AUTHORIZATION ae.hdrs) then ([], true)
      else (refusal ae.realm, false) := by
  unfold BasicAuthMiddleware_process BasicAuth.verdict
  unfold_auth_helpers
  simp only [verify_eq, authorization_lit, www_lit, challenge_eq, challenge_cat, Ax.ieq, basic_lit, Ax.setHeader, Ax.err, Ax.parserSplit,
    List.nil_append, refusal]
  generalize HeaderMap.value BasicAuth.AUTHORIZATION ae.hdrs = v
  have hne : ∀ l : List Bytes, ¬ ((l.length : Int) + 1 + 1 + 1 = 2) := fun l => by omega
  -- only "scheme token" with the scheme `basic` and a token that decodes to "user:password" goes on to the table
  rcases hsp : splitChar 32 v with _ | ⟨a, _ | ⟨b, _ | ⟨c, l⟩⟩⟩
  case cons.cons.nil =>
    by_cases hs : lower a = BasicAuth.BASIC
    · rcases hsq : split [58] 1 (BasicAuth.fromBase64 b) with _ | ⟨u, _ | ⟨p, _ | ⟨c, l⟩⟩⟩ <;>
        have hsq' : split [COLON] 1 (BasicAuth.fromBase64 b) = _ := hsq
      case cons.cons.nil =>
        -- a registered pair survives the round trip through QString
        have hm : BasicAuth.lookup ae.table u = some p → ae.round u = u ∧ ae.round p = p :=
          fun h => hT _ (lookup_mem h)
        cases hl : BasicAuth.lookup ae.table u == some p <;>
          simp_all [Cxx.count, Cxx.nth, last_two, round_beq, round_eq, basic_beq, basic_eq] <;>
          (try simp [challenge_cons])
      all_goals
        simp [hne, Cxx.count, Cxx.nth, last_two, last_one, last_nil, hs, hsq, hsq', challenge_cons, round_beq, round_eq,
          basic_beq, basic_eq]
    · simp [Cxx.count, Cxx.nth, last_two, hs, challenge_cons, round_beq, round_eq, basic_beq, basic_eq]
  all_goals simp [hne, Cxx.count, challenge_cons]

/-- non-vacuity: a table of plain text and the identity round trip -/
example : TableText id [(lit ['u'], lit ['p'])] := by intro e he; simp

/-- in the terms of the model's `BasicAuth.ops` -/
theorem process_ops (ae : Ax.Env) (hT : TableText ae.round ae.table) :
    (BasicAuthMiddleware_process ae []).2 = BasicAuth.verdict ae.table (HeaderMap.value BasicAuth.AUTHORIZATION ae.hdrs) ∧
    ((BasicAuthMiddleware_process ae []).2 = false →
      (BasicAuthMiddleware_process ae []).1 = [.hdr BasicAuth.WWW_AUTH (BasicAuth.challenge ae.realm), .err 401]) := by
  rw [process_eq ae hT]
  split <;> simp_all [refusal]

end QhttpBridge.Auth
