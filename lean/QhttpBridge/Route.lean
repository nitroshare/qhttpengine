import QhttpGen.Route
/-
  Bridge: `Handler::route` as translated from /repo/src/src/handler.cpp on this run IS the model's `route` on the node
  made of this handler's middleware, redirects and sub-handlers (C05's and C06's theorems are about the latter): the three
  loops are `runMws`, `firstRedirect` and `routeSubs`, in this order, each left at the first hit.
  The proofs are inductions over the shape of the translated loops (soft obligations, see tools/props.py).
-/
namespace QhttpBridge.Route
open Qhttp QhttpGen.Route

/-- `d->subHandlers` as the model's `Subs` -/
def subsOf : List (Nat × Node) → Subs
  | [] => .nil
  | (p, c) :: r => .cons p c (subsOf r)

theorem mw_loop (re : Rx.Env) (l : List (Nat × Bool)) (s : List Act) :
    Handler_route.go1 l s = (if (runMws l).2 then none else some (), s ++ (runMws l).1) := by
  induction l generalizing s with
  | nil => simp [Handler_route.go1, runMws]
  | cons m tl ih =>
    obtain ⟨id, ok⟩ := m
    unfold Handler_route.go1
    simp only [Rx.mwProcess, runMws]
    cases ok
    · simp
    · simp only [if_true]
      rw [ih]
      cases h : (runMws tl).2 <;> simp [List.append_assoc]

theorem redirect_loop (re : Rx.Env) (path : QStr) (l : List (Nat × QStr)) (s : List Act) :
    Handler_route.go2 re path l s =
      (match firstRedirect re.matcher path l with
       | some loc => (some (), s ++ [Act.redirect re.id loc])
       | none => (none, s)) := by
  induction l generalizing s with
  | nil => simp [Handler_route.go2, firstRedirect]
  | cons r tl ih =>
    obtain ⟨pat, tmpl⟩ := r
    unfold Handler_route.go2
    delta Rx.indexIn Rx.caps Rx.redirect
    simp only [firstRedirect]
    cases hm : re.matcher pat path with
    | none => simp [ih]
    | some mt =>
      have : ¬ ((mt.idx : Int) = -1) := by omega
      simp [this]

theorem sub_loop (re : Rx.Env) (path : QStr) (l : List (Nat × Node)) (s : List Act) :
    Handler_route.go3 re path l s =
      (match routeSubs re.matcher (subsOf l) path with
       | some r => (some (), s ++ r)
       | none => (none, s)) := by
  induction l generalizing s with
  | nil => simp [Handler_route.go3, subsOf, routeSubs]
  | cons e tl ih =>
    obtain ⟨pat, child⟩ := e
    unfold Handler_route.go3
    delta Rx.indexIn Rx.matchedLength Rx.subRoute Rx.qmid
    simp only [subsOf, routeSubs]
    cases hm : re.matcher pat path with
    | none => simp [ih]
    | some mt =>
      have : ¬ ((mt.idx : Int) = -1) := by omega
      simp [this]

theorem route_eq (re : Rx.Env) (path : QStr) :
    Handler_route re [] path = route re.matcher (Node.mk re.id re.mws re.redirects (subsOf re.subs) re.own) path := by
  unfold Handler_route
  rw [mw_loop re]
  unfold route
  cases h : runMws re.mws with
  | mk acts go =>
    cases go
    · simp
    · simp only [if_true, List.nil_append, Bool.not_true, Bool.false_eq_true, if_false]
      rw [redirect_loop]
      cases hr : firstRedirect re.matcher path re.redirects with
      | some loc => simp
      | none =>
        simp only []
        rw [sub_loop]
        cases hs : routeSubs re.matcher (subsOf re.subs) path with
        | some r => simp
        | none => simp [Rx.process]

example : Handler_route { id := 3, mws := [(0, true)], redirects := [], subs := [], matcher := fun _ _ => none } [] [97] =
    [Act.mw 0 true, Act.process 3 [97]] := by decide +kernel

end QhttpBridge.Route
