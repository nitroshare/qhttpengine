import QhttpGen.Auth
/-
  Bridge: `LocalAuthMiddleware::process` as translated from /repo/src/src/localauthmiddleware.cpp on this run admits a
  request exactly when the value of the configured header is the token, byte for byte, and otherwise answers 403
  (C17's decision `LocalAuth.admits`: name up to case, value `exact`).
-/
namespace QhttpBridge.LocalAuth
open Qhttp QhttpGen.Auth

theorem process_eq (ae : Ax.Env) :
    LocalAuthMiddleware_process ae [] =
      if HeaderMap.value ae.tokenHeader ae.hdrs == ae.token then ([], true) else ([Ax.Act.err 403], false) := by
  unfold LocalAuthMiddleware_process
  unfold_auth_helpers
  by_cases h : HeaderMap.value ae.tokenHeader ae.hdrs = ae.token <;> simp [Ax.err, h]

/-- a request without any header is refused (the token is never empty: it is a UUID) -/
theorem no_header (ae : Ax.Env) (hh : ae.hdrs = []) (ht : ae.token ≠ []) :
    LocalAuthMiddleware_process ae [] = ([Ax.Act.err 403], false) := by
  rw [process_eq, hh]
  simp [HeaderMap.value, HeaderMap.values, ht]

/-- `LocalAuth.admits` with `TokVal.exact` read as "the same bytes" -/
theorem single_header (ae : Ax.Env) (n v : Bytes) (hh : ae.hdrs = [(n, v)]) (ht : ae.token ≠ []) :
    (LocalAuthMiddleware_process ae []).2 = (HeaderMap.keyEq n ae.tokenHeader && v == ae.token) := by
  rw [process_eq, hh]
  cases hk : HeaderMap.keyEq n ae.tokenHeader <;> cases hv : (v == ae.token) <;>
    simp [HeaderMap.value, HeaderMap.values, hk, hv, ht]

example : (LocalAuthMiddleware_process { tokenHeader := lit ['X','-','T'], token := lit ['{','a','}'], hdrs := [(lit ['x','-','t'], lit ['{','a','}'])] } []).2 = true := by decide +kernel
example : (LocalAuthMiddleware_process { tokenHeader := lit ['X','-','T'], token := lit ['{','a','}'], hdrs := [(lit ['x','-','t'], lit ['{','A','}'])] } []) = ([Ax.Act.err 403], false) := by decide +kernel

end QhttpBridge.LocalAuth
