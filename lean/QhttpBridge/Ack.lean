import QhttpGen.Ack
import Qhttp.Model.Socket
/-
  Bridge: `SocketPrivate::onBytesWritten` as translated from /repo/src/src/socket.cpp on this run
  computes the same new write state, the same remaining header count and the same emitted
  notification as the model's `Sock.onBytesWritten` (C18's theorems are about the latter).
-/
namespace QhttpBridge.Ack
open Qhttp

def encWs : WState → Int
  | .none => 0 | .headers => 1 | .data => 2 | .finished => 3

theorem enum_values :
    QhttpGen.Ack.WriteNone = encWs .none ∧ QhttpGen.Ack.WriteHeaders = encWs .headers ∧
    QhttpGen.Ack.WriteData = encWs .data ∧ QhttpGen.Ack.WriteFinished = encWs .finished := by
  decide +kernel

/-- The three fields `Sock.onBytesWritten` touches when no application slot is connected. -/
theorem model_fields (env : Env) (s : Sock) (n : Int) :
    let s' := Sock.onBytesWritten env {} s n
    (s'.ws, s'.hdrRemaining, s'.log) =
      if s.ws = .headers then
        if s.hdrRemaining - n > 0 then (.headers, s.hdrRemaining - n, s.log)
        else (.data, s.hdrRemaining, s.log ++ [.bw (n - s.hdrRemaining)])
      else (s.ws, s.hdrRemaining, if s.ws = .data then s.log ++ [.bw n] else s.log) := by
  unfold Sock.onBytesWritten
  by_cases hw : s.ws = .headers
  · by_cases h : s.hdrRemaining - n > 0 <;>
      simp only [hw, h, ↓reduceIte, reduceCtorEq, Sock.emit, Sock.apis, List.foldl_nil]
  · by_cases hd : s.ws = .data <;>
      simp only [hw, hd, ↓reduceIte, reduceCtorEq, Sock.emit, Sock.apis, List.foldl_nil]

theorem onBytesWritten_eq (env : Env) (s : Sock) (n : Int) :
    let r := QhttpGen.Ack.onBytesWritten ⟨encWs s.ws, s.hdrRemaining⟩ n
    let s' := Sock.onBytesWritten env {} s n
    encWs s'.ws = r.1 ∧ s'.hdrRemaining = r.2.1 ∧ s'.log = s.log ++ r.2.2.map Obs.bw := by
  -- with the model side reduced to three plain fields, what is left is integer `if`s
  have hm := model_fields env s n
  simp only [Prod.ext_iff] at hm
  simp only [hm, QhttpGen.Ack.onBytesWritten]
  cases hw : s.ws <;> simp [encWs] <;> grind

end QhttpBridge.Ack
