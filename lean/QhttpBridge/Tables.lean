import QhttpGen.Tables
import Qhttp.Model.Socket
/-
  Bridge: the constant tables read from the C++ on this run equal the model's.
-/
namespace QhttpBridge.Tables
open Qhttp

/-- the method tokens `Parser::parseRequestHeaders` recognises are exactly the model's table, each with its code
    (as sets: the tokens are mutually exclusive, so the order in which the C++ tests them does not matter) -/
theorem methodTokens_eq :
    (QhttpGen.Tables.methodTokens.all fun e => (Parser.methodTable.map (fun x => (x.1, (x.2 : Int)))).contains e) = true ∧
    ((Parser.methodTable.map (fun x => (x.1, (x.2 : Int)))).all fun e => QhttpGen.Tables.methodTokens.contains e) = true ∧
    QhttpGen.Tables.methodTokens.length = Parser.methodTable.length := by decide +kernel

/-- each token is mapped to the `Socket::Method` value of the same name (no swapped constants) -/
theorem methodTokens_enum :
    (QhttpGen.Tables.methodTokens.all fun e => QhttpGen.Tables.methodEnum.contains e) = true ∧
    (QhttpGen.Tables.methodEnum.all fun e => QhttpGen.Tables.methodTokens.contains e) = true := by decide +kernel

theorem method_codes : Parser.methodTable.map (·.2) = [1, 2, 4, 8, 16, 32, 64, 128] := by decide +kernel

theorem versions_eq : QhttpGen.Tables.versions = [Parser.HTTP10, Parser.HTTP11] := by decide +kernel

/-- `SocketPrivate::statusReason` -/
theorem statusReason_eq :
    (QhttpGen.Tables.statusReasons.all fun e => statusReason e.1 == e.2) = true ∧
    statusReason 299 = QhttpGen.Tables.statusReasonDefault ∧
    (QhttpGen.Tables.statusReasons.map (·.1)) =
      [200, 201, 202, 206, 301, 302, 400, 401, 403, 404, 405, 409, 502, 503, 500, 505] := by decide +kernel

theorem statusReason_default (c : Int)
    (h : c ∉ [200, 201, 202, 206, 301, 302, 400, 401, 403, 404, 405, 409, 500, 502, 503, 505]) :
    statusReason c = QhttpGen.Tables.statusReasonDefault := by
  simp only [List.mem_cons, List.not_mem_nil, or_false, not_or] at h
  simp only [statusReason]
  obtain ⟨h1, h2, h3, h4, h5, h6, h7, h8, h9, h10, h11, h12, h13, h14, h15, h16⟩ := h
  simp [h1, h2, h3, h4, h5, h6, h7, h8, h9, h10, h11, h12, h13, h14, h15, h16]
  decide +kernel

/-- `ProxySocket::methodToString` inverts the method table -/
theorem methodToString_inverse :
    QhttpGen.Tables.methodToString = Parser.methodTable.map (fun e => ((e.2 : Int), e.1)) := by decide +kernel

end QhttpBridge.Tables
