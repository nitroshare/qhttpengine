import QhttpGen.Slot
/-
  Bridge: `QObjectHandler::process` as translated from /repo/src/src/qobjecthandler.cpp on this run takes the decision
  of the model's `SlotHandler.onHp` (C15's theorems are about the latter): 404 for a name nobody registered, else the
  registration stored last under exactly that name is invoked at once — when it does not ask for the whole body or the
  whole body is there — or when end-of-body is announced.
-/
namespace QhttpBridge.Slot
open Qhttp QhttpGen.Slot

/-- what an action of the translated `process` is in the model: the API calls made now -/
def now (s : Sock) : Sx.Act → List ApiOp
  | .err code => [.err code.toNat none]
  | .invoke m => SlotHandler.invoke m s
  | .defer _ => []

theorem process_eq (se : Sx.Env) (path : QStr) :
    QObjectHandler_process se [] path =
      (match SlotHandler.lookup se.regs path with
       | none => [Sx.Act.err 404]
       | some m => if !m.readAll || (Sock.bytesAvailable se.sock : Int) ≥ se.sock.total then [Sx.Act.invoke m] else [Sx.Act.defer m]) := by
  unfold QObjectHandler_process
  unfold_slot_helpers
  -- (`delta`, not `simp only`: the vocabulary words also occur inside the `Decidable` instances of the `if`s)
  delta Sx.mapContains Sx.mapValue Sx.bytesAvailable Sx.contentLength
  simp only [Sx.err, Sx.invoke, Sx.defer, List.nil_append]
  cases h : SlotHandler.lookup se.regs path with
  | none => simp
  | some m =>
    simp only [Option.isSome_some, Bool.not_true, Option.getD_some]
    by_cases hr : m.readAll = true <;> by_cases hb : se.sock.total ≤ (Sock.bytesAvailable se.sock : Int) <;>
      first | (simp [hr, hb]; done) | (simp_all; done) | (simp_all; omega) | grind

theorem process_onHp (se : Sx.Env) (path : QStr) :
    (QObjectHandler_process se [] path).flatMap (now se.sock) = SlotHandler.onHp se.regs path se.sock := by
  rw [process_eq]
  unfold SlotHandler.onHp
  cases h : SlotHandler.lookup se.regs path with
  | none => rfl
  | some m => simp only; split <;> simp_all [now]

/-- a deferred invocation is recorded for exactly the registration the model's `onRcf` will invoke -/
theorem process_defers (se : Sx.Env) (path : QStr) (m : SlotHandler.Reg)
    (h : Sx.Act.defer m ∈ QObjectHandler_process se [] path) :
    SlotHandler.lookup se.regs path = some m ∧ m.readAll = true := by
  rw [process_eq] at h
  cases hl : SlotHandler.lookup se.regs path with
  | none => simp [hl] at h
  | some m' =>
    simp only [hl] at h
    split at h
    · simp at h
    · rename_i hc
      simp only [List.mem_singleton, Sx.Act.defer.injEq] at h
      subst h
      refine ⟨rfl, ?_⟩
      cases hr : m.readAll <;> simp_all

end QhttpBridge.Slot
