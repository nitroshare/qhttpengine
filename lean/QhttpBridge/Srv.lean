import QhttpGen.Srv
/-
  Bridge: `Server::incomingConnection` as translated from /repo/src/src/server.cpp on this run is the two-mode gate of
  the model (`Tls.step … .connect`: `processed := !tls`): without a TLS configuration the plain socket is handed to
  `ServerPrivate::process` at once; with one, nothing is processed now — `process` is only connected to the TLS
  socket's `encrypted()` signal, an error deletes the socket, and the handshake is started with the configuration.
-/
namespace QhttpBridge.Srv
open Qhttp QhttpGen.Srv

theorem incomingConnection_eq (ve : Vx.Env) :
    Server_incomingConnection ve [] =
      if ve.tlsNull then [Vx.Act.newTcp, .setDescriptor, .process]
      else [Vx.Act.newSsl, .onEncryptedProcess, .onErrorDelete, .setDescriptor, .setConfig, .startEncryption] := by
  unfold Server_incomingConnection
  unfold_srv_helpers
  cases h : ve.tlsNull <;> simp [Vx.act]

theorem processes_now_iff (ve : Vx.Env) :
    (Vx.Act.process ∈ Server_incomingConnection ve []) ↔ ve.tlsNull = true := by
  rw [incomingConnection_eq]; cases ve.tlsNull <;> simp

theorem model_connect (tls : Bool) :
    (Tls.step { tls := tls } .connect).processed = decide (Vx.Act.process ∈ Server_incomingConnection { tlsNull := !tls } []) := by
  rw [incomingConnection_eq]; cases tls <;> simp [Tls.step]

/-- with a configuration, in this order: `encrypted()` connected, error deletes, handshake started -/
theorem tls_path (ve : Vx.Env) (h : ve.tlsNull = false) :
    Server_incomingConnection ve [] =
      [Vx.Act.newSsl, .onEncryptedProcess, .onErrorDelete, .setDescriptor, .setConfig, .startEncryption] := by
  rw [incomingConnection_eq, h]; rfl

end QhttpBridge.Srv
