import QhttpGen.Sock
import Qhttp.Lemmas.CxxLemmas
/-
  Bridge: the member functions of `SocketPrivate` and `Socket` as translated from
  /repo/src/src/socket.cpp on this run (`QhttpGen/Sock.lean`, by tools/cxx2lean_qt.py) ARE the
  functions of the hand-written model (`Qhttp/Model/Socket.lean`) that the theorems of
  C01-C04, C11, C18 and C19 are about.

  Every theorem is an equation between a translated function and the model's, for every state,
  every environment and every application.  Two statements carry a side condition, both on the
  one path where the model is knowingly coarser than the code (a request head that parses but whose
  target QUrl rejects: the C++ has stored method, raw target and headers by then, the model has
  not; no accessor is specified for a rejected request): see `readHeaders_eq`.
-/
namespace QhttpBridge.Sock
open Qhttp QhttpGen.Sock

/-! Facts about the vocabulary (`CxxPrim`) shared by the per-function bridge modules `QhttpBridge/Sock/*.lean`.
    One module per translated function: when a function is outside the translated subset on some tree, only the
    modules that mention it are skipped (tools/check.py), the others are still obligations. -/

theorem enum_codes :
    enumCodes = [("ReadHeaders", Cxx.rcode .headers), ("ReadData", Cxx.rcode .data), ("ReadFinished", Cxx.rcode .finished),
                 ("WriteNone", Cxx.wcode .none), ("WriteHeaders", Cxx.wcode .headers), ("WriteData", Cxx.wcode .data),
                 ("WriteFinished", Cxx.wcode .finished)] := rfl

theorem intText_natCast (n : Nat) : intText (n : Int) = natDigits n := by
  simp [intText]

theorem number_size (b : Bytes) : Cxx.number (Cxx.size b) = natDigits b.length := by
  simp [Cxx.number, Cxx.size, intText_natCast]

theorem foldl_append_each (f : Bytes × Bytes → Bytes) (m : HeaderMap) (acc : Bytes) :
    m.foldl (fun a e => a ++ f e) acc = acc ++ m.flatMap f := by
  induction m generalizing acc with
  | nil => simp
  | cons e m ih => simp [List.foldl_cons, ih, List.flatMap_cons, List.append_assoc]

theorem headerLines_flatMap (m : HeaderMap) :
    Sock.headerLines m = m.flatMap (fun e => e.1 ++ (58 :: 32 :: (e.2 ++ [13, 10]))) := by
  induction m with
  | nil => rfl
  | cons e m ih =>
    obtain ⟨k, v⟩ := e
    simp [Sock.headerLines, ih, List.flatMap_cons, COLON, SP, CRLF, List.append_assoc]

theorem count_eq_zero_iff (n : Bytes) (m : HeaderMap) : HeaderMap.count n m = 0 ↔ HeaderMap.contains n m = false := by
  simp only [HeaderMap.count, HeaderMap.values, HeaderMap.contains, List.length_map, List.length_eq_zero_iff,
    List.filter_eq_nil_iff, List.any_eq_false]

theorem lit_http : lit ['H','T','T','P','/','1','.','0',' '] = ([72, 84, 84, 80, 47, 49, 46, 48, 32] : Bytes) := by decide +kernel

theorem left_min (l : Bytes) (n : Nat) : Cxx.left l (min (Cxx.size l) (n : Int)) = l.take n := by
  rw [Cxx.min_size_natCast, Cxx.left_natCast, ← List.take_eq_take_min]

theorem removeAt_min (l : Bytes) (n : Nat) : Cxx.removeAt l 0 (min (Cxx.size l) (n : Int)) = l.drop n := by
  rw [Cxx.min_size_natCast, Cxx.removeAt_zero_natCast, ← List.drop_eq_drop_min]

theorem take_len_min (l : Bytes) (n : Nat) : ((l.take n).length : Int) = min (Cxx.size l) (n : Int) := by
  rw [Cxx.min_size_natCast, List.length_take]

theorem indexOf_none {rb d : Bytes} (h : breakOn d rb = none) : Cxx.indexOf rb d = -1 :=
  Cxx.indexOf_none h

theorem indexOf_some {rb d a r : Bytes} (h : breakOn d rb = some (a, r)) : Cxx.indexOf rb d = a.length :=
  Cxx.indexOf_some h

theorem left_some {rb d a r : Bytes} (h : breakOn d rb = some (a, r)) : Cxx.left rb (a.length : Int) = a :=
  Cxx.left_some h

theorem removeAt_some {rb a r : Bytes} (h : breakOn CRLF2 rb = some (a, r)) :
    Cxx.removeAt rb 0 ((a.length : Int) + 4) = r := by
  rw [show (a.length : Int) + 4 = ((a ++ CRLF2).length : Nat) from by simp [CRLF2], Cxx.removeAt_zero_natCast,
    breakOn_some h, List.drop_left' rfl]

theorem crlf2_lit : ([13, 10, 13, 10] : Bytes) = CRLF2 := rfl

theorem cl_lit : ([67, 111, 110, 116, 101, 110, 116, 45, 76, 101, 110, 103, 116, 104] : Bytes) = Sock.CONTENT_LENGTH_KEY := by decide +kernel

/-- no buffered head parses to a target that QUrl rejects -/
def NoBadUrl (env : Env) (s : Sock) : Prop :=
  ∀ head rest rh, breakOn CRLF2 s.readBuffer = some (head, rest) →
    Parser.parseRequestHeaders head s.reqHeaders = some rh → env.url rh.rawPath ≠ none

/-- the state in which `onReadyRead` looks at the buffer -/
def afterRead (s : Sock) : Sock :=
  let r := Cxx.tcpReadAll s
  { r.1 with readBuffer := r.1.readBuffer ++ r.2 }

theorem afterRead_eq (s : Sock) :
    afterRead s = (if s.tcp.devOpen then { s with readBuffer := s.readBuffer ++ s.tcp.inbox, tcp := { s.tcp with inbox := [] } } else s) := by
  unfold afterRead Cxx.tcpReadAll
  by_cases h : s.tcp.devOpen = true <;> simp [h]

theorem with_readBuffer_self (s : Sock) : ({ s with readBuffer := s.readBuffer } : Sock) = s := by cases s; rfl

end QhttpBridge.Sock
