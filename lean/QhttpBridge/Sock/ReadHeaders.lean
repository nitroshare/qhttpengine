import QhttpBridge.Sock.Base
import QhttpBridge.Sock.WriteError
namespace QhttpBridge.Sock
open Qhttp QhttpGen.Sock

theorem readHeaders_eq (env : Env) (app : App) (s : Sock)
    (hurl : ∀ head rest rh, breakOn CRLF2 s.readBuffer = some (head, rest) →
      Parser.parseRequestHeaders head s.reqHeaders = some rh → env.url rh.rawPath ≠ none) :
    SocketPrivate_readHeaders env app s = Sock.readHeaders env app s := by
  unfold SocketPrivate_readHeaders Sock.readHeaders
  unfold_gen_helpers
  simp only [crlf2_lit, cl_lit]
  cases hb : breakOn CRLF2 s.readBuffer with
  | none => simp [indexOf_none hb]
  | some p =>
    obtain ⟨head, rest⟩ := p
    -- however the code tests "not found" (== -1, < 0, …): the index is a length
    have hlen : (0 : Int) ≤ (head.length : Int) := by omega
    simp only [indexOf_some hb, left_some hb, removeAt_some hb]
    cases hp : Parser.parseRequestHeaders head s.reqHeaders with
    | none =>
      simp [Cxx.parseRequestHeaders, hp, writeError_eq, Cxx.viaQ, removeAt_some hb]
      all_goals grind
    | some rh =>
      cases hu : env.url rh.rawPath with
      | none => exact absurd hu (hurl head rest rh hb hp)
      | some pq =>
        obtain ⟨p, q⟩ := pq
        simp [Cxx.parseRequestHeaders, hp, Cxx.parsePath, hu, Cxx.emitHp, Cxx.size, Cxx.truncate, removeAt_some hb]
        all_goals grind

/-- the one path on which the model is coarser than the code, exactly: the head parses, QUrl rejects
    the target.  The code has stored the parsed method, raw target and header map before it answers
    400; the model answers 400 from the untouched state.  Everything else (the response, the close,
    the `disconnected` delivery) is the same call on both sides. -/
theorem readHeaders_badUrl (env : Env) (app : App) (s : Sock) (head rest : Bytes) (rh : Parser.ReqHead)
    (hb : breakOn CRLF2 s.readBuffer = some (head, rest))
    (hp : Parser.parseRequestHeaders head s.reqHeaders = some rh) (hu : env.url rh.rawPath = none) :
    SocketPrivate_readHeaders env app s =
      (Cxx.viaQ env app (Sock.writeError env { s with method := rh.method, rawPath := rh.rawPath, reqHeaders := rh.headers } 400 none), false) ∧
    Sock.readHeaders env app s = (Cxx.viaQ env app (Sock.writeError env s 400 none), false) := by
  constructor
  · unfold SocketPrivate_readHeaders
    unfold_gen_helpers
    have hlen : (0 : Int) ≤ (head.length : Int) := by omega
    simp only [crlf2_lit, indexOf_some hb, left_some hb, Cxx.parseRequestHeaders, hp, Cxx.parsePath, hu, if_true, writeError_eq]
    all_goals grind
  · unfold Sock.readHeaders
    simp only [hb, hp, hu, Cxx.viaQ]

end QhttpBridge.Sock
