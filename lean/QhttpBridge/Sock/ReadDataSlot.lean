import QhttpBridge.Sock.Base
namespace QhttpBridge.Sock
open Qhttp QhttpGen.Sock

theorem readDataSlot_eq (env : Env) (app : App) (s : Sock) :
    SocketPrivate_readData env app s = Sock.readDataSlot env app s := by
  unfold SocketPrivate_readData Sock.readDataSlot
  unfold_gen_helpers
  simp [Cxx.emitRr, Cxx.emitRcf, Cxx.size, Cxx.truncate]
  grind

end QhttpBridge.Sock
