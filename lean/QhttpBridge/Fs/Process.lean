import QhttpBridge.Fs.AbsolutePath
/-
  Bridge: `FilesystemHandler::process` as translated on this run takes the decision of the model's
  `FsHandler.plan`: 404 when the (twice decoded) path is not served, else a directory listing or a file transfer
  for the absolute name of the decoded path.
-/
namespace QhttpBridge.Fs
open Qhttp QhttpGen.Fs

theorem process_eq (fe : FsHandler.FsEnv) (path : Bytes) (hdrs : HeaderMap) :
    FilesystemHandler_process fe [] path =
      (match FsHandler.plan fe path hdrs with
       | .notFound => [Fx.Act.err 404]
       | .dir _ decoded => [Fx.Act.dir decoded (Fs.absoluteFilePath fe.root decoded)]
       | .file _ _ => [Fx.Act.file (Fs.absoluteFilePath fe.root (Fs.pctDecode path))]) := by
  unfold FilesystemHandler_process FsHandler.plan
  unfold_fs_helpers
  obtain ⟨h1, h2⟩ := absolutePath_eq fe (Fs.pctDecode path) []
  cases hs : Fs.served fe.tree fe.root (Fs.pctDecode path) with
  | none => simp [Fx.rootPath, Fx.err, h1, hs]
  | some loc =>
    have hr := served_loc fe (Fs.pctDecode path) loc hs
    cases hk : Fs.kindAt fe.tree loc with
    | none => simp [Fx.rootPath, Fx.dir, Fx.file, Fx.isDir, h1, h2, hs, hr, hk]
    | some k => cases k <;> simp [Fx.rootPath, Fx.dir, Fx.file, Fx.isDir, h1, h2, hs, hr, hk]

end QhttpBridge.Fs
