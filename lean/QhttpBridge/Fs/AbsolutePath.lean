import QhttpGen.Fs
/-
  Bridge: `FilesystemHandlerPrivate::absolutePath` as translated from /repo/src/src/filesystemhandler.cpp on this run
  is the model's containment decision `Fs.served` (C07's theorems are about the latter): it says yes exactly when
  `served` yields a location, and the absolute name it hands back is `QDir::absoluteFilePath(path)`.
-/
namespace QhttpBridge.Fs
open Qhttp QhttpGen.Fs

theorem dotdot_lit : ([46, 46] : Bytes) = Fs.DOTDOT := rfl
theorem dotdotslash_lit : ([46, 46, 47] : Bytes) = Fs.DOTDOTSLASH := rfl

/-- the model's decision as one boolean (a fact about the model alone) -/
theorem served_isSome (t : Fs.Tree) (root path : Bytes) :
    (Fs.served t root path).isSome =
      ((Fs.resolve t (Fs.absoluteFilePath root path)).isSome &&
        !(startsWith Fs.DOTDOTSLASH (Fs.relativeFilePath root path)) && !(Fs.relativeFilePath root path == Fs.DOTDOT)) := by
  unfold Fs.served
  simp only []
  split <;> rename_i h
  · simp [h]
  · cases h1 : startsWith Fs.DOTDOTSLASH (Fs.relativeFilePath root path) <;>
      cases h2 : (Fs.relativeFilePath root path == Fs.DOTDOT) <;> simp_all

theorem absolutePath_eq (fe : FsHandler.FsEnv) (path a0 : Bytes) :
    (FilesystemHandlerPrivate_absolutePath fe path a0).1 = (Fs.served fe.tree fe.root path).isSome ∧
    (FilesystemHandlerPrivate_absolutePath fe path a0).2 = Fs.absoluteFilePath fe.root path := by
  rw [served_isSome]
  unfold FilesystemHandlerPrivate_absolutePath
  unfold_fs_helpers
  simp only [dotdot_lit, dotdotslash_lit, Fx.exists]
  refine ⟨?_, ?_⟩ <;> grind

theorem served_loc (fe : FsHandler.FsEnv) (path : Bytes) (loc : List Bytes)
    (h : Fs.served fe.tree fe.root path = some loc) :
    Fs.resolve fe.tree (Fs.absoluteFilePath fe.root path) = some loc := by
  unfold Fs.served at h
  cases hr : Fs.resolve fe.tree (Fs.absoluteFilePath fe.root path) with
  | none => simp [hr] at h
  | some l => simp only [hr] at h; split at h <;> simp_all

end QhttpBridge.Fs
