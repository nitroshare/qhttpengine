import QhttpGen.Ph
/-
  Bridge: `ProxyHandler::process(socket, path)` as translated from /repo/src/src/proxyhandler.cpp on this run re-parents
  the socket to the handler and creates ONE ProxySocket for it, with the routed path exactly as it was handed in (the
  model's `Proxy.Cfg.path`: nothing is stripped from or added to it) and the configured upstream address and port.
-/
namespace QhttpBridge.Ph
open Qhttp QhttpGen.Ph

theorem process_eq (path : QStr) :
    ProxyHandler_process [] path = [Vx.PAct.reparent, Vx.PAct.newProxySocket path] := by
  unfold ProxyHandler_process
  simp [Vx.pact]

theorem one_proxy_socket (path : QStr) :
    (ProxyHandler_process [] path).filter (fun a => match a with | .newProxySocket _ => true | _ => false) =
      [Vx.PAct.newProxySocket path] := by
  rw [process_eq]; rfl

end QhttpBridge.Ph
