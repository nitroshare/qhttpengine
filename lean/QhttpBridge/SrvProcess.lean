import QhttpGen.Srv
import Qhttp.Model.Handler
/-
  Bridge: `ServerPrivate::process` as translated from /repo/src/src/server.cpp on this run creates the HTTP socket as a
  child of the server's private object, has `disconnected()` delete it, and connects to `headersParsed()` a lambda that
  is the model's `serverRoute`: with a root handler, `route(socket, path.mid(1))` — the decoded path without its first
  unit, exactly one unit —; without one, 500.  Nothing is routed at any other moment (the function itself calls neither).
-/
namespace QhttpBridge.SrvProcess
open Qhttp QhttpGen.Srv

/-- what the lambda must be: with a root handler `route(socket, path.mid(1))`, without one 500 -/
def lambdaBody (ve : Vx.Env) : List Vx.LAct := if ve.hasHandler then [Vx.LAct.route 1] else [Vx.LAct.err 500]

/-- the socket is created first; the two connections may come in either order; nothing else happens -/
theorem process_eq (ve : Vx.Env) :
    ∃ rest, ServerPrivate_process ve [] = Vx.Act.newHttp :: rest ∧ rest.length = 2 ∧
      Vx.Act.onDisconnectedDelete ∈ rest ∧ Vx.Act.onHeadersParsed (lambdaBody ve) ∈ rest := by
  unfold ServerPrivate_process lambdaBody
  unfold_srv_helpers
  cases h : ve.hasHandler <;> simp [Vx.act, Vx.lact]

/-- what the lambda does, read as the model's `serverRoute`: `some` = the root handler routes the path without its first
    unit, `none` = 500 -/
def lambdaMeaning (m : Matcher) (root : Option Node) (path : QStr) : List Vx.LAct → Option (List Act)
  | [.route n] => root.map fun r => route m r (path.drop n.toNat)
  | _ => none

theorem lambda_is_serverRoute (m : Matcher) (root : Option Node) (path : QStr) (ve : Vx.Env) (h : ve.hasHandler = root.isSome) :
    Vx.Act.onHeadersParsed (lambdaBody ve) ∈ ServerPrivate_process ve [] ∧
      lambdaMeaning m root path (lambdaBody ve) = serverRoute m root path := by
  obtain ⟨rest, e, _, _, hm⟩ := process_eq ve
  refine ⟨by rw [e]; exact List.mem_cons_of_mem _ hm, ?_⟩
  unfold serverRoute lambdaBody
  cases root with
  | none => simp at h; simp [h, lambdaMeaning]
  | some r => simp at h; simp [h, lambdaMeaning]

theorem deletes_on_disconnect (ve : Vx.Env) : Vx.Act.onDisconnectedDelete ∈ ServerPrivate_process ve [] := by
  obtain ⟨rest, e, _, hd, _⟩ := process_eq ve
  rw [e]; exact List.mem_cons_of_mem _ hd

theorem only_the_lambda_routes (ve : Vx.Env) :
    (ServerPrivate_process ve []).filter (fun a => match a with | .onHeadersParsed _ => true | _ => false) =
      [Vx.Act.onHeadersParsed (lambdaBody ve)] := by
  unfold ServerPrivate_process lambdaBody
  unfold_srv_helpers
  cases h : ve.hasHandler <;> simp [Vx.act, Vx.lact]

example : lambdaMeaning (fun _ _ => none) (some (Node.mk 0 [] [] Subs.nil false)) [47, 97] [Vx.LAct.route 1] =
    some [Act.process 0 [97]] := by decide +kernel

end QhttpBridge.SrvProcess
