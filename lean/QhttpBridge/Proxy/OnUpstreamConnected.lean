import QhttpBridge.Proxy.Base
/-
  Bridge: `ProxySocket::onUpstreamConnected` as translated on this run writes exactly the model's upstream request
  head (`Proxy.upstreamHead`, which C12's theorems are about) followed by the body bytes buffered so far, and marks the
  head as written — what the model's `turn` does when the connection attempt completes.  `fuel` bounds the loop over
  the X-Forwarded-For values; any fuel above their number gives the same.
-/
namespace QhttpBridge.Proxy
open Qhttp QhttpGen.Proxy

theorem xff_lit : ([88, 45, 70, 111, 114, 119, 97, 114, 100, 101, 100, 45, 70, 111, 114] : Bytes) = Proxy.XFF := by decide +kernel
theorem xri_lit : ([88, 45, 82, 101, 97, 108, 45, 73, 80] : Bytes) = Proxy.XRI := by decide +kernel

theorem nth_nat (l : List Bytes) (k : Nat) (h : k < l.length) : Cxx.nth l (k : Int) = l[k] := by
  simp [Cxx.nth, List.getD, h]

/-- the reverse loop over the X-Forwarded-For values: `for (i = n - 1; i >= 0; --i) combined += fwd.at(i) + ", "` -/
theorem xff_loop (fwd : List Bytes) :
    ∀ (k fuel : Nat) (combined : Bytes), k ≤ fwd.length → k + 1 ≤ fuel →
      (ProxySocket_onUpstreamConnected.go1 fwd fuel combined ((k : Int) - 1)).2.1
        = combined ++ ((fwd.take k).reverse.flatMap fun v => v ++ [44, 32]) := by
  intro k
  induction k with
  | zero =>
    intro fuel combined _ hf
    obtain ⟨f, rfl⟩ : ∃ f, fuel = f + 1 := ⟨fuel - 1, by omega⟩
    unfold ProxySocket_onUpstreamConnected.go1
    simp
  | succ k ih =>
    intro fuel combined hk hf
    obtain ⟨f, rfl⟩ : ∃ f, fuel = f + 1 := ⟨fuel - 1, by omega⟩
    unfold ProxySocket_onUpstreamConnected.go1
    have hidx : ((k + 1 : Nat) : Int) - 1 = (k : Int) := by omega
    have hk0 : (k : Int) ≥ 0 := by omega
    simp only [hidx, hk0, decide_true, if_true]
    rw [ih f _ (by omega) (by omega), nth_nat fwd k (by omega), List.take_add_one,
      List.getElem?_eq_getElem (by omega)]
    simp only [Option.toList_some, List.reverse_append, List.reverse_cons, List.reverse_nil, List.nil_append,
      List.flatMap_cons, List.append_assoc, List.cons_append]

theorem mid_query {raw a q : Bytes} (h : breakOn [63] raw = some (a, q)) :
    Cxx.mid raw (a.length : Int) (-1) = 63 :: q := by
  have e := breakOn_some h
  rw [Cxx.mid_rest raw a.length (by rw [e, List.append_assoc, List.length_append]; omega), e, List.append_assoc,
    List.drop_left' rfl]
  rfl

theorem foldl_upWrite (m : HeaderMap) (s : Proxy.St) :
    m.foldl (fun s e => ({ s with toUp := s.toUp ++ (e.1 ++ (58 :: 32 :: (e.2 ++ [13, 10]))) } : Proxy.St)) s
      = { s with toUp := s.toUp ++ Sock.headerLines m } := by
  induction m generalizing s with
  | nil => simp [Sock.headerLines]
  | cons e m ih =>
    obtain ⟨k, v⟩ := e
    rw [List.foldl_cons, ih]
    simp [Sock.headerLines, COLON, SP, CRLF, List.append_assoc]

theorem lit_http11 : ([32, 72, 84, 84, 80, 47, 49, 46, 49, 13, 10] : Bytes) = lit [' ','H','T','T','P','/','1','.','1'] ++ CRLF := by decide +kernel

/-- the model tests `contains`, the C++ `!contains` -/
theorem ite_eq_false_flip {α} (b : Bool) (x y : α) : (if b = false then x else y) = if b = true then y else x := by
  cases b <;> rfl

theorem onUpstreamConnected_eq (c : Proxy.Cfg) (s : Proxy.St) (fuel : Nat)
    (hf : (HeaderMap.values Proxy.XFF s.sock.reqHeaders).length + 1 ≤ fuel) :
    ProxySocket_onUpstreamConnected c s fuel =
      { s with headersWritten := true, toUp := s.toUp ++ Proxy.upstreamHead c s.sock ++ s.buf, buf := [] } := by
  unfold ProxySocket_onUpstreamConnected Proxy.upstreamHead Proxy.upstreamQuery Proxy.rawQuery
  unfold_proxy_helpers
  have hloop := xff_loop (HeaderMap.values Proxy.XFF s.sock.reqHeaders) (HeaderMap.values Proxy.XFF s.sock.reqHeaders).length fuel [] (Nat.le_refl _) hf
  simp only [List.take_length, List.nil_append] at hloop
  -- `Px.upWrite` goes first: every later `s` is then the given state with a longer `toUp`, and the request line
  -- is not copied into each use of `s.sock`
  simp only [Px.upWrite, xff_lit, xri_lit, Cxx.count, lit_http11, List.append_assoc, List.cons_append, List.nil_append]
  simp only [foldl_upWrite]
  have hpe : pctEncode Proxy.queryKeep [] = [] := by simp [pctEncode]
  cases hq : breakOn [63] s.sock.rawPath with
  | none =>
    simp only [indexOf_none hq, hpe]
    by_cases hbuf : s.buf = [] <;>
      simp [ite_eq_false_flip, hbuf, Cxx.size, List.append_assoc, hloop, SP, CRLF]
  | some p =>
    obtain ⟨a, q⟩ := p
    have hne : ((a.length : Int) ≠ -1) := by omega
    simp only [indexOf_some hq, mid_query hq]
    by_cases hbuf : s.buf = [] <;>
      simp [ite_eq_false_flip, hne, hbuf, Cxx.size, List.append_assoc, hloop, SP, CRLF]

end QhttpBridge.Proxy
