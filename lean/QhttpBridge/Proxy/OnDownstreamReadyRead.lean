import QhttpBridge.Proxy.Base
namespace QhttpBridge.Proxy
open Qhttp QhttpGen.Proxy

/-- request bytes go straight upstream once the request head was written, into `mUpstreamWrite` before -/
theorem onDownstreamReadyRead_eq (env : Env) (s : Proxy.St) (news : Bytes) :
    ProxySocket_onDownstreamReadyRead env s news =
      (if s.headersWritten then { s with toUp := s.toUp ++ news } else { s with buf := s.buf ++ news }) := by
  unfold ProxySocket_onDownstreamReadyRead
  unfold_proxy_helpers
  simp only [Px.upWrite]
  all_goals grind

/-- … which is what `Proxy.relayReads` does with the reads made since it last ran -/
theorem relayReads_eq (env : Env) (st : Proxy.St) (h : (st.conn == .none) = false) :
    Proxy.relayReads st =
      ProxySocket_onDownstreamReadyRead env { st with seenRd := (Proxy.rdsOf st.sock.log).length }
        (((Proxy.rdsOf st.sock.log).drop st.seenRd).flatten) := by
  rw [onDownstreamReadyRead_eq]
  unfold Proxy.relayReads
  simp [h]

end QhttpBridge.Proxy
