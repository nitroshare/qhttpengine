import QhttpGen.Proxy
import Qhttp.Lemmas.CxxLemmas
/-
  Bridge: the slots of `ProxySocket` translated from /repo/src/src/proxysocket.cpp on this run
  (`QhttpGen/Proxy.lean`) are the functions of the model `Qhttp/Model/Proxy.lean` that C13's and C12's
  theorems are about.

  One module per slot: `onUpstreamReadyRead_eq`, `onUpstreamError_eq` (the model additionally sets its ghost flag
  `errored`), `onDownstreamReadyRead_eq` (the branch `relayReads` takes for the bytes read during one socket event),
  `onUpstreamConnected_eq` (the upstream request head `Proxy.upstreamHead`, then the buffered body).
-/
namespace QhttpBridge.Proxy
open Qhttp QhttpGen.Proxy

theorem crlf2_lit : ([13, 10, 13, 10] : Bytes) = CRLF2 := rfl

theorem indexOf_none {rb d : Bytes} (h : breakOn d rb = none) : Cxx.indexOf rb d = -1 :=
  Cxx.indexOf_none h

theorem indexOf_some {rb d a r : Bytes} (h : breakOn d rb = some (a, r)) : Cxx.indexOf rb d = a.length :=
  Cxx.indexOf_some h

theorem left_some {rb d a r : Bytes} (h : breakOn d rb = some (a, r)) : Cxx.left rb (a.length : Int) = a :=
  Cxx.left_some h

theorem mid_some {rb a r : Bytes} (h : breakOn CRLF2 rb = some (a, r)) :
    Cxx.mid rb ((a.length : Int) + 4) (-1) = r := by
  have e := breakOn_some h
  have hl : (a ++ CRLF2).length ≤ rb.length := by rw [e, List.length_append (as := a ++ CRLF2)]; omega
  rw [show (a.length : Int) + 4 = ((a ++ CRLF2).length : Nat) from by simp [CRLF2], Cxx.mid_rest _ _ hl, e,
    List.drop_left' rfl]

end QhttpBridge.Proxy
